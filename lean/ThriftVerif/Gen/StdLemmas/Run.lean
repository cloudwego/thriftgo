import ThriftVerif.Gen.StdLemmas.Read
/-
  Gen/StdLemmas/Run: what the Read loop does with a list of decoded fields, as a relation: `Run rd defs ms s s'` takes the
  state `s` (field values, seen flags) to `s'`, one constructor per kind of iteration. Fields of unknown id may stand anywhere
  in the list (`Mixed`), and the order of fields with distinct ids does not matter.
-/
namespace Gen.Std
open Wire Gen

theorem read_step_skip (rd : Ty → Bytes → Option (GoVal × Bytes)) (defs : List FieldDef) (g id : Nat)
    (u : WVal) (rest : Bytes) (cur : List GoVal) (seen : List Bool) (hid : id < 256 ^ 2) (hwf : WF u) (hd : u.depth ≤ 64)
    (hne : ∀ j f, findField defs id = some (j, f) → f.ty.ttype.code ≠ u.ttype.code) :
    readFieldsWith rd defs (g + 1) (u.ttype.code :: (be 2 id ++ (encW u ++ rest))) cur seen =
      readFieldsWith rd defs g rest cur seen := by
  cases hf : findField defs id with
  | none => simp only [readFieldsWith, code_ne_zero, if_false, readN_be 2 id _ hid, hf, skipW_encW u rest hwf hd]
  | some jf =>
    simp only [readFieldsWith, code_ne_zero, if_false, readN_be 2 id _ hid, hf, hne _ _ hf, skipW_encW u rest hwf hd]

theorem read_step_read {rd : Ty → Bytes → Option (GoVal × Bytes)} {defs : List FieldDef} {g id j : Nat} {f : FieldDef}
    {w : WVal} {v : GoVal} (ms : List (Nat × WVal)) (rest : Bytes) (cur : List GoVal) (seen : List Bool) (hid : id < 256 ^ 2)
    (hf : findField defs id = some (j, f)) (htt : f.ty.ttype = w.ttype)
    (hrd : rd f.ty (encW w ++ (encFields ms ++ rest)) = some (v, encFields ms ++ rest)) :
    readFieldsWith rd defs (g + 1) (encFields ((id, w) :: ms) ++ rest) cur seen =
      readFieldsWith rd defs g (encFields ms ++ rest) (cur.set j v) (seen.set j true) := by
  simp only [encFields, List.append_assoc, List.cons_append, List.nil_append, readFieldsWith, code_ne_zero, if_false,
    readN_be 2 id _ hid, hf, htt, if_true, hrd]

/-- `Mixed defs ws ms`: the stream `ms` is the written fields `ws`, in order, with fields of unknown id in between
(each well-formed and within the protocol's Skip depth, 64) -/
inductive Mixed (defs : List FieldDef) : List (Nat × WVal) → List (Nat × WVal) → Prop
  | nil : Mixed defs [] []
  | known (x : Nat × WVal) (ws ms : List (Nat × WVal)) : Mixed defs ws ms → Mixed defs (x :: ws) (x :: ms)
  | unknown (id : Nat) (u : WVal) (ws ms : List (Nat × WVal)) : Mixed defs ws ms → id < 256 ^ 2 →
      findField defs id = none → WF u → u.depth ≤ 64 → Mixed defs ws ((id, u) :: ms)

theorem Mixed.refl (defs : List FieldDef) : ∀ ws, Mixed defs ws ws
  | [] => .nil
  | x :: ws => .known x ws ws (Mixed.refl defs ws)

theorem encFields_append : ∀ (a b : List (Nat × WVal)), encFields (a ++ b) = encFields a ++ encFields b
  | [], b => by simp [encFields]
  | (i, v) :: a, b => by simp [encFields, encFields_append a b]

/-- the plain loop (`Run.runs`) and the keep_unknown_fields loop (`Gen.Unknown.Run.ku`) both follow it -/
inductive Run (rd : Ty → Bytes → Option (GoVal × Bytes)) (defs : List FieldDef) :
    List (Nat × WVal) → List GoVal × List Bool → List GoVal × List Bool → Prop
  | nil (s) : Run rd defs [] s s
  | read {id w j f v ms s s'} : id < 256 ^ 2 → findField defs id = some (j, f) → f.ty.ttype = w.ttype →
      (∀ r, rd f.ty (encW w ++ r) = some (v, r)) → Run rd defs ms (s.1.set j v, s.2.set j true) s' →
      Run rd defs ((id, w) :: ms) s s'
  | skip {id u ms s s'} : id < 256 ^ 2 → WF u → u.depth ≤ 64 →
      (∀ j f, findField defs id = some (j, f) → f.ty.ttype.code ≠ u.ttype.code) → Run rd defs ms s s' →
      Run rd defs ((id, u) :: ms) s s'

theorem set_slot {α β} {p : List β} {xp : List α} (h : xp.length = p.length) (x y : α) (xs : List α) :
    (xp ++ x :: xs).set p.length y = xp ++ y :: xs := by
  rw [← h, List.set_append_right _ _ (Nat.le_refl _), Nat.sub_self, List.set_cons_zero]

namespace Run
variable {rd : Ty → Bytes → Option (GoVal × Bytes)} {defs : List FieldDef} {s s' : List GoVal × List Bool}

theorem runs {ms : List (Nat × WVal)} (h : Run rd defs ms s s') (g : Nat) (rest : Bytes) :
    readFieldsWith rd defs (g + ms.length) (encFields ms ++ rest) s.1 s.2 = readFieldsWith rd defs g rest s'.1 s'.2 := by
  induction h with
  | nil s => rfl
  | @read id w j f v ms s s' hid hf htt hrd _ ih => exact (read_step_read ms rest s.1 s.2 hid hf htt (hrd _)).trans ih
  | @skip id u ms s s' hid hwf hd hne _ ih =>
    rw [← ih]
    simp only [encFields, List.append_assoc, List.cons_append, List.nil_append]
    exact read_step_skip rd defs _ id u _ s.1 s.2 hid hwf hd hne

theorem of_mixed {ws ms : List (Nat × WVal)} (hm : Mixed defs ws ms) :
    ∀ {s : List GoVal × List Bool}, Run rd defs ws s s' → Run rd defs ms s s' := by
  induction hm with
  | nil => exact fun h => h
  | known x ws ms _ ih =>
    intro s h
    cases h with
    | read hid hf htt hrd h => exact .read hid hf htt hrd (ih h)
    | skip hid hwf hd hne h => exact .skip hid hwf hd hne (ih h)
  | unknown id u ws ms _ hid hnf hwf hd ih =>
    exact fun h => .skip hid hwf hd (fun _ _ e => nomatch hnf.symm.trans e) (ih h)

theorem perm {ms ms' : List (Nat × WVal)} (hp : ms.Perm ms') :
    (ms.map (·.1)).Nodup → ∀ {s s' : List GoVal × List Bool}, Run rd defs ms s s' → Run rd defs ms' s s' := by
  induction hp with
  | nil => exact fun _ _ _ h => h
  | cons x _ ih =>
    intro hnd s s' h
    have hnd' := (List.nodup_cons.1 hnd).2
    cases h with
    | read hid hf htt hrd h => exact .read hid hf htt hrd (ih hnd' h)
    | skip hid hwf hd hne h => exact .skip hid hwf hd hne (ih hnd' h)
  | swap x y l =>
    intro hnd s s' h
    have hxy : y.1 ≠ x.1 := fun e => (List.nodup_cons.1 hnd).1 (by simp [e])
    cases h with
    | skip hid hwf hd hne h =>
      cases h with
      | skip hid' hwf' hd' hne' h => exact .skip hid' hwf' hd' hne' (.skip hid hwf hd hne h)
      | read hid' hf' htt' hrd' h => exact .read hid' hf' htt' hrd' (.skip hid hwf hd hne h)
    | @read _ _ j _ v _ _ _ hid hf htt hrd h =>
      cases h with
      | skip hid' hwf' hd' hne' h => exact .skip hid' hwf' hd' hne' (.read hid hf htt hrd h)
      | @read _ _ j' _ v' _ _ _ hid' hf' htt' hrd' h =>
        have hj : j ≠ j' := fun e => hxy (findField_inj hf (e ▸ hf'))
        refine .read hid' hf' htt' hrd' (.read hid hf htt hrd ?_)
        simp only [] at h ⊢
        rwa [List.set_comm v' v hj.symm, List.set_comm true true hj.symm]
  | trans h1 _ ih1 ih2 => exact fun hnd _ _ h => ih2 ((h1.map _).nodup_iff.1 hnd) (ih1 hnd h)


theorem written {pre : List FieldDef} {f : FieldDef} {fs : List FieldDef} {w : WVal}
    {v' : GoVal} {ms : List (Nat × WVal)} {cpre : List GoVal} (c : GoVal) {cs : List GoVal} {spre : List Bool}
    (b : Bool) {bs : List Bool} {s'' : List GoVal × List Bool}
    (hnd : ((pre ++ f :: fs).map idOf).Nodup) (hcp : cpre.length = pre.length) (hsp : spre.length = pre.length)
    (htt : w.ttype = f.ty.ttype) (hrd : ∀ r, rd f.ty (encW w ++ r) = some (v', r))
    (h : Run rd (pre ++ f :: fs) ms (cpre ++ v' :: cs, spre ++ true :: bs) s'') :
    Run rd (pre ++ f :: fs) ((pat 16 f.id, w) :: ms) (cpre ++ c :: cs, spre ++ b :: bs) s'' := by
  refine .read (pat_lt_bytes pow256.2.1 f.id) (findField_append pre f fs hnd) htt.symm hrd ?_
  rw [set_slot hcp, set_slot hsp]
  exact h

end Run

/-- gas = input length + 1: every field takes at least one byte, one unit is left for STOP -/
theorem readFields_stop (rd : Ty → Bytes → Option (GoVal × Bytes)) (defs : List FieldDef) (ms : List (Nat × WVal))
    (r : Bytes) (init fs' : List GoVal) (seen seen' : List Bool)
    (hrun : Run rd defs ms (init, seen) (fs', seen')) (hro : requiredOk defs seen' = true) :
    readFieldsWith rd defs ((encFields ms ++ 0 :: r).length + 1) (encFields ms ++ 0 :: r) init seen = some (fs', r) := by
  have hle : ms.length ≤ (encFields ms ++ 0 :: r).length :=
    List.length_append ▸ Nat.le_trans (encFields_length ms) (Nat.le_add_right ..)
  obtain ⟨k, hk⟩ := Nat.exists_eq_add_of_le hle
  rw [hk, Nat.add_assoc, Nat.add_comm ms.length, hrun.runs]
  simp [readFieldsWith, hro]

theorem readTy_struct_of_loop (S : List StructDef) (i : Nat) (sd : StructDef) (f : Nat) (ms : List (Nat × WVal))
    (r : Bytes) (fs' : List GoVal) (seen' : List Bool) (hsd : S[i]? = some sd)
    (hrun : Run (readTy S f) sd.fields ms (initVals sd, sd.fields.map fun _ => false) (fs', seen'))
    (hro : requiredOk sd.fields seen' = true) :
    readTy S (f + 1) (.struct i) (encFields ms ++ 0 :: r) = some (.strct fs', r) := by
  simp only [readTy, hsd, newX_eq, readFields_stop _ _ ms r _ fs' _ seen' hrun hro, Option.map_some]

end Gen.Std
