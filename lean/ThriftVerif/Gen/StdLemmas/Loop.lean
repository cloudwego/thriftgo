import ThriftVerif.Gen.StdLemmas.Run
/-
  Gen/StdLemmas/Loop: the Read loop on the fields `toWFields` wrote, given a round trip for the value of each field: a written
  field comes back into its own slot as a value that is written as the same wire value again, a field left out keeps its initial
  value. With ONE read-back value for all continuations (`RTu`) this is a `Run` on every stream that has unknown-id fields in
  between (`Mixed`), also under a mask of the fields the writer knew (`Gen.Evolve`).
-/
namespace Gen.Std
open Wire Gen

theorem goEq_nil_right (a : GoVal) : goEq a .nil = true ↔ a = .nil := by
  cases a <;> simp [goEq]

def Unset : List FieldDef → List GoVal → Prop
  | f :: fs, c :: cs => (f.req = .optional → isSet f c = false) ∧ Unset fs cs
  | _, _ => True

theorem unset_nonopt (defs : List FieldDef) (init : List GoVal) (h : ∀ f ∈ defs, f.req ≠ .optional) : Unset defs init := by
  fun_induction Unset defs init with
  | case1 f fs c cs ih => exact ⟨fun e => absurd e (h f List.mem_cons_self), ih fun g hg => h g (List.mem_cons_of_mem _ hg)⟩
  | case2 => trivial

def ReqSeen : List FieldDef → List Bool → Prop
  | f :: fs, b :: bs => (f.req = .required → b = true) ∧ ReqSeen fs bs
  | _, _ => True

/-- the weak form of `RTu` below (`∃ v'` inside `∀ r`); only `loop_rt` is stated with it -/
def RTv (P : Prog) (rd : Ty → Bytes → Option (GoVal × Bytes)) (dmax : Nat) (ty : Ty) (v : GoVal) : Prop :=
  ∀ w, WT P.structs ty v → toW P ty v = .ok w → w.depth ≤ dmax → ∀ r, ∃ v', rd ty (encW w ++ r) = some (v', r) ∧ toW P ty v' = .ok w ∧
    v' ≠ .nil ∧ (ty.isBase → v ≠ .nil → v' = v)

def IHs (P : Prog) (rd : Ty → Bytes → Option (GoVal × Bytes)) (dmax : Nat) : List FieldDef → List GoVal → Prop
  | f :: fs, v :: vs => RTv P rd dmax f.ty v ∧ IHs P rd dmax fs vs
  | _, _ => True

def DfltOpt (f : FieldDef) : Prop := f.req = .optional → f.dflt.isSome = true → f.ty.isBase = true

theorem written_back {P : Prog} {f : FieldDef} {v v' : GoVal} {w : WVal}
    (hc : ¬ (decide (f.req = .optional) && !isSet f v) = true) (h1 : toW P f.ty v = .ok w)
    (h2 : toW P f.ty v' = .ok w) (hn : v' ≠ .nil) (hid : f.ty.isBase = true → v ≠ .nil → v' = v) :
    ¬ (decide (f.req = .optional) && !isSet f v') = true := by
  by_cases ho : f.req = .optional
  · have hsv : isSet f v = true := by simpa [ho] using hc
    suffices isSet f v' = true by simp [this]
    have hnn : (!goEq v' .nil) = true := by
      rw [Bool.not_eq_true', Bool.eq_false_iff]
      exact mt (goEq_nil_right v').mp hn
    -- cases of isSet: a base type with a default, compared with it; a default of another type; no default
    fun_cases isSet f v' with
    | case1 d hdf hb =>
      simp only [isSet, hdf, hb, if_true] at hsv
      by_cases hv : v = .nil
      · -- only a nil `binary` is written from nil, as the empty string; it comes back as `[]`, and the
        -- comparison with the default treats `[]` like nil
        subst hv
        rw [toW_base P f.ty _ hb, Res.ofOption_eq_ok] at h1 h2
        cases hty : f.ty <;> rw [hty] at h1 h2 hsv <;> simp [scalarW] at h1
        subst h1
        cases v' <;> simp [scalarW] at h2
        · exact absurd rfl hn
        · subst h2; exact hsv
      · rw [hid hb hv]; exact hsv
    | case2 => exact hnn
    | case3 => exact hnn
  · simp [ho]

/-- the Read loop on the written fields alone, for a reader whose read-back value may depend on the continuation (`IHs`):
a theorem in its own right beside the `Run` treatment, which asks for one value for all continuations (`IHu`) -/
theorem loop_rt (P : Prog) (rd : Ty → Bytes → Option (GoVal × Bytes)) (dmax : Nat) :
    ∀ (suf : List FieldDef) (svs : List GoVal) (ws : List (Nat × WVal)),
      toWFields P suf svs = .ok ws → depthFields ws ≤ dmax → IHs P rd dmax suf svs → WTFields P.structs suf svs → (∀ f ∈ suf, DfltOpt f) →
      ∀ (pre : List FieldDef) (cpre csuf : List GoVal) (spre ssuf : List Bool) (gas : Nat) (rest : Bytes),
        ((pre ++ suf).map idOf).Nodup → cpre.length = pre.length → spre.length = pre.length →
        csuf.length = suf.length → ssuf.length = suf.length → ws.length < gas → Unset suf csuf →
        ∃ csuf' ssuf', csuf'.length = suf.length ∧ ssuf'.length = suf.length ∧
          readFieldsWith rd (pre ++ suf) gas (encFields ws ++ rest) (cpre ++ csuf) (spre ++ ssuf)
            = readFieldsWith rd (pre ++ suf) (gas - ws.length) rest (cpre ++ csuf') (spre ++ ssuf') ∧
          toWFields P suf csuf' = .ok ws ∧ ReqSeen suf ssuf' := by
  intro suf
  induction suf with
  | nil =>
    intro svs ws h _ _ _ _ pre cpre csuf spre ssuf gas rest _ _ _ hc hs _ _
    cases svs with
    | cons v vs => cases h
    | nil =>
      cases h
      cases List.eq_nil_of_length_eq_zero hc
      cases List.eq_nil_of_length_eq_zero hs
      exact ⟨[], [], rfl, rfl, rfl, rfl, trivial⟩
  | cons f fs ih =>
    intro svs ws h hdep hih hwt hdo pre cpre csuf spre ssuf gas rest hnd hcp hsp hc hs hg hun
    cases svs with
    | nil => cases h
    | cons v vs =>
    cases csuf with
    | nil => cases hc
    | cons c cs =>
    cases ssuf with
    | nil => cases hs
    | cons b bs =>
    have hnd' : ((pre ++ [f] ++ fs).map idOf).Nodup := by simpa using hnd
    by_cases hcond : (decide (f.req = .optional) && !isSet f v) = true
    · rw [toWFields_skipped hcond] at h
      have ho : f.req = .optional := of_decide_eq_true (Bool.and_eq_true _ _ ▸ hcond).1
      obtain ⟨csuf', ssuf', hl1, hl2, hrun, htw, hrs⟩ :=
        ih vs ws h hdep hih.2 hwt.2.2.2 (fun g hg => hdo g (List.mem_cons_of_mem _ hg)) (pre ++ [f]) (cpre ++ [c]) cs
          (spre ++ [b]) bs gas rest hnd' (by simp [hcp]) (by simp [hsp]) (Nat.succ.inj hc) (Nat.succ.inj hs) hg hun.2
      simp only [List.append_assoc, List.singleton_append] at hrun
      refine ⟨c :: csuf', b :: ssuf', congrArg (· + 1) hl1, congrArg (· + 1) hl2, hrun, ?_,
        ⟨fun e => Req.noConfusion (ho.symm.trans e), hrs⟩⟩
      rw [toWFields_skipped (by simp [ho, hun.1 ho])]
      exact htw
    · obtain ⟨w, hw, ws', hws', rfl⟩ := (toWFields_written_ok hcond).mp h
      have hwtv := WT_of_written hwt hcond
      obtain ⟨_, htt⟩ := toW_WF P v f.ty w hwtv hw
      cases gas with
      | zero => cases hg
      | succ g =>
      obtain ⟨hdw, hdep'⟩ := Nat.max_le.mp hdep
      obtain ⟨v', hrd, htw', hnn, hidv⟩ := hih.1 w hwtv hw hdw (encFields ws' ++ rest)
      obtain ⟨csuf', ssuf', hl1, hl2, hrun, htw, hrs⟩ :=
        ih vs ws' hws' hdep' hih.2 hwt.2.2.2 (fun g hg => hdo g (List.mem_cons_of_mem _ hg)) (pre ++ [f])
          (cpre ++ [v']) cs (spre ++ [true]) bs g rest hnd' (by simp [hcp]) (by simp [hsp]) (Nat.succ.inj hc)
          (Nat.succ.inj hs) (Nat.lt_of_succ_lt_succ hg) hun.2
      simp only [List.append_assoc, List.singleton_append] at hrun
      refine ⟨v' :: csuf', true :: ssuf', congrArg (· + 1) hl1, congrArg (· + 1) hl2, ?_, ?_, ⟨fun _ => rfl, hrs⟩⟩
      · rw [read_step_read ws' rest _ _ (pat_lt_bytes pow256.2.1 f.id) (findField_append pre f fs hnd) htt.symm hrd,
          set_slot hcp, set_slot hsp, hrun, List.length_cons, Nat.add_sub_add_right]
      · exact (toWFields_written_ok (written_back hcond hw htw' hnn hidv)).mpr
          ⟨w, htw', ws', htw, rfl⟩

theorem requiredOk_of_ReqSeen (defs : List FieldDef) (seen : List Bool) (h : ReqSeen defs seen) :
    requiredOk defs seen = true := by
  fun_induction requiredOk defs seen with
  | case1 f fs b bs ih => exact (requiredOk_cons f fs b bs).mpr ⟨h.1, ih h.2⟩
  | case2 => rfl

def RTu (P : Prog) (rd : Ty → Bytes → Option (GoVal × Bytes)) (dmax : Nat) (ty : Ty) (v : GoVal) : Prop :=
  ∀ w, WT P.structs ty v → toW P ty v = .ok w → w.depth ≤ dmax → ∃ v', (∀ r, rd ty (encW w ++ r) = some (v', r)) ∧
    toW P ty v' = .ok w ∧ v' ≠ .nil ∧ (ty.isBase → v ≠ .nil → v' = v)

def IHu (P : Prog) (rd : Ty → Bytes → Option (GoVal × Bytes)) (dmax : Nat) : List FieldDef → List GoVal → Prop
  | f :: fs, v :: vs => RTu P rd dmax f.ty v ∧ IHu P rd dmax fs vs
  | _, _ => True

end Gen.Std

/-! `proj mask` / `added mask`: the fields the writer knew / did not know (schema evolution, `Gen/Evolve`).
`loop_run_mixed` below is the case "all fields known". -/
namespace Gen.Evolve
open Wire Gen Gen.Std

def proj {α} : List Bool → List α → List α
  | true :: m, x :: xs => x :: proj m xs
  | false :: m, _ :: xs => proj m xs
  | _, _ => []

def added {α} : List Bool → List α → List α
  | true :: m, _ :: xs => added m xs
  | false :: m, x :: xs => x :: added m xs
  | _, _ => []

theorem loop_rt_sub (P : Prog) (rd : Ty → Bytes → Option (GoVal × Bytes)) (dmax : Nat) :
    ∀ (mask : List Bool) (suf : List FieldDef) (ovs : List GoVal) (ws : List (Nat × WVal)),
      mask.length = suf.length →
      toWFields P (proj mask suf) ovs = .ok ws → depthFields ws ≤ dmax → IHu P rd dmax (proj mask suf) ovs →
      WTFields P.structs (proj mask suf) ovs → (∀ f ∈ suf, DfltOpt f) →
      ∀ (pre : List FieldDef) (cpre csuf : List GoVal) (spre ssuf : List Bool),
        ((pre ++ suf).map idOf).Nodup → cpre.length = pre.length → spre.length = pre.length →
        csuf.length = suf.length → ssuf.length = suf.length → Unset (proj mask suf) (proj mask csuf) →
        ∃ csuf' ssuf', csuf'.length = suf.length ∧ ssuf'.length = suf.length ∧
          toWFields P (proj mask suf) (proj mask csuf') = .ok ws ∧ ReqSeen (proj mask suf) (proj mask ssuf') ∧
          added mask csuf' = added mask csuf ∧
          ∀ (ms : List (Nat × WVal)), Mixed (pre ++ suf) ws ms →
            Run rd (pre ++ suf) ms (cpre ++ csuf, spre ++ ssuf) (cpre ++ csuf', spre ++ ssuf') := by
  intro mask
  induction mask with
  | nil =>
    intro suf ovs ws hl h _ _ _ _ pre cpre csuf spre ssuf _ _ _ hc hs _
    cases List.eq_nil_of_length_eq_zero hl.symm
    cases List.eq_nil_of_length_eq_zero hc
    cases List.eq_nil_of_length_eq_zero hs
    cases ovs with
    | cons v vs => cases h
    | nil =>
      cases h
      exact ⟨[], [], rfl, rfl, rfl, trivial, rfl, fun ms hm => .of_mixed hm (.nil _)⟩
  | cons bit m ih =>
    intro suf ovs ws hl h hdep hih hwt hdo pre cpre csuf spre ssuf hnd hcp hsp hc hs hun
    cases suf with
    | nil => cases hl
    | cons f fs =>
    cases csuf with
    | nil => cases hc
    | cons c cs =>
    cases ssuf with
    | nil => cases hs
    | cons b bs =>
    have hnd' : ((pre ++ [f] ++ fs).map idOf).Nodup := by simpa using hnd
    have hdo' : ∀ g ∈ fs, DfltOpt g := fun g hg => hdo g (List.mem_cons_of_mem _ hg)
    cases bit with
    | false =>
      obtain ⟨csuf', ssuf', hl1, hl2, htw, hrs, ha1, hrun⟩ :=
        ih fs ovs ws (Nat.succ.inj hl) h hdep hih hwt hdo' (pre ++ [f]) (cpre ++ [c]) cs (spre ++ [b]) bs hnd'
          (by simp [hcp]) (by simp [hsp]) (Nat.succ.inj hc) (Nat.succ.inj hs) hun
      simp only [List.append_assoc, List.singleton_append] at hrun
      exact ⟨c :: csuf', b :: ssuf', congrArg (· + 1) hl1, congrArg (· + 1) hl2, htw, hrs,
        congrArg (c :: ·) ha1, hrun⟩
    | true =>
      cases ovs with
      | nil => cases h
      | cons v vs =>
      dsimp only [proj, added] at h hih hwt hun ⊢
      by_cases hcond : (decide (f.req = .optional) && !isSet f v) = true
      · rw [toWFields_skipped hcond] at h
        have ho : f.req = .optional := of_decide_eq_true (Bool.and_eq_true _ _ ▸ hcond).1
        obtain ⟨csuf', ssuf', hl1, hl2, htw, hrs, ha1, hrun⟩ :=
          ih fs vs ws (Nat.succ.inj hl) h hdep hih.2 hwt.2.2.2 hdo' (pre ++ [f]) (cpre ++ [c]) cs (spre ++ [b]) bs hnd'
            (by simp [hcp]) (by simp [hsp]) (Nat.succ.inj hc) (Nat.succ.inj hs) hun.2
        simp only [List.append_assoc, List.singleton_append] at hrun
        refine ⟨c :: csuf', b :: ssuf', congrArg (· + 1) hl1, congrArg (· + 1) hl2, ?_,
          ⟨fun e => Req.noConfusion (ho.symm.trans e), hrs⟩, ha1, hrun⟩
        rw [proj, toWFields_skipped (by simp [ho, hun.1 ho])]
        exact htw
      · obtain ⟨w, hw, ws', hws', rfl⟩ := (toWFields_written_ok hcond).mp h
        have hwtv := WT_of_written hwt hcond
        obtain ⟨_, htt⟩ := toW_WF P v f.ty w hwtv hw
        obtain ⟨hdw, hdep'⟩ := Nat.max_le.mp hdep
        obtain ⟨v', hrd, htw', hnn, hidv⟩ := hih.1 w hwtv hw hdw
        obtain ⟨csuf', ssuf', hl1, hl2, htw, hrs, ha1, hrun⟩ :=
          ih fs vs ws' (Nat.succ.inj hl) hws' hdep' hih.2 hwt.2.2.2 hdo' (pre ++ [f]) (cpre ++ [v']) cs
            (spre ++ [true]) bs hnd' (by simp [hcp]) (by simp [hsp]) (Nat.succ.inj hc) (Nat.succ.inj hs) hun.2
        simp only [List.append_assoc, List.singleton_append] at hrun
        refine ⟨v' :: csuf', true :: ssuf', congrArg (· + 1) hl1, congrArg (· + 1) hl2,
          (toWFields_written_ok (written_back hcond hw htw' hnn hidv)).mpr
            ⟨w, htw', ws', htw, rfl⟩,
          ⟨fun _ => rfl, hrs⟩, ha1, fun ms hm => .of_mixed hm (.written c b hnd hcp hsp htt hrd (hrun ws' (.refl _ ws')))⟩

theorem proj_all {α β} : ∀ (m : List β) (xs : List α), xs.length = m.length → proj (m.map fun _ => true) xs = xs
  | [], [], _ => rfl
  | _ :: m, x :: xs, h => congrArg (x :: ·) (proj_all m xs (Nat.succ.inj h))

theorem proj_not {α} : ∀ (m : List Bool) (l : List α), proj (m.map (!·)) l = added m l
  | [], _ => rfl
  | true :: _, [] => rfl
  | false :: _, [] => rfl
  | true :: m, _ :: xs => proj_not m xs
  | false :: m, x :: xs => congrArg (x :: ·) (proj_not m xs)

theorem added_not {α} (m : List Bool) (l : List α) : added (m.map (!·)) l = proj m l := by
  rw [← proj_not, List.map_map, show ((!·) ∘ (!·) : Bool → Bool) = id from funext Bool.not_not, List.map_id]

theorem mem_proj {α} (m : List Bool) (l : List α) (x : α) (h : x ∈ proj m l) : x ∈ l := by
  fun_induction proj m l with
  | case1 m y ys ih => exact (List.mem_cons.1 h).elim (fun e => e ▸ List.mem_cons_self) fun h' => List.mem_cons_of_mem _ (ih h')
  | case2 m y ys ih => exact List.mem_cons_of_mem _ (ih h)
  | case3 => cases h

theorem mem_added {α} (m : List Bool) (l : List α) (x : α) (h : x ∈ added m l) : x ∈ l := by
  rw [← proj_not] at h; exact mem_proj _ l x h

theorem WTFields_proj (S : List StructDef) : ∀ (mask : List Bool) (new : List FieldDef) (vs : List GoVal),
    mask.length = new.length → WTFields S new vs → WTFields S (proj mask new) (proj mask vs)
  | [], _, _, _, _ => trivial
  | _ :: _, [], _, hl, _ => nomatch hl
  | _ :: _, _ :: _, [], _, h => h.elim
  | true :: m, _ :: fs, _ :: vs, hl, h => ⟨h.1, h.2.1, h.2.2.1, WTFields_proj S m fs vs (Nat.succ.inj hl) h.2.2.2⟩
  | false :: m, _ :: fs, _ :: vs, hl, h => WTFields_proj S m fs vs (Nat.succ.inj hl) h.2.2.2

theorem Unset_proj (mask : List Bool) (defs : List FieldDef) (cs : List GoVal) (h : Unset defs cs) :
    Unset (proj mask defs) (proj mask cs) := by
  fun_induction proj mask defs generalizing cs with
  | case1 m f fs ih =>
    cases cs with
    | nil => trivial
    | cons c cs => exact ⟨h.1, ih cs h.2⟩
  | case2 m f fs ih =>
    cases cs with
    | nil => cases proj m fs <;> trivial
    | cons c cs => exact ih cs h.2
  | case3 => trivial

end Gen.Evolve

namespace Gen.Std
open Wire Gen

theorem loop_run_mixed (P : Prog) (rd : Ty → Bytes → Option (GoVal × Bytes)) (dmax : Nat) :
    ∀ (suf : List FieldDef) (svs : List GoVal) (ws : List (Nat × WVal)),
      toWFields P suf svs = .ok ws → depthFields ws ≤ dmax → IHu P rd dmax suf svs →
      WTFields P.structs suf svs → (∀ f ∈ suf, DfltOpt f) →
      ∀ (pre : List FieldDef) (cpre csuf : List GoVal) (spre ssuf : List Bool),
        ((pre ++ suf).map idOf).Nodup → cpre.length = pre.length → spre.length = pre.length →
        csuf.length = suf.length → ssuf.length = suf.length → Unset suf csuf →
        ∃ csuf' ssuf', csuf'.length = suf.length ∧ ssuf'.length = suf.length ∧
          toWFields P suf csuf' = .ok ws ∧ ReqSeen suf ssuf' ∧
          ∀ (ms : List (Nat × WVal)), Mixed (pre ++ suf) ws ms →
            Run rd (pre ++ suf) ms (cpre ++ csuf, spre ++ ssuf) (cpre ++ csuf', spre ++ ssuf') := by
  intro suf svs ws h hdep hih hwt hdo pre cpre csuf spre ssuf hnd hcp hsp hc hs hun
  have hall {α} (xs : List α) := Evolve.proj_all suf xs
  have hsub := Evolve.loop_rt_sub P rd dmax (suf.map fun _ => true) suf svs ws (List.length_map ..)
  rw [hall suf rfl] at hsub
  obtain ⟨csuf', ssuf', hl1, hl2, htw, hrs, _, hrun⟩ :=
    hsub h hdep hih hwt hdo pre cpre csuf spre ssuf hnd hcp hsp hc hs (by rwa [hall csuf hc])
  rw [hall csuf' hl1] at htw
  rw [hall ssuf' hl2] at hrs
  exact ⟨csuf', ssuf', hl1, hl2, htw, hrs, hrun⟩

theorem loop_rt_mixed (P : Prog) (rd : Ty → Bytes → Option (GoVal × Bytes)) (dmax : Nat) :
    ∀ (suf : List FieldDef) (svs : List GoVal) (ws : List (Nat × WVal)),
      toWFields P suf svs = .ok ws → depthFields ws ≤ dmax → IHu P rd dmax suf svs →
      WTFields P.structs suf svs → (∀ f ∈ suf, DfltOpt f) →
      ∀ (pre : List FieldDef) (cpre csuf : List GoVal) (spre ssuf : List Bool),
        ((pre ++ suf).map idOf).Nodup → cpre.length = pre.length → spre.length = pre.length →
        csuf.length = suf.length → ssuf.length = suf.length → Unset suf csuf →
        ∃ csuf' ssuf', csuf'.length = suf.length ∧ ssuf'.length = suf.length ∧
          toWFields P suf csuf' = .ok ws ∧ ReqSeen suf ssuf' ∧
          ∀ (ms : List (Nat × WVal)) (gas : Nat) (rest : Bytes), Mixed (pre ++ suf) ws ms → ms.length < gas →
            readFieldsWith rd (pre ++ suf) gas (encFields ms ++ rest) (cpre ++ csuf) (spre ++ ssuf)
              = readFieldsWith rd (pre ++ suf) (gas - ms.length) rest (cpre ++ csuf') (spre ++ ssuf') := by
  intro suf svs ws h hdep hih hwt hdo pre cpre csuf spre ssuf hnd hcp hsp hc hs hun
  obtain ⟨csuf', ssuf', hl1, hl2, htw, hrs, hrun⟩ :=
    loop_run_mixed P rd dmax suf svs ws h hdep hih hwt hdo pre cpre csuf spre ssuf hnd hcp hsp hc hs hun
  refine ⟨csuf', ssuf', hl1, hl2, htw, hrs, fun ms gas rest hm hg => ?_⟩
  rw [← (hrun ms hm).runs (gas - ms.length) rest, Nat.sub_add_cancel (Nat.le_of_lt hg)]

end Gen.Std
