import ThriftVerif.Gen.StdLemmas.Write
/-
  Gen/StdLemmas/Read: the generated Read of `Gen.Std` taken apart, on bytes and on `encW` of a wire value, `toW` not yet in
  sight: what a successful read consists of, and that it stays the same when more input follows.
-/
namespace Gen.Std
open Wire Gen

theorem findField_go_eq_none {id : Nat} {defs : List FieldDef} {k : Nat} :
    findField.go id defs k = none ↔ id ∉ defs.map idOf := by
  fun_induction findField.go id defs k
  case case1 => exact iff_of_true rfl nofun
  case case2 e => exact iff_of_false nofun fun h => h (e ▸ List.mem_cons_self)
  case case3 e ih =>
    rw [ih, List.map_cons, List.mem_cons, not_or]
    exact (and_iff_right (Ne.symm e)).symm

theorem findField_go_eq_some {id : Nat} {defs : List FieldDef} {k j : Nat} {f : FieldDef} :
    findField.go id defs k = some (j, f) ↔
      ∃ pre suf, defs = pre ++ f :: suf ∧ j = k + pre.length ∧ idOf f = id ∧ ∀ g ∈ pre, idOf g ≠ id := by
  fun_induction findField.go id defs k
  case case1 => exact iff_of_false nofun fun ⟨pre, _, h, _⟩ => by cases pre <;> cases h
  case case2 g fs k e =>
    constructor
    · intro h
      cases h
      exact ⟨[], fs, rfl, rfl, e, nofun⟩
    · rintro ⟨pre, suf, h1, rfl, -, h4⟩
      cases pre with
      | nil =>
        cases h1
        rfl
      | cons g' pre =>
        cases h1
        exact absurd e (h4 g List.mem_cons_self)
  case case3 g fs k e ih =>
    rw [ih]
    constructor
    · rintro ⟨pre, suf, rfl, rfl, h3, h4⟩
      exact ⟨g :: pre, suf, rfl, Nat.add_right_comm .., h3, List.forall_mem_cons.2 ⟨e, h4⟩⟩
    · rintro ⟨pre, suf, h1, rfl, h3, h4⟩
      cases pre with
      | nil =>
        cases h1
        exact absurd h3 e
      | cons g' pre =>
        cases h1
        exact ⟨pre, suf, rfl, Nat.add_right_comm k pre.length 1, h3, fun x hx => h4 x (List.mem_cons_of_mem _ hx)⟩

theorem findField_append (pre : List FieldDef) (f : FieldDef) (fs : List FieldDef)
    (h : ((pre ++ f :: fs).map idOf).Nodup) :
    findField (pre ++ f :: fs) (idOf f) = some (pre.length, f) := by
  rw [List.map_append, List.nodup_append] at h
  exact findField_go_eq_some.2 ⟨pre, fs, rfl, (Nat.zero_add _).symm, rfl,
    fun g hg e => h.2.2 (idOf g) (List.mem_map_of_mem hg) (idOf f) List.mem_cons_self e⟩

theorem findField_none (defs : List FieldDef) (id : Nat) (h : id ∉ defs.map idOf) : findField defs id = none :=
  findField_go_eq_none.2 h

theorem findField_some_of_mem (defs : List FieldDef) (id : Nat) (h : id ∈ defs.map idOf) :
    ∃ j f, findField defs id = some (j, f) := by
  cases hf : findField defs id with
  | none => exact absurd h (findField_go_eq_none.1 hf)
  | some p => exact ⟨p.1, p.2, rfl⟩

theorem findField_inj {defs : List FieldDef} {a b j : Nat} {f g : FieldDef}
    (ha : findField defs a = some (j, f)) (hb : findField defs b = some (j, g)) : a = b := by
  obtain ⟨p, s, h1, h2, h3, -⟩ := findField_go_eq_some.1 ha
  obtain ⟨p', s', h1', h2', h3', -⟩ := findField_go_eq_some.1 hb
  cases (List.append_inj (h1.symm.trans h1') (by omega)).2
  exact h3.symm.trans h3'

theorem code_ne_zero (t : TType) : t.code ≠ 0 := Nat.pos_iff_ne_zero.mp (TType.code_pos t)

theorem skipW_encW (u : WVal) (rest : Bytes) (h : WF u) (hd : u.depth ≤ 64) :
    skipW u.ttype.code (encW u ++ rest) = some rest := by
  simp [skipW, TType.ofCode_code, decW_encW u 64 rest h hd]

def initVals (sd : StructDef) : List GoVal :=
  sd.fields.map fun f => match f.dflt with
    | some d => d
    | none => zeroOf f.req f.ty

theorem newX_eq (sd : StructDef) : newX sd = .strct (initVals sd) := rfl

theorem initVals_length (sd : StructDef) : (initVals sd).length = sd.fields.length := List.length_map ..

theorem readTy_base (S : List StructDef) (f : Nat) (ty : Ty) (bs : Bytes) (hb : ty.isBase = true) :
    readTy S (f + 1) ty bs = readScalar ty bs := by
  cases ty <;> first | rfl | cases hb

section
variable {S : List StructDef} {f : Nat} {bs : Bytes} {v : GoVal} {r : Bytes}

theorem readTy_seq_some {ty e : Ty} (hty : ty = .list e ∨ ty = .set e) (h : readTy S (f + 1) ty bs = some (v, r)) :
    ∃ c r0 n r1 xs, bs = c :: r0 ∧ readN 4 r0 = some (n, r1) ∧ ¬ n ≥ maxSize ∧
      readListWith (readTy S f e) n r1 = some (xs, r) ∧ v = .list xs := by
  rcases hty with rfl | rfl
  all_goals
    simp only [readTy] at h
    split at h
    case h_2 => cases h
    rename_i c r0
    split at h
    · cases h
    rename_i n r1 h1
    split at h
    · cases h
    rename_i hn
    obtain ⟨q, h2, hq⟩ := Option.map_eq_some_iff.mp h
    cases hq
    exact ⟨c, r0, n, r1, q.1, rfl, h1, hn, h2, rfl⟩

theorem readTy_map_some {k w : Ty} (h : readTy S (f + 1) (.map k w) bs = some (v, r)) :
    ∃ kc vc r0 n r1 kvs, bs = kc :: vc :: r0 ∧ readN 4 r0 = some (n, r1) ∧ ¬ n ≥ maxSize ∧
      readPairsWith (readTy S f k) (readTy S f w) n r1 = some (kvs, r) ∧ v = .map (mapOfPairs k kvs) := by
  simp only [readTy] at h
  split at h
  case h_2 => cases h
  rename_i kc vc r0
  split at h
  · cases h
  rename_i n r1 h1
  split at h
  · cases h
  rename_i hn
  obtain ⟨q, h2, hq⟩ := Option.map_eq_some_iff.mp h
  cases hq
  exact ⟨kc, vc, r0, n, r1, q.1, rfl, h1, hn, h2, rfl⟩

theorem readTy_struct_some {i : Nat} (h : readTy S (f + 1) (.struct i) bs = some (v, r)) :
    ∃ sd fs, S[i]? = some sd ∧ v = .strct fs ∧
      readFieldsWith (readTy S f) sd.fields (bs.length + 1) bs (initVals sd) (sd.fields.map fun _ => false) = some (fs, r) := by
  simp only [readTy] at h
  split at h
  · cases h
  rename_i sd hsd
  simp only [newX_eq] at h
  obtain ⟨q, h1, hq⟩ := Option.map_eq_some_iff.mp h
  cases hq
  exact ⟨sd, q.1, hsd, rfl, h1⟩

end

theorem skipW_base (ty : Ty) (hb : ty.isBase = true) (bs : Bytes) :
    skipW ty.ttype.code bs = (readScalar ty bs).map (·.2) := by
  cases ty with
  | list _ | set _ | map _ _ | struct _ => cases hb
  | str | bin =>
    simp only [skipW, Ty.ttype, TType.ofCode_code, decW, readScalar]
    cases readN 4 bs with
    | none => rfl
    | some p =>
      dsimp only
      split
      · rfl
      · cases readBytes p.1 p.2 <;> rfl
  | bool | i8 | i16 | i32 | enum | i64 | dbl =>
    simp only [skipW, Ty.ttype, TType.ofCode_code, decW, readScalar]
    split
    all_goals
      rename_i h
      rw [h]
      rfl

theorem requiredOk_cons (f : FieldDef) (fs : List FieldDef) (b : Bool) (bs : List Bool) :
    requiredOk (f :: fs) (b :: bs) = true ↔ (f.req = .required → b = true) ∧ requiredOk fs bs = true := by
  simp only [requiredOk, Bool.and_eq_true, Bool.or_eq_true, bne_iff_ne, ne_eq, Decidable.imp_iff_not_or]

theorem mapInsert_new (k : Ty) (a b : GoVal) (m : List (GoVal × GoVal)) :
    (∀ p ∈ m, keyEq k p.1 a = false) → mapInsert k a b m = m ++ [(a, b)] := by
  fun_induction mapInsert k a b m
  case case1 => exact fun _ => rfl
  case case2 k' v' r hit =>
    intro h
    rw [h (k', v') List.mem_cons_self] at hit
    cases hit
  case case3 ih => exact fun h => congrArg _ (ih fun p hp => h p (List.mem_cons_of_mem _ hp))

theorem mapOfPairs_foldl (k : Ty) : ∀ (kvs acc : List (GoVal × GoVal)),
    (∀ p ∈ acc, ∀ q ∈ kvs, keyEq k p.1 q.1 = false) → KeysOK k (kvs.map Prod.fst) →
    kvs.foldl (fun m (x : GoVal × GoVal) => mapInsert k x.1 x.2 m) acc = acc ++ kvs
  | [], acc, _, _ => by simp
  | (a, b) :: r, acc, hacc, hk => by
    simp only [List.map_cons, KeysOK] at hk
    simp only [List.foldl_cons]
    rw [mapInsert_new k a b acc (fun p hp => hacc p hp (a, b) (by simp))]
    rw [mapOfPairs_foldl k r (acc ++ [(a, b)])]
    · simp
    · intro p hp q hq
      rcases List.mem_append.mp hp with h | h
      · exact hacc p h q (by simp [hq])
      · simp at h; subst h; exact hk.2.1 q.1 (List.mem_map_of_mem hq)
    · exact hk.2.2

theorem mapOfPairs_id (k : Ty) (kvs : List (GoVal × GoVal)) (h : KeysOK k (kvs.map Prod.fst)) :
    mapOfPairs k kvs = kvs := by
  have := mapOfPairs_foldl k kvs [] (by simp) h
  simpa [mapOfPairs] using this

theorem KeysOK_struct (k : Ty) (hk : k.isStruct = true) : ∀ (keys : List GoVal), (∀ a ∈ keys, a ≠ .nil) → KeysOK k keys
  | [], _ => trivial
  | a :: r, h => by
    simp only [KeysOK]
    exact ⟨h a (by simp), fun p _ => by simp [keyEq, hk], KeysOK_struct k hk r (fun x hx => h x (by simp [hx]))⟩

theorem skipW_append (c : Nat) (bs r y : Bytes) (h : skipW c bs = some r) : skipW c (bs ++ y) = some (r ++ y) := by
  unfold skipW at h ⊢
  split at h
  · cases h
  rename_i t ht
  obtain ⟨p, hd, rfl⟩ := Option.map_eq_some_iff.mp h
  simp only [decW_append 64 t bs p.1 p.2 y hd, Option.map_some]

theorem readScalar_append (ty : Ty) : AppOK (readScalar ty) := by
  intro bs x r y
  fun_cases readScalar ty bs
  -- cases of readScalar: 1–7 the fixed-size types; string (8–10) and binary (11–13): no length, negative length, payload;
  -- 14 no base type
  case case10 n r1 h1 hn | case13 n r1 h1 hn =>
    intro h
    obtain ⟨q, h2, hq⟩ := Option.map_eq_some_iff.mp h
    cases hq
    simp only [readScalar, readN_append 4 bs y n r1 h1, if_neg hn, readBytes_append n r1 y q.1 q.2 h2, Option.map_some]
  case case8 | case9 | case11 | case12 | case14 => nofun
  all_goals
    intro h
    obtain ⟨⟨a, b⟩, h1, h2⟩ := Option.map_eq_some_iff.mp h
    cases h2
    rw [readScalar, readN_append _ bs y _ _ h1]
    rfl

/-! In the three loops a branch that fails has `none = some _` as premise, one that succeeds is taken again on the longer input. -/

theorem readListWith_append (d : Bytes → Option (GoVal × Bytes)) (hd : AppOK d) (n : Nat) :
    AppOK (readListWith d n) := by
  intro bs
  fun_induction readListWith d n bs
  -- cases of readListWith: count 0; element fails; rest fails; both read
  case case1 =>
    intro _ _ _ h
    cases h
    rfl
  case case4 ih =>
    intro _ _ y h
    cases h
    simp only [readListWith, hd _ _ _ y ‹_›, ih _ _ y ‹_›]
  all_goals exact fun _ _ _ h => nomatch h

theorem readPairsWith_append (dk dv : Bytes → Option (GoVal × Bytes)) (hk : AppOK dk) (hv : AppOK dv) (n : Nat) :
    AppOK (readPairsWith dk dv n) := by
  intro bs
  fun_induction readPairsWith dk dv n bs
  -- cases of readPairsWith: count 0; key fails; value fails; rest fails; all read
  case case1 =>
    intro _ _ _ h
    cases h
    rfl
  case case5 ih =>
    intro _ _ y h
    cases h
    simp only [readPairsWith, hk _ _ _ y ‹_›, hv _ _ _ y ‹_›, ih _ _ y ‹_›]
  all_goals exact fun _ _ _ h => nomatch h

/-- the gas grows with the input: `readTy` gives the loop the length of what it reads, plus one -/
theorem readFieldsWith_append (rd : Ty → Bytes → Option (GoVal × Bytes)) (hrd : ∀ t, AppOK (rd t))
    (defs : List FieldDef) (g : Nat) (bs : Bytes) (cur : List GoVal) (seen : List Bool) :
    ∀ fs r y k, readFieldsWith rd defs g bs cur seen = some (fs, r) →
      readFieldsWith rd defs (g + k) (bs ++ y) cur seen = some (fs, r ++ y) := by
  fun_induction readFieldsWith rd defs g bs cur seen
  -- cases of readFieldsWith: no gas; no input; STOP, required fields seen; STOP, one missing; no id; known field of its wire
  -- type, value fails; value read; known field of another wire type, skip fails; skipped; unknown id, skip fails; skipped
  case case3 =>
    intro _ _ y k h
    cases h
    simp only [Nat.succ_add, readFieldsWith, List.cons_append, if_true, *]
  case case7 ih =>
    intro fs r y k h
    simp only [Nat.succ_add, readFieldsWith, List.cons_append, readN_append 2 _ y _ _ ‹_›, hrd _ _ _ _ y ‹_›, if_true,
      if_false, *]
    exact ih fs r y k h
  case case9 ih | case11 ih =>
    intro fs r y k h
    simp only [Nat.succ_add, readFieldsWith, List.cons_append, readN_append 2 _ y _ _ ‹_›, skipW_append _ _ _ y ‹_›,
      if_false, *]
    exact ih fs r y k h
  all_goals exact fun _ _ _ _ h => nomatch h

theorem readTy_append (S : List StructDef) : ∀ (f : Nat) (ty : Ty), AppOK (readTy S f ty) := by
  intro f
  induction f with
  | zero => intro ty bs x r y h; simp [readTy] at h
  | succ f ih =>
    intro ty bs x r y h
    cases ty with
    | list e | set e =>
      obtain ⟨c, r0, n, r1, xs, rfl, h1, hn, h2, rfl⟩ := readTy_seq_some (e := e) (by simp) h
      simp only [readTy, List.cons_append, readN_append 4 r0 y n r1 h1, if_neg hn,
        readListWith_append _ (ih e) n r1 xs r y h2, Option.map_some]
    | map k v =>
      obtain ⟨kc, vc, r0, n, r1, kvs, rfl, h1, hn, h2, rfl⟩ := readTy_map_some h
      simp only [readTy, List.cons_append, readN_append 4 r0 y n r1 h1, if_neg hn,
        readPairsWith_append _ _ (ih k) (ih v) n r1 kvs r y h2, Option.map_some]
    | struct i =>
      obtain ⟨sd, fs, hs, rfl, h1⟩ := readTy_struct_some h
      have h2 := readFieldsWith_append (readTy S f) ih sd.fields _ bs _ _ fs r y y.length h1
      rw [Nat.add_right_comm, ← List.length_append] at h2
      simp only [readTy, hs, newX_eq, h2, Option.map_some]
    | bool | i8 | i16 | i32 | i64 | dbl | str | bin | enum =>
      rw [readTy_base _ _ _ _ rfl] at h ⊢
      exact readScalar_append _ bs x r y h

theorem readTy_list_enc (S : List StructDef) (f : Nat) (e : Ty) (t : TType) (ws : List WVal) (r : Bytes)
    (hl : ws.length < maxSize) :
    readTy S (f + 1) (.list e) (encW (.list t ws) ++ r) =
      (readListWith (readTy S f e) ws.length (encList ws ++ r)).map fun (xs, r'') => (.list xs, r'') := by
  obtain ⟨h4, hn⟩ := size_ok hl
  simp only [readTy, encW, List.append_assoc, List.cons_append, List.nil_append, readN_be 4 ws.length _ h4, hn,
    if_false]

theorem readTy_set_enc (S : List StructDef) (f : Nat) (e : Ty) (t : TType) (ws : List WVal) (r : Bytes)
    (hl : ws.length < maxSize) :
    readTy S (f + 1) (.set e) (encW (.set t ws) ++ r) =
      (readListWith (readTy S f e) ws.length (encList ws ++ r)).map fun (xs, r'') => (.list xs, r'') := by
  obtain ⟨h4, hn⟩ := size_ok hl
  simp only [readTy, encW, List.append_assoc, List.cons_append, List.nil_append, readN_be 4 ws.length _ h4, hn,
    if_false]

theorem readTy_map_enc (S : List StructDef) (f : Nat) (k v : Ty) (kt vt : TType) (ws : List (WVal × WVal))
    (r : Bytes) (hl : ws.length < maxSize) :
    readTy S (f + 1) (.map k v) (encW (.map kt vt ws) ++ r) =
      (readPairsWith (readTy S f k) (readTy S f v) ws.length (encPairs ws ++ r)).map
        fun (kvs, r'') => (.map (mapOfPairs k kvs), r'') := by
  obtain ⟨h4, hn⟩ := size_ok hl
  simp only [readTy, encW, List.append_assoc, List.cons_append, List.nil_append, readN_be 4 ws.length _ h4, hn,
    if_false]

end Gen.Std
