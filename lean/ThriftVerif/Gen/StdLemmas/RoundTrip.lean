import ThriftVerif.Gen.StdLemmas.Loop
/-
  Gen/StdLemmas/RoundTrip: Read after Write yields an object that Write sends to the same bytes, on the schemas `SchemaOK`
  admits. The typed round trip `rt_fuel` is by induction on the reader's fuel and gives ONE read-back value for all continuations
  (`RTu`); from the loop's `Run` at a struct it extends to a stream with unknown-id fields interleaved or the fields permuted.
-/
namespace Gen.Std
open Wire Gen

theorem readN_pat (n bits : Nat) (hb : 256 ^ n = 2 ^ bits) (x : Int) (r : Bytes) :
    readN n (be n (pat bits x) ++ r) = some (pat bits x, r) :=
  readN_be n _ r (pat_lt_bytes hb x)

theorem readScalar_scalarW (P : Prog) (ty : Ty) (v : GoVal) (w : WVal) (hwt : WT P.structs ty v)
    (h : scalarW ty v = some w) :
    ∃ v', (∀ r, readScalar ty (encW w ++ r) = some (v', r)) ∧ scalarW ty v' = some w ∧ (v ≠ .nil → v' = v) ∧ v' ≠ .nil := by
  revert h
  fun_cases scalarW ty v <;> intro h <;> cases h
  case case10 =>
    -- a nil `binary`, written as the empty string
    refine ⟨.bytes [], fun r => ?_, rfl, fun h => absurd rfl h, nofun⟩
    simp [readScalar, encW, readN_be 4 0 r (by decide), readBytes, maxSize]
  all_goals refine ⟨_, fun r => ?_, rfl, fun _ => rfl, nofun⟩
  case case1 b => cases b <;> simp [readScalar, encW, readN_one]
  case case2 x => simp only [readScalar, encW, readN_pat 1 8 rfl, Option.map_some, unpat_pat 8 128 x rfl rfl hwt]
  case case3 x => simp only [readScalar, encW, readN_pat 2 16 rfl, Option.map_some, unpat_pat16 x hwt]
  case case4 x =>
    simp only [readScalar, encW, readN_pat 4 32 rfl, Option.map_some, unpat_pat 32 2147483648 x rfl rfl hwt]
  case case5 x =>
    simp only [readScalar, encW, readN_pat 4 32 rfl, Option.map_some, unpat_pat 32 2147483648 x rfl rfl hwt]
  case case6 x =>
    simp only [readScalar, encW, readN_pat 8 64 rfl, Option.map_some,
      unpat_pat 64 9223372036854775808 x rfl rfl hwt]
  case case7 x => simp only [readScalar, encW, readN_be 8 x r hwt, Option.map_some]
  case case8 bs | case9 bs =>
    obtain ⟨h4, hn⟩ := size_ok hwt
    simp only [readScalar, encW, List.append_assoc, readN_be 4 bs.length (bs ++ r) h4, hn, if_false,
      readBytes_exact, Option.map_some]

/-- what the semantic checker guarantees about a struct-like (distinct field ids; union members
optional) plus the two shapes outside the round-trip statement (an optional field with a default has a
base type, and its default compares equal to itself, i.e. is not NaN) -/
def StructOK (sd : StructDef) : Prop :=
  (sd.fields.map idOf).Nodup ∧ (∀ f ∈ sd.fields, DfltOpt f) ∧ Unset sd.fields (initVals sd) ∧
  (sd.kind = 1 → ∀ f ∈ sd.fields, f.req = .optional)

def SchemaOK (P : Prog) : Prop := ∀ (i : Nat) (sd : StructDef), P.structs[i]? = some sd → StructOK sd

theorem fields_rt (P : Prog) (defs : List FieldDef) (fs init : List GoVal) (ws : List (Nat × WVal)) (f : Nat)
    (hnd : (defs.map idOf).Nodup) (hdo : ∀ g ∈ defs, DfltOpt g) (hlen : init.length = defs.length)
    (hun : Unset defs init) (hwt : WTFields P.structs defs fs) (hw : toWFields P defs fs = .ok ws)
    (hd : depthFields ws ≤ f) (hih : IHu P (readTy P.structs f) f defs fs) :
    ∃ fs' seen', toWFields P defs fs' = .ok ws ∧ requiredOk defs seen' = true ∧
      ∀ (ms : List (Nat × WVal)), Mixed defs ws ms →
        Run (readTy P.structs f) defs ms (init, defs.map fun _ => false) (fs', seen') := by
  obtain ⟨csuf', ssuf', _, _, htw, hrs, hrun⟩ :=
    loop_run_mixed P (readTy P.structs f) f defs fs ws hw hd hih hwt hdo [] [] init []
      (defs.map fun _ => false) hnd rfl rfl hlen (by simp) hun
  exact ⟨csuf', ssuf', htw, requiredOk_of_ReqSeen defs ssuf' hrs, hrun⟩

theorem KeysOK_ne_nil (k : Ty) (l : List GoVal) (hk : KeysOK k l) : ∀ a ∈ l, a ≠ .nil := by
  fun_induction KeysOK k l with
  | case1 => nofun
  | case2 a r ih => exact List.forall_mem_cons.mpr ⟨hk.1, ih hk.2.2⟩

theorem rtList_of (P : Prog) (f : Nat) (ih : ∀ ty v, RTu P (readTy P.structs f) f ty v) :
    ∀ (xs : List GoVal) (e : Ty) (ws : List WVal), WTList P.structs e xs → toWList P e xs = .ok ws →
      depthList ws ≤ f →
      ∃ xs', (∀ r, readListWith (readTy P.structs f e) ws.length (encList ws ++ r) = some (xs', r)) ∧
        toWList P e xs' = .ok ws
  | [], _, _, _, h, _ => by cases h; exact ⟨[], fun _ => rfl, rfl⟩
  | x :: rest, e, ws, hwt, h, hd => by
    obtain ⟨w, h1, ws', h2, rfl⟩ := toWList_cons_ok.mp h
    obtain ⟨hdw, hd'⟩ := Nat.max_le.mp hd
    obtain ⟨x', hr1, ht1, _, _⟩ := ih e x w hwt.1 h1 hdw
    obtain ⟨xs', hr2, ht2⟩ := rtList_of P f ih rest e ws' hwt.2 h2 hd'
    refine ⟨x' :: xs', fun r => ?_, toWList_cons_ok.mpr ⟨w, ht1, ws', ht2, rfl⟩⟩
    simp only [encList, List.append_assoc, List.length_cons, readListWith, hr1, hr2]

theorem rtPairs_of (P : Prog) (f : Nat) (ih : ∀ ty v, RTu P (readTy P.structs f) f ty v) :
    ∀ (kvs : List (GoVal × GoVal)) (k vt : Ty) (ws : List (WVal × WVal)), WTPairs P.structs k vt kvs →
      toWPairs P k vt kvs = .ok ws → depthPairs ws ≤ f → (∀ a ∈ kvs.map Prod.fst, a ≠ .nil) →
      ∃ kvs', (∀ r, readPairsWith (readTy P.structs f k) (readTy P.structs f vt) ws.length (encPairs ws ++ r) = some (kvs', r)) ∧
        toWPairs P k vt kvs' = .ok ws ∧ (k.isBase = true → kvs'.map Prod.fst = kvs.map Prod.fst) ∧
        (∀ a ∈ kvs'.map Prod.fst, a ≠ .nil)
  | [], _, _, _, _, h, _, _ => by cases h; exact ⟨[], fun _ => rfl, rfl, fun _ => rfl, nofun⟩
  | (a, b) :: rest, k, vt, ws, hwt, h, hd, hnn => by
    obtain ⟨wa, h1, wb, h2, ws', h3, rfl⟩ := toWPairs_cons_ok.mp h
    obtain ⟨hdkv, hd'⟩ := Nat.max_le.mp hd
    obtain ⟨hda, hdb⟩ := Nat.max_le.mp hdkv
    obtain ⟨a', hra, hta, hna, hida⟩ := ih k a wa hwt.1 h1 hda
    obtain ⟨b', hrb, htb, _, _⟩ := ih vt b wb hwt.2.1 h2 hdb
    obtain ⟨kvs', hr3, ht3, hk3, hn3⟩ := rtPairs_of P f ih rest k vt ws' hwt.2.2 h3 hd'
      (fun x hx => hnn x (List.mem_cons_of_mem _ hx))
    refine ⟨(a', b') :: kvs', fun r => ?_, toWPairs_cons_ok.mpr ⟨wa, hta, wb, htb, ws', ht3, rfl⟩, fun hb => ?_, ?_⟩
    · simp only [encPairs, List.append_assoc, List.length_cons, readPairsWith, hra, hrb, hr3]
    · rw [List.map_cons, List.map_cons, hida hb (hnn a (List.mem_cons_self ..)), hk3 hb]
    · intro x hx
      rcases List.mem_cons.mp hx with rfl | hx
      · exact hna
      · exact hn3 x hx

theorem IHu_of_RTu (P : Prog) (rd : Ty → Bytes → Option (GoVal × Bytes)) (dmax : Nat)
    (h : ∀ ty v, RTu P rd dmax ty v) (defs : List FieldDef) (fs : List GoVal) : IHu P rd dmax defs fs := by
  fun_induction IHu P rd dmax defs fs with
  | case1 d ds v vs ih => exact ⟨h d.ty v, ih⟩
  | case2 => trivial

/-- `validateSet = false` is needed because the object read back may differ from the written one (a nil `binary` comes
back as `[]`, struct-typed map keys as fresh pointers), so that a set free of duplicates is not known to stay so;
this is also why `read_write_roundtrip` answers with `write (noVal P)`. -/
theorem rt_fuel (P : Prog) (hP : SchemaOK P) (hv : P.validateSet = false) :
    ∀ (f : Nat) (ty : Ty) (v : GoVal), RTu P (readTy P.structs f) f ty v := by
  intro f
  induction f with
  | zero => intro ty v w _ _ hd; exact absurd (depth_pos w) (by omega)
  | succ f ih =>
  intro ty v w hwt h hd
  by_cases hb : ty.isBase = true
  · rw [toW_base P ty v hb, Res.ofOption_eq_ok] at h
    obtain ⟨v', h1, h2, h5, h4⟩ := readScalar_scalarW P ty v w hwt h
    exact ⟨v', fun r => (readTy_base _ f ty _ hb).trans (h1 r), (toW_base P ty v' hb).trans ((Res.ofOption_eq_ok ..).mpr h2), h4,
      fun _ => h5⟩
  cases ty with
  | list e =>
    cases v with
    | nil =>
      cases h
      exact ⟨.list [], fun r => by rw [readTy_list_enc _ _ _ _ _ _ (by decide)]; rfl, rfl, nofun, nofun⟩
    | list xs =>
      obtain ⟨ws, h1, rfl⟩ := toW_list_ok.mp h
      obtain ⟨xs', hr, ht⟩ := rtList_of P f ih xs e ws hwt.2 h1 (Nat.le_of_succ_le_succ hd)
      have hl : ws.length < maxSize := (toWList_WF P xs e ws hwt.2 h1).2 ▸ hwt.1
      exact ⟨.list xs', fun r => by rw [readTy_list_enc _ _ _ _ _ _ hl, hr]; rfl, toW_list_ok.mpr ⟨ws, ht, rfl⟩, nofun, nofun⟩
    | _ => exact hwt.elim
  | set e =>
    have hc : ∀ xs, (P.validateSet && !noDup xs) = false := fun xs => by rw [hv]; rfl
    cases v with
    | nil =>
      cases h
      exact ⟨.list [], fun r => by rw [readTy_set_enc _ _ _ _ _ _ (by decide)]; rfl, toW_set_ok.mpr ⟨hc _, [], rfl, rfl⟩,
        nofun, nofun⟩
    | list xs =>
      obtain ⟨_, ws, h1, rfl⟩ := toW_set_ok.mp h
      obtain ⟨xs', hr, ht⟩ := rtList_of P f ih xs e ws hwt.2 h1 (Nat.le_of_succ_le_succ hd)
      have hl : ws.length < maxSize := (toWList_WF P xs e ws hwt.2 h1).2 ▸ hwt.1
      exact ⟨.list xs', fun r => by rw [readTy_set_enc _ _ _ _ _ _ hl, hr]; rfl, toW_set_ok.mpr ⟨hc _, ws, ht, rfl⟩,
        nofun, nofun⟩
    | _ => exact hwt.elim
  | map k vt =>
    cases v with
    | nil =>
      cases h
      exact ⟨.map [], fun r => by rw [readTy_map_enc _ _ _ _ _ _ _ _ (by decide)]; rfl, rfl, nofun, nofun⟩
    | map kvs =>
      obtain ⟨hfit, hwp, hkeys, hkind⟩ := hwt
      obtain ⟨ws, h1, rfl⟩ := toW_map_ok.mp h
      obtain ⟨kvs', hr, ht, hsame, hnn⟩ := rtPairs_of P f ih kvs k vt ws hwp h1 (Nat.le_of_succ_le_succ hd)
        (KeysOK_ne_nil k _ hkeys)
      have hl : ws.length < maxSize := (toWPairs_WF P kvs k vt ws hwp h1).2 ▸ hfit
      -- the keys read back can again be held by a Go map, so rebuilding the map changes nothing
      have hko : KeysOK k (kvs'.map Prod.fst) := by
        rcases hkind with hb | hs
        · rw [hsame hb]; exact hkeys
        · exact KeysOK_struct k hs _ hnn
      exact ⟨.map kvs', fun r => by rw [readTy_map_enc _ _ _ _ _ _ _ _ hl, hr]; exact congrArg (fun m => some (GoVal.map m, r)) (mapOfPairs_id k kvs' hko),
        toW_map_ok.mpr ⟨ws, ht, rfl⟩, nofun, nofun⟩
    | _ => exact hwt.elim
  | struct i =>
    cases v with
    | strct fs =>
      obtain ⟨sd, hsd, hf⟩ := hwt
      obtain ⟨hcs, ws, h1, rfl⟩ := (toW_struct_ok hsd).mp h
      obtain ⟨hnd, hdo, hun, hopt⟩ := hP i sd hsd
      obtain ⟨fs', seen', htw, hro, hrun⟩ := fields_rt P sd.fields fs (initVals sd) ws f hnd hdo (initVals_length sd) hun
        hf h1 (Nat.le_of_succ_le_succ hd) (IHu_of_RTu P _ f ih sd.fields fs)
      refine ⟨.strct fs', fun r => ?_, (toW_struct_ok hsd).mpr ⟨?_, ws, htw, rfl⟩, nofun, nofun⟩
      · have := readTy_struct_of_loop _ i sd f ws r fs' seen' hsd (hrun ws (Mixed.refl _ ws)) hro
        simpa only [encW, List.append_assoc, List.singleton_append] using this
      · -- a union: as many members are set in the object read back as were written
        by_cases hk : sd.kind = 1
        · have e1 := countSet_written P sd.fields fs ws h1 (hopt hk)
          have e2 := countSet_written P sd.fields fs' ws htw (hopt hk)
          rw [← e2, e1]; exact hcs
        · simp [hk]
    | _ => exact hwt.elim
  | _ => exact absurd rfl hb

theorem rt (P : Prog) (hP : SchemaOK P) (hv : P.validateSet = false) (v : GoVal) :
    ∀ (ty : Ty) (w : WVal) (f : Nat) (r : Bytes), WT P.structs ty v → toW P ty v = .ok w → w.depth ≤ f →
      ∃ v', readTy P.structs f ty (encW w ++ r) = some (v', r) ∧ toW P ty v' = .ok w ∧ v' ≠ .nil ∧
        (ty.isBase = true → v ≠ .nil → v' = v) :=
  fun ty w f r hwt h hd => (rt_fuel P hP hv f ty v w hwt h hd).imp fun _ h => ⟨h.1 r, h.2⟩

theorem rtList (P : Prog) (hP : SchemaOK P) (hv : P.validateSet = false) (xs : List GoVal) :
    ∀ (e : Ty) (ws : List WVal) (f : Nat) (r : Bytes), WTList P.structs e xs → toWList P e xs = .ok ws →
      depthList ws ≤ f →
      ∃ xs', readListWith (readTy P.structs f e) ws.length (encList ws ++ r) = some (xs', r) ∧
        toWList P e xs' = .ok ws :=
  fun e ws f r hwt h hd => (rtList_of P f (rt_fuel P hP hv f) xs e ws hwt h hd).imp fun _ h => ⟨h.1 r, h.2⟩

theorem rtPairs (P : Prog) (hP : SchemaOK P) (hv : P.validateSet = false) (kvs : List (GoVal × GoVal)) :
    ∀ (k vt : Ty) (ws : List (WVal × WVal)) (f : Nat) (r : Bytes), WTPairs P.structs k vt kvs →
      toWPairs P k vt kvs = .ok ws → depthPairs ws ≤ f → (∀ a ∈ kvs.map Prod.fst, a ≠ .nil) →
      ∃ kvs', readPairsWith (readTy P.structs f k) (readTy P.structs f vt) ws.length (encPairs ws ++ r) = some (kvs', r) ∧
        toWPairs P k vt kvs' = .ok ws ∧ (k.isBase = true → kvs'.map Prod.fst = kvs.map Prod.fst) ∧
        (∀ a ∈ kvs'.map Prod.fst, a ≠ .nil) :=
  fun k vt ws f r hwt h hd hn =>
    (rtPairs_of P f (rt_fuel P hP hv f) kvs k vt ws hwt h hd hn).imp fun _ h => ⟨h.1 r, h.2⟩

theorem rtFields (P : Prog) (hP : SchemaOK P) (hv : P.validateSet = false) (fs : List GoVal) :
    ∀ (defs : List FieldDef) (f : Nat), IHu P (readTy P.structs f) f defs fs :=
  fun defs f => IHu_of_RTu P _ f (rt_fuel P hP hv f) defs fs

theorem read_write_roundtrip (P : Prog) (hP : SchemaOK P) (sidx : Nat) (obj : GoVal) (bs r : Bytes)
    (hwt : WT P.structs (.struct sidx) obj) (h : write P sidx obj = .ok bs) :
    ∃ obj', readTy P.structs ((bs ++ r).length + 1) (.struct sidx) (bs ++ r) = some (obj', r) ∧
      write (noVal P) sidx obj' = .ok bs := by
  obtain ⟨w, hw, rfl⟩ := write_eq_ok.mp h
  have hd : w.depth ≤ (encW w ++ r).length + 1 :=
    Nat.le_succ_of_le (Nat.le_trans (depth_le_len w) (List.length_append ▸ Nat.le_add_right ..))
  obtain ⟨v', hr, ht, _, _⟩ := rt (noVal P) hP rfl obj (.struct sidx) w _ r hwt (toW_noVal P obj _ w hw) hd
  exact ⟨v', hr, write_eq_ok.mpr ⟨w, ht, rfl⟩⟩

theorem read_write_roundtrip_read (P : Prog) (hP : SchemaOK P) (sidx : Nat) (obj : GoVal) (bs : Bytes)
    (hwt : WT P.structs (.struct sidx) obj) (h : write P sidx obj = .ok bs) :
    ∃ obj', read P sidx bs = some obj' ∧ write (noVal P) sidx obj' = .ok bs := by
  obtain ⟨obj', hr, hw⟩ := read_write_roundtrip P hP sidx obj bs [] hwt h
  rw [List.append_nil] at hr
  exact ⟨obj', congrArg (Option.map Prod.fst) hr, hw⟩

theorem struct_run (P : Prog) (hP : SchemaOK P) (hv : P.validateSet = false) (i : Nat) (sd : StructDef)
    (fs : List GoVal) (ws : List (Nat × WVal)) (f : Nat) (hsd : P.structs[i]? = some sd)
    (hwt : WTFields P.structs sd.fields fs) (hw : toWFields P sd.fields fs = .ok ws) (hd : depthFields ws ≤ f) :
    ∃ fs' seen', toWFields P sd.fields fs' = .ok ws ∧ requiredOk sd.fields seen' = true ∧
      ∀ (ms : List (Nat × WVal)), Mixed sd.fields ws ms →
        Run (readTy P.structs f) sd.fields ms (initVals sd, sd.fields.map fun _ => false) (fs', seen') := by
  obtain ⟨hnd, hdo, hun, _⟩ := hP i sd hsd
  obtain ⟨fs', seen', htw, hro, hrun⟩ := fields_rt P sd.fields fs (initVals sd) ws f hnd hdo (initVals_length sd) hun
    hwt hw hd (rtFields P hP hv fs sd.fields f)
  exact ⟨fs', seen', htw, hro, hrun⟩

theorem struct_read_mixed (P : Prog) (hP : SchemaOK P) (hv : P.validateSet = false) (i : Nat) (sd : StructDef)
    (fs : List GoVal) (ws : List (Nat × WVal)) (f : Nat) (hsd : P.structs[i]? = some sd)
    (hwt : WTFields P.structs sd.fields fs) (hw : toWFields P sd.fields fs = .ok ws) (hd : depthFields ws ≤ f) :
    ∃ fs', toWFields P sd.fields fs' = .ok ws ∧
      ∀ (ms : List (Nat × WVal)) (r : Bytes), Mixed sd.fields ws ms →
        readTy P.structs (f + 1) (.struct i) (encFields ms ++ 0 :: r) = some (.strct fs', r) := by
  obtain ⟨fs', seen', htw, hro, hrun⟩ := struct_run P hP hv i sd fs ws f hsd hwt hw hd
  exact ⟨fs', htw, fun ms r hm => readTy_struct_of_loop _ i sd f ms r fs' seen' hsd (hrun ms hm) hro⟩

theorem struct_read_perm (P : Prog) (hP : SchemaOK P) (hv : P.validateSet = false) (i : Nat) (sd : StructDef)
    (fs : List GoVal) (ws : List (Nat × WVal)) (f : Nat) (hsd : P.structs[i]? = some sd)
    (hwt : WTFields P.structs sd.fields fs) (hw : toWFields P sd.fields fs = .ok ws) (hd : depthFields ws ≤ f) :
    ∃ fs', toWFields P sd.fields fs' = .ok ws ∧
      ∀ (ms : List (Nat × WVal)) (r : Bytes), ms.Perm ws →
        readTy P.structs (f + 1) (.struct i) (encFields ms ++ 0 :: r) = some (.strct fs', r) := by
  obtain ⟨fs', seen', htw, hro, hrun⟩ := struct_run P hP hv i sd fs ws f hsd hwt hw hd
  exact ⟨fs', htw, fun ms r hp => readTy_struct_of_loop _ i sd f ms r fs' seen' hsd
    ((hrun ws (Mixed.refl _ ws)).perm hp.symm ((toWFields_sublist P _ _ _ hw).nodup (hP i sd hsd).1)) hro⟩

end Gen.Std
