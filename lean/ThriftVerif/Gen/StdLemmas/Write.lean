import ThriftVerif.Gen.Std
import ThriftVerif.Gen.ResLemmas
import ThriftVerif.Core.WireLemmas
/-
  Gen/StdLemmas/Write: the generated Write of `Gen.Std` on the Go objects it is meant for (`WT`), where `toW` yields a
  well-formed wire value of the type's wire type. Also the arithmetic of `pat`/`unpat`, which fields `toWFields` writes, and
  `noVal P` (`validate_set` off), under which everything `P` writes is written too.
-/
namespace Gen.Std
open Wire Gen

def fitsLen (n : Nat) : Prop := n < maxSize

/-- map keys as a Go map can hold them -/
def KeysOK (k : Ty) : List GoVal → Prop
  | [] => True
  | a :: r => a ≠ .nil ∧ (∀ p ∈ r, keyEq k a p = false) ∧ KeysOK k r

mutual
/-- the Go object is one a Go program can hold for a field/element of IDL type `ty` -/
def WT (S : List StructDef) : Ty → GoVal → Prop
  | .bool, .bool _ => True
  | .i8, .int x => -128 ≤ x ∧ x < 128
  | .i16, .int x => -32768 ≤ x ∧ x < 32768
  | .i32, .int x => -2147483648 ≤ x ∧ x < 2147483648
  | .enum, .int x => -2147483648 ≤ x ∧ x < 2147483648
  | .i64, .int x => -9223372036854775808 ≤ x ∧ x < 9223372036854775808
  | .dbl, .dbl b => b < 256 ^ 8
  | .str, .bytes bs => fitsLen bs.length
  | .bin, .bytes bs => fitsLen bs.length
  | .bin, .nil => True
  | .list _, .nil => True
  | .set _, .nil => True
  | .map _ _, .nil => True
  | .list e, .list xs => fitsLen xs.length ∧ WTList S e xs
  | .set e, .list xs => fitsLen xs.length ∧ WTList S e xs
  | .map k v, .map kvs => fitsLen kvs.length ∧ WTPairs S k v kvs ∧ KeysOK k (kvs.map Prod.fst) ∧ (k.isBase = true ∨ k.isStruct = true)
  | .struct i, .strct fs => ∃ sd, S[i]? = some sd ∧ WTFields S sd.fields fs
  | _, _ => False
def WTList (S : List StructDef) (e : Ty) : List GoVal → Prop
  | [] => True
  | x :: r => WT S e x ∧ WTList S e r
def WTPairs (S : List StructDef) (k v : Ty) : List (GoVal × GoVal) → Prop
  | [] => True
  | (a, b) :: r => WT S k a ∧ WT S v b ∧ WTPairs S k v r
def WTFields (S : List StructDef) : List FieldDef → List GoVal → Prop
  | [], [] => True
  | f :: fs, v :: vs => (f.req = .optional → (v = .nil ∧ isSet f v = false) ∨ WT S f.ty v) ∧ (f.req ≠ .optional → WT S f.ty v) ∧
      (-32768 ≤ f.id ∧ f.id < 32768) ∧ WTFields S fs vs
  | _, _ => False
end

theorem pat_lt (bits : Nat) (v : Int) : pat bits v < 2 ^ bits := by
  unfold pat
  have hc : ((2 ^ bits : Nat) : Int) = (2 : Int) ^ bits := by simp
  have h2 : (0 : Int) < 2 ^ bits := Int.pow_pos (by decide)
  have h1 := Int.emod_lt_of_pos v h2
  have hn := Int.emod_nonneg v (Int.ne_of_gt h2)
  rw [← hc] at h1 hn
  omega

theorem pat_lt_bytes {n bits : Nat} (hb : 256 ^ n = 2 ^ bits) (x : Int) : pat bits x < 256 ^ n :=
  hb ▸ pat_lt bits x

theorem scalarW_WF (ty : Ty) (v : GoVal) (w : WVal) (P : Prog) (hwt : WT P.structs ty v) (h : scalarW ty v = some w) :
    WF w ∧ w.ttype = ty.ttype := by
  revert h
  -- `case n`: the n-th arm of `scalarW`
  fun_cases scalarW ty v <;> intro h <;> cases h
  case case1 => exact ⟨trivial, rfl⟩
  case case2 x => exact ⟨pat_lt_bytes pow256.1 x, rfl⟩
  case case3 x => exact ⟨pat_lt_bytes pow256.2.1 x, rfl⟩
  case case4 x => exact ⟨pat_lt_bytes pow256.2.2.1 x, rfl⟩
  case case5 x => exact ⟨pat_lt_bytes pow256.2.2.1 x, rfl⟩
  case case6 x => exact ⟨pat_lt_bytes pow256.2.2.2 x, rfl⟩
  case case7 => exact ⟨hwt, rfl⟩
  case case8 => exact ⟨hwt, rfl⟩
  case case9 => exact ⟨hwt, rfl⟩
  case case10 => exact ⟨(by decide : (0 : Nat) < maxSize), rfl⟩

theorem toW_base (P : Prog) (ty : Ty) (v : GoVal) (hb : ty.isBase = true) :
    toW P ty v = Res.ofOption (scalarW ty v) := by
  fun_cases toW P ty v
  -- 14: the last arm of `toW`; the thirteen before it are containers and structs
  case case14 => rfl
  all_goals cases hb

theorem toW_list_ok {P : Prog} {e : Ty} {xs : List GoVal} {w : WVal} :
    toW P (.list e) (.list xs) = .ok w ↔ ∃ ws, toWList P e xs = .ok ws ∧ .list e.ttype ws = w := by
  simp only [toW, Res.bind_eq_ok, Res.ok.injEq]

theorem toW_set_ok {P : Prog} {e : Ty} {xs : List GoVal} {w : WVal} :
    toW P (.set e) (.list xs) = .ok w ↔
      (P.validateSet && !noDup xs) = false ∧ ∃ ws, toWList P e xs = .ok ws ∧ .set e.ttype ws = w := by
  cases hc : P.validateSet && !noDup xs <;>
    simp [toW, hc, Res.bind_eq_ok]

theorem toW_map_ok {P : Prog} {k v : Ty} {kvs : List (GoVal × GoVal)} {w : WVal} :
    toW P (.map k v) (.map kvs) = .ok w ↔ ∃ ws, toWPairs P k v kvs = .ok ws ∧ .map k.ttype v.ttype ws = w := by
  simp only [toW, Res.bind_eq_ok, Res.ok.injEq]

theorem toW_struct_ok {P : Prog} {i : Nat} {sd : StructDef} {fs : List GoVal} {w : WVal}
    (hsd : P.structs[i]? = some sd) :
    toW P (.struct i) (.strct fs) = .ok w ↔
      (decide (sd.kind = 1) && countSet sd.fields fs != 1) = false ∧
        ∃ ws, toWFields P sd.fields fs = .ok ws ∧ .struct ws = w := by
  cases hc : decide (sd.kind = 1) && countSet sd.fields fs != 1 <;>
    simp [toW, Prog.struct?, hsd, hc, Res.bind_eq_ok]

theorem scalarW_total {S : List StructDef} {ty : Ty} {v : GoVal} (hb : ty.isBase = true) :
    WT S ty v → ∃ w, scalarW ty v = some w := by
  -- arms of `WT`: 1–10 base types, 11–17 containers and structs, 18 the last
  fun_cases WT S ty v
  case case11 | case12 | case13 | case14 | case15 | case16 | case17 => cases hb
  case case18 => exact False.elim
  all_goals exact fun _ => ⟨_, rfl⟩

theorem toW_struct_shape {P : Prog} {i : Nat} {obj : GoVal} {w : WVal} (h : toW P (.struct i) obj = .ok w) :
    ∃ ws, w = .struct ws := by
  cases obj with
  | nil =>
    simp only [toW] at h
    split at h
    · split at h
      · cases h
      · exact ⟨[], (Res.ok.inj h).symm⟩
    · cases h
  | strct fs =>
    cases hsd : P.structs[i]? with
    | none => simp [toW, Prog.struct?, hsd] at h
    | some sd =>
      obtain ⟨_, ws, _, rfl⟩ := (toW_struct_ok hsd).mp h
      exact ⟨ws, rfl⟩
  | _ => cases h

theorem write_eq_ok {P : Prog} {sidx : Nat} {obj : GoVal} {bs : Bytes} :
    write P sidx obj = .ok bs ↔ ∃ w, toW P (.struct sidx) obj = .ok w ∧ encW w = bs := by
  simp only [write, Res.bind_eq_ok, Res.ok.injEq]

theorem write_struct (P : Prog) (i : Nat) (sd : StructDef) (fs : List GoVal) (ws : List (Nat × WVal))
    (hsd : P.structs[i]? = some sd) (hk : sd.kind = 1 → countSet sd.fields fs = 1)
    (hw : toWFields P sd.fields fs = .ok ws) : write P i (.strct fs) = .ok (encFields ws ++ [0]) := by
  refine write_eq_ok.mpr ⟨.struct ws, (toW_struct_ok hsd).mpr ⟨?_, ws, hw, rfl⟩, rfl⟩
  by_cases h1 : sd.kind = 1
  · simp [h1, hk h1]
  · simp [h1]

theorem toWList_cons_ok {P : Prog} {e : Ty} {x : GoVal} {r : List GoVal} {ws : List WVal} :
    toWList P e (x :: r) = .ok ws ↔ ∃ w, toW P e x = .ok w ∧ ∃ ws', toWList P e r = .ok ws' ∧ w :: ws' = ws := by
  simp only [toWList, Res.bind_eq_ok, Res.ok.injEq]

theorem toWPairs_cons_ok {P : Prog} {k v : Ty} {a b : GoVal} {r : List (GoVal × GoVal)} {ws : List (WVal × WVal)} :
    toWPairs P k v ((a, b) :: r) = .ok ws ↔
      ∃ wa, toW P k a = .ok wa ∧ ∃ wb, toW P v b = .ok wb ∧ ∃ ws', toWPairs P k v r = .ok ws' ∧ (wa, wb) :: ws' = ws := by
  simp only [toWPairs, Res.bind_eq_ok, Res.ok.injEq]

theorem toWFields_written_ok {P : Prog} {f : FieldDef} {fs : List FieldDef} {v : GoVal} {vs : List GoVal}
    {ws : List (Nat × WVal)} (hc : ¬ (decide (f.req = .optional) && !isSet f v) = true) :
    toWFields P (f :: fs) (v :: vs) = .ok ws ↔
      ∃ w, toW P f.ty v = .ok w ∧ ∃ ws', toWFields P fs vs = .ok ws' ∧ (pat 16 f.id, w) :: ws' = ws := by
  simp only [toWFields, if_neg hc, Res.bind_eq_ok, Res.ok.injEq]

theorem toWFields_skipped {P : Prog} {f : FieldDef} {fs : List FieldDef} {v : GoVal} {vs : List GoVal}
    (hc : (decide (f.req = .optional) && !isSet f v) = true) :
    toWFields P (f :: fs) (v :: vs) = toWFields P fs vs := by
  simp only [toWFields, if_pos hc]

theorem WT_of_written {S : List StructDef} {f : FieldDef} {fs : List FieldDef} {v : GoVal} {vs : List GoVal}
    (hwt : WTFields S (f :: fs) (v :: vs)) (hc : ¬ (decide (f.req = .optional) && !isSet f v) = true) :
    WT S f.ty v := by
  simp only [WTFields] at hwt
  by_cases ho : f.req = .optional
  · rcases hwt.1 ho with hn | hw
    · simp [ho, hn.2] at hc
    · exact hw
  · exact hwt.2.1 ho

mutual
theorem toW_WF (P : Prog) (v : GoVal) : ∀ (ty : Ty) (w : WVal), WT P.structs ty v → toW P ty v = .ok w →
    WF w ∧ w.ttype = ty.ttype := by
  intro ty w hwt h
  by_cases hb : ty.isBase = true
  · rw [toW_base P ty v hb, Res.ofOption_eq_ok] at h
    exact scalarW_WF ty v w P hwt h
  cases ty with
  | list e =>
    cases v with
    | nil => cases h; exact ⟨⟨by decide, trivial⟩, rfl⟩
    | list xs =>
      obtain ⟨ws, h1, rfl⟩ := toW_list_ok.mp h
      obtain ⟨hl, hn⟩ := toWList_WF P xs e ws hwt.2 h1
      exact ⟨⟨hn ▸ hwt.1, hl⟩, rfl⟩
    | _ => exact hwt.elim
  | set e =>
    cases v with
    | nil => cases h; exact ⟨⟨by decide, trivial⟩, rfl⟩
    | list xs =>
      obtain ⟨_, ws, h1, rfl⟩ := toW_set_ok.mp h
      obtain ⟨hl, hn⟩ := toWList_WF P xs e ws hwt.2 h1
      exact ⟨⟨hn ▸ hwt.1, hl⟩, rfl⟩
    | _ => exact hwt.elim
  | map k vt =>
    cases v with
    | nil => cases h; exact ⟨⟨by decide, trivial⟩, rfl⟩
    | map kvs =>
      obtain ⟨ws, h1, rfl⟩ := toW_map_ok.mp h
      obtain ⟨hl, hn⟩ := toWPairs_WF P kvs k vt ws hwt.2.1 h1
      exact ⟨⟨hn ▸ hwt.1, hl⟩, rfl⟩
    | _ => exact hwt.elim
  | struct i =>
    cases v with
    | strct fs =>
      obtain ⟨sd, hsd, hf⟩ := hwt
      obtain ⟨_, ws, h1, rfl⟩ := (toW_struct_ok hsd).mp h
      exact ⟨toWFields_WF P fs sd.fields ws hf h1, rfl⟩
    | _ => exact hwt.elim
  | _ => exact absurd rfl hb

theorem toWList_WF (P : Prog) (xs : List GoVal) : ∀ (e : Ty) (ws : List WVal), WTList P.structs e xs →
    toWList P e xs = .ok ws → WFList e.ttype ws ∧ ws.length = xs.length := by
  intro e ws hwt h
  cases xs with
  | nil => cases h; exact ⟨trivial, rfl⟩
  | cons x r =>
    obtain ⟨w, h1, ws', h2, rfl⟩ := toWList_cons_ok.mp h
    obtain ⟨hw, ht⟩ := toW_WF P x e w hwt.1 h1
    obtain ⟨hl, hn⟩ := toWList_WF P r e ws' hwt.2 h2
    exact ⟨⟨ht, hw, hl⟩, congrArg (· + 1) hn⟩

theorem toWPairs_WF (P : Prog) (kvs : List (GoVal × GoVal)) : ∀ (k v : Ty) (ws : List (WVal × WVal)),
    WTPairs P.structs k v kvs → toWPairs P k v kvs = .ok ws → WFPairs k.ttype v.ttype ws ∧ ws.length = kvs.length := by
  intro k v ws hwt h
  cases kvs with
  | nil => cases h; exact ⟨trivial, rfl⟩
  | cons x r =>
    obtain ⟨a, b⟩ := x
    obtain ⟨wa, h1, wb, h2, ws', h3, rfl⟩ := toWPairs_cons_ok.mp h
    obtain ⟨hwa, hta⟩ := toW_WF P a k wa hwt.1 h1
    obtain ⟨hwb, htb⟩ := toW_WF P b v wb hwt.2.1 h2
    obtain ⟨hl, hn⟩ := toWPairs_WF P r k v ws' hwt.2.2 h3
    exact ⟨⟨hta, htb, hwa, hwb, hl⟩, congrArg (· + 1) hn⟩

theorem toWFields_WF (P : Prog) (vs : List GoVal) : ∀ (defs : List FieldDef) (ws : List (Nat × WVal)),
    WTFields P.structs defs vs → toWFields P defs vs = .ok ws → WFFields ws := by
  intro defs ws hwt h
  cases vs with
  | nil =>
    cases defs with
    | nil => cases h; trivial
    | cons f fs => exact hwt.elim
  | cons v vs' =>
    cases defs with
    | nil => exact hwt.elim
    | cons f fs =>
      by_cases hc : (decide (f.req = .optional) && !isSet f v) = true
      · rw [toWFields_skipped hc] at h
        exact toWFields_WF P vs' fs ws hwt.2.2.2 h
      · obtain ⟨w, h1, ws', h2, rfl⟩ := (toWFields_written_ok hc).mp h
        exact ⟨pat_lt_bytes pow256.2.1 f.id, (toW_WF P v f.ty w (WT_of_written hwt hc) h1).1,
          toWFields_WF P vs' fs ws' hwt.2.2.2 h2⟩
end

/-- `m` is half the modulus; `h1`, `h2` are closed by `rfl` at each concrete width -/
theorem unpat_pat (bits m : Nat) (x : Int) (h1 : 2 ^ (bits - 1) = m) (h2 : 2 ^ bits = 2 * m)
    (h : -(m : Int) ≤ x ∧ x < m) : unpat bits (pat bits x) = x := by
  have e : (2 : Int) ^ bits = 2 * (m : Int) := by exact_mod_cast h2
  unfold unpat pat
  rw [h1, e]
  by_cases hx : 0 ≤ x
  · rw [Int.emod_eq_of_lt hx (by omega), if_neg (by omega)]
    omega
  · rw [← Int.add_emod_right, Int.emod_eq_of_lt (by omega) (by omega), if_pos (by omega)]
    omega

theorem unpat_pat16 (x : Int) (h : -32768 ≤ x ∧ x < 32768) : unpat 16 (pat 16 x) = x :=
  unpat_pat 16 32768 x rfl rfl h

theorem unpat16_range (x : Nat) (h : x < 65536) : -32768 ≤ unpat 16 x ∧ unpat 16 x < 32768 := by
  unfold unpat
  have e1 : (2:Nat) ^ (16 - 1) = 32768 := by decide
  have e2 : ((2:Int) ^ 16) = 65536 := by decide
  rw [e1, e2]
  split <;> omega

theorem pat_unpat16 (x : Nat) (h : x < 65536) : pat 16 (unpat 16 x) = x := by
  unfold unpat pat
  have e1 : (2:Nat) ^ (16 - 1) = 32768 := by decide
  have e2 : ((2:Int) ^ 16) = 65536 := by decide
  rw [e1, e2]
  split <;> omega

def idOf (f : FieldDef) : Nat := pat 16 f.id

theorem toWFields_sublist (P : Prog) : ∀ (defs : List FieldDef) (vs : List GoVal) (ws : List (Nat × WVal)),
    toWFields P defs vs = .ok ws → (ws.map (·.1)).Sublist (defs.map idOf)
  | [], [], _, h => by cases h; exact .slnil
  | [], _ :: _, _, h => by cases h
  | _ :: _, [], _, h => by cases h
  | f :: fs, v :: vs, ws, h => by
    by_cases hc : (decide (f.req = .optional) && !isSet f v) = true
    · rw [toWFields_skipped hc] at h
      exact (toWFields_sublist P fs vs ws h).cons _
    · obtain ⟨w, _, ws', h2, rfl⟩ := (toWFields_written_ok hc).mp h
      exact (toWFields_sublist P fs vs ws' h2).cons_cons _

theorem toWFields_ids (P : Prog) (defs : List FieldDef) (vs : List GoVal) (ws : List (Nat × WVal))
    (h : toWFields P defs vs = .ok ws) : ∀ x ∈ ws, x.1 ∈ defs.map idOf :=
  fun _ hx => (toWFields_sublist P defs vs ws h).subset (List.mem_map_of_mem hx)

theorem countSet_written (P : Prog) : ∀ (defs : List FieldDef) (vs : List GoVal) (ws : List (Nat × WVal)),
    toWFields P defs vs = .ok ws → (∀ f ∈ defs, f.req = .optional) → ws.length = countSet defs vs
  | [], [], ws, h, _ => by cases h; rfl
  | [], _ :: _, ws, h, _ => by cases h
  | _ :: _, [], ws, h, _ => by cases h
  | f :: fs, v :: vs, ws, h, ho => by
    have hf : f.req = .optional := ho f (List.mem_cons_self ..)
    have ih := fun ws h => countSet_written P fs vs ws h fun g hg => ho g (List.mem_cons_of_mem _ hg)
    cases hs : isSet f v
    · rw [toWFields_skipped (by rw [hs, hf]; rfl)] at h
      simp only [countSet, hs, Bool.false_eq_true, if_false, Nat.zero_add]
      exact ih ws h
    · obtain ⟨w, _, ws', h2, rfl⟩ := (toWFields_written_ok (by rw [hs, hf]; decide)).mp h
      simp only [countSet, hs, if_true, List.length_cons, ih ws' h2, Nat.add_comm]

theorem depth_pos (w : WVal) : 1 ≤ w.depth := by cases w <;> simp [WVal.depth]

def noVal (P : Prog) : Prog := { P with validateSet := false }

mutual
theorem toW_noVal (P : Prog) (v : GoVal) : ∀ (ty : Ty) (w : WVal), toW P ty v = .ok w → toW (noVal P) ty v = .ok w := by
  intro ty w h
  by_cases hb : ty.isBase = true
  · rw [toW_base _ _ _ hb] at h ⊢; exact h
  -- only the `set` and `struct` cases look at the program; elsewhere the two sides unfold to the same term
  cases ty with
  | list e =>
    cases v with
    | list xs =>
      obtain ⟨ws, h1, rfl⟩ := toW_list_ok.mp h
      exact toW_list_ok.mpr ⟨ws, toWList_noVal P xs e ws h1, rfl⟩
    | _ => exact h
  | set e =>
    cases v with
    | list xs =>
      obtain ⟨_, ws, h1, rfl⟩ := toW_set_ok.mp h
      exact toW_set_ok.mpr ⟨rfl, ws, toWList_noVal P xs e ws h1, rfl⟩
    | _ => exact h
  | map k vt =>
    cases v with
    | map kvs =>
      obtain ⟨ws, h1, rfl⟩ := toW_map_ok.mp h
      exact toW_map_ok.mpr ⟨ws, toWPairs_noVal P kvs k vt ws h1, rfl⟩
    | _ => exact h
  | struct i =>
    cases v with
    | strct fs =>
      cases hs : P.structs[i]? with
      | none => simp [toW, Prog.struct?, hs] at h
      | some sd =>
        obtain ⟨hc, ws, h1, rfl⟩ := (toW_struct_ok hs).mp h
        exact (toW_struct_ok (P := noVal P) hs).mpr ⟨hc, ws, toWFields_noVal P fs sd.fields ws h1, rfl⟩
    | _ => exact h
  | _ => exact absurd rfl hb
theorem toWList_noVal (P : Prog) (xs : List GoVal) : ∀ (e : Ty) (ws : List WVal), toWList P e xs = .ok ws →
    toWList (noVal P) e xs = .ok ws := by
  intro e ws h
  cases xs with
  | nil => exact h
  | cons x r =>
    obtain ⟨w, h1, ws', h2, rfl⟩ := toWList_cons_ok.mp h
    exact toWList_cons_ok.mpr ⟨w, toW_noVal P x e w h1, ws', toWList_noVal P r e ws' h2, rfl⟩
theorem toWPairs_noVal (P : Prog) (kvs : List (GoVal × GoVal)) : ∀ (k v : Ty) (ws : List (WVal × WVal)),
    toWPairs P k v kvs = .ok ws → toWPairs (noVal P) k v kvs = .ok ws := by
  intro k v ws h
  cases kvs with
  | nil => exact h
  | cons x r =>
    obtain ⟨a, b⟩ := x
    obtain ⟨wa, h1, wb, h2, ws', h3, rfl⟩ := toWPairs_cons_ok.mp h
    exact toWPairs_cons_ok.mpr ⟨wa, toW_noVal P a k wa h1, wb, toW_noVal P b v wb h2, ws',
      toWPairs_noVal P r k v ws' h3, rfl⟩
theorem toWFields_noVal (P : Prog) (vs : List GoVal) : ∀ (defs : List FieldDef) (ws : List (Nat × WVal)),
    toWFields P defs vs = .ok ws → toWFields (noVal P) defs vs = .ok ws := by
  intro defs ws h
  cases vs with
  | nil => cases defs <;> exact h
  | cons v vs' =>
    cases defs with
    | nil => exact h
    | cons f fs =>
      by_cases hc : (decide (f.req = .optional) && !isSet f v) = true
      · rw [toWFields_skipped hc] at h ⊢
        exact toWFields_noVal P vs' fs ws h
      · obtain ⟨w, h1, ws', h2, rfl⟩ := (toWFields_written_ok hc).mp h
        exact (toWFields_written_ok hc).mpr ⟨w, toW_noVal P v f.ty w h1, ws', toWFields_noVal P vs' fs ws' h2, rfl⟩
end

mutual
theorem depth_le_len (w : WVal) : w.depth ≤ (encW w).length := by
  cases w with
  | struct fs =>
    have := depthFields_le fs
    simp only [WVal.depth, encW, List.length_append, List.length_singleton]; omega
  | map kt vt kvs =>
    have := depthPairs_le kvs
    simp only [WVal.depth, encW, List.length_append, List.length_cons, List.length_nil, be_length]; omega
  | set et xs | list et xs =>
    have := depthList_le xs
    simp only [WVal.depth, encW, List.length_append, List.length_cons, List.length_nil, be_length]; omega
  | bin bs => simp only [WVal.depth, encW, List.length_append, be_length]; omega
  | bool b => exact Nat.le_refl 1
  | i8 v | dbl v | i16 v | i32 v | i64 v => simp only [WVal.depth, encW, be_length]; omega
theorem depthFields_le (fs : List (Nat × WVal)) : depthFields fs ≤ (encFields fs).length := by
  cases fs with
  | nil => exact Nat.le_refl 0
  | cons a r =>
    have := depth_le_len a.2
    have := depthFields_le r
    simp only [depthFields, encFields, List.length_append, List.length_singleton, be_length]; omega
theorem depthPairs_le (kvs : List (WVal × WVal)) : depthPairs kvs ≤ (encPairs kvs).length := by
  cases kvs with
  | nil => exact Nat.le_refl 0
  | cons a r =>
    have := depth_le_len a.1
    have := depth_le_len a.2
    have := depthPairs_le r
    simp only [depthPairs, encPairs, List.length_append]; omega
theorem depthList_le (xs : List WVal) : depthList xs ≤ (encList xs).length := by
  cases xs with
  | nil => exact Nat.le_refl 0
  | cons x r =>
    have := depth_le_len x
    have := depthList_le r
    simp only [depthList, encList, List.length_append]; omega
end

end Gen.Std
