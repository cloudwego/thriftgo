import ThriftVerif.Gen.DeepEqSymm
/- DeepEqual is structural equality: whatever the form of the map loop on the `aligned` pairs, and with the comma-ok form
   (`_src, ok := src[k]; if !ok { return false }`, Facts.commaOk = true) on every well-shaped pair whose struct-keyed
   maps are empty (or differ in size) and without the optional-binary clash. The only non-structural step is a pigeonhole
   argument: two Go maps of the same size, every key of the one found in the other, have the same key set. -/
namespace Gen.DeepEq
open Gen

theorem index_isSome_iff (k : Ty) (hk : k.isStruct = false) {m m' : List (GoVal × GoVal)} (hw : keysWF k m = true)
    (hw' : keysWF k m' = true) {e' : GoVal × GoVal} (he' : e' ∈ m') :
    (index k m e'.1).isSome = true ↔ canonKey e'.1 ∈ keysC m := by
  rw [index_isSome, keysC, List.mem_map]
  exact exists_congr fun e => and_congr_right fun he => keyEq_mem_iff k hk hw hw' he he'

theorem keys_pigeonhole (k : Ty) (hk : k.isStruct = false) (ma mb : List (GoVal × GoVal))
    (hwa : keysWF k ma = true) (hwb : keysWF k mb = true) (hl : ma.length = mb.length)
    (h : ∀ e ∈ ma, (index k mb e.1).isSome = true) : ∀ e' ∈ mb, (index k ma e'.1).isSome = true := by
  have hsub : keysC ma ⊆ keysC mb :=
    List.forall_mem_map.mpr fun e he => (index_isSome_iff k hk hwb hwa he).mp (h e he)
  have hrev := (keysC_nodup k hk ma hwa).subset_of_length_le hsub (by simp [keysC, hl])
  intro e' he'
  exact (index_isSome_iff k hk hwa hwb he').mpr (hrev (List.mem_map_of_mem he'))

mutual
/-- `aligned` without its condition on the key SETS: a key of the left map may be missing on the right; in exchange both
    maps have to respect the Go map invariant (`keysWF`), which the pigeonhole argument needs -/
def shaped (P : Prog) (ty : Ty) (a b : GoVal) : Bool :=
  match ty, a with
  | .struct _, .nil => true
  | .struct i, .strct fs =>
      match b with
      | .nil => true
      | .strct gs =>
          match P.struct? i with
          | some sd => shapedFields P sd.fields fs gs
          | none => false
      | _ => false
  | .list _, .nil => true
  | .list e, .list xs => xs.length != (elemsOf b).length || shapedList P e xs (elemsOf b)
  | .set _, .nil => true
  | .set e, .list xs => xs.length != (elemsOf b).length || shapedList P e xs (elemsOf b)
  | .map _ _, .nil => true
  | .map k v, .map kvs =>
      kvs.length != (entriesOf b).length ||
      (if k.isStruct then kvs.isEmpty
       else keysWF k kvs && keysWF k (entriesOf b) && shapedEntries P k v kvs (entriesOf b))
  | ty, a => baseOK ty a && baseOK ty b
termination_by structural a
def shapedList (P : Prog) (e : Ty) (xs ys : List GoVal) : Bool :=
  match xs, ys with
  | x :: xs, y :: ys => shaped P e x y && shapedList P e xs ys
  | _, _ => true
termination_by structural xs
def shapedEntries (P : Prog) (k v : Ty) (kvs other : List (GoVal × GoVal)) : Bool :=
  match kvs with
  | [] => true
  | (key, val) :: r =>
      (match index k other key with
       | some w => shaped P v val w
       | none => true) && shapedEntries P k v r other
termination_by structural kvs
def shapedFields (P : Prog) (defs : List FieldDef) (as bs : List GoVal) : Bool :=
  match defs, as, bs with
  | [], [], [] => true
  | f :: fs, a :: as, b :: bs =>
      (if isPtrField f then isNilV a || isNilV b || (baseOK f.ty a && baseOK f.ty b)
       else (if presenceSlot f && f.ty == .bin then isNilV a == isNilV b else true) && shaped P f.ty a b)
      && shapedFields P fs as bs
  | _, _, _ => false
termination_by structural as
end

/-- `al` (what `aligned` asks at some point of the walk) holds, or the loop has the comma-ok form and `sh` (what `shaped`
asks there) holds. The two conditions differ at maps only, so one walk (`eq_valEq_all`) serves both. -/
def Covered (F : Facts) (al sh : Bool) : Prop := al = true ∨ (F.commaOk = true ∧ sh = true)

theorem Covered.and {F : Facts} {al₁ al₂ sh₁ sh₂ : Bool} (h : Covered F (al₁ && al₂) (sh₁ && sh₂)) :
    Covered F al₁ sh₁ ∧ Covered F al₂ sh₂ := by
  simp only [Covered, Bool.and_eq_true] at h ⊢
  exact h.elim (fun h => ⟨.inl h.1, .inl h.2⟩) (fun h => ⟨.inr ⟨h.1, h.2.1⟩, .inr ⟨h.1, h.2.2⟩⟩)

theorem Covered.same {F : Facts} {x : Bool} (h : Covered F x x) : x = true := h.elim id (·.2)

theorem Covered.lenOr {F : Facts} {n m : Nat} {al sh : Bool} (hl : n = m) (h : Covered F (n != m || al) (n != m || sh)) :
    Covered F al sh := by
  subst hl
  simpa [Covered] using h

/-- for the `case n` see the note above `ne_panic_all` in Gen/DeepEqLemmas -/
theorem eq_valEq_all (F : Facts) (hF : F.lenTest = true) (P : Prog) :
    (∀ ty a b, Covered F (aligned P ty a b) (shaped P ty a b) → deepEqual F P ty a b = .ok (valEq P ty a b)) ∧
    (∀ k v kvs src, Covered F (alignedEntries P k v kvs src) (shapedEntries P k v kvs src) →
      deepEqEntries F P k v kvs src = .ok (valEqEntries P k v kvs src)) ∧
    (∀ e xs i src, i + xs.length = src.length →
      Covered F (alignedList P e xs (src.drop i)) (shapedList P e xs (src.drop i)) →
      deepEqElems F P e xs i src = .ok (valEqList P e xs (src.drop i))) ∧
    (∀ defs as bs, Covered F (alignedFields P defs as bs) (shapedFields P defs as bs) →
      deepEqFields F P defs as bs = .ok (valEqFields P defs as bs)) := by
  apply deepEqual.mutual_induct F P
  case case3 =>
    intro i fs gs sd hs ih h
    simp only [aligned, shaped, hs] at h
    simp only [deepEqual, valEq, hs]
    exact ih h
  case case7 | case10 =>
    intro b e xs hl _
    have hv : valEqList P e xs (elemsOf b) = false :=
      Bool.eq_false_iff.mpr fun hv => by simp [valEqList_length P e xs _ hv] at hl
    rw [deepEqual, if_pos hl, valEq, hv]
  case case8 | case11 =>
    intro b e xs hl ih h
    have hl' : xs.length = (elemsOf b).length := by simpa [hF] using hl
    rw [deepEqual, if_neg hl, valEq]
    simpa using ih (by omega) (by simpa using Covered.lenOr hl' h)
  case case13 =>
    intro b k v kvs hl _
    have : (kvs.length == (entriesOf b).length) = false := by simpa [hF] using hl
    rw [deepEqual, if_pos hl, valEq, this]
    rfl
  case case14 =>
    intro b k v kvs hl' ih h
    have hl : kvs.length = (entriesOf b).length := by simpa [hF] using hl'
    rw [deepEqual, if_neg hl']
    simp only [valEq]
    have h2 := Covered.lenOr hl h
    cases hk : k.isStruct
    · simp only [hk, if_false, Bool.false_eq_true] at h2 ⊢
      cases h2 with
      | inl h2 =>
        rw [Bool.and_eq_true] at h2
        simp [hl, ih (.inl h2.1), h2.2]
      | inr h2 =>
        simp only [Bool.and_eq_true] at h2
        have hde := ih (.inr ⟨h2.1, h2.2.2⟩)
        cases hv : valEqEntries P k v kvs (entriesOf b) with
        | false => simp [hl, hde, hv]
        | true =>
          have hsome := ((valEqEntries_iff P k v (entriesOf b) kvs).mp hv).found
          have hall := List.all_eq_true.mpr (keys_pigeonhole k hk kvs (entriesOf b) h2.2.1.1 h2.2.1.2 hl hsome)
          simp [hl, hde, hv, hall]
    · simp only [hk, if_true] at h2 ⊢
      have hnil : kvs = [] := by simpa using h2.same
      subst hnil
      have hb : entriesOf b = [] := List.eq_nil_of_length_eq_zero hl.symm
      simp [hb, deepEqEntries, valEqSub]
  case case15 =>
    intro b ty a _ _ _ _ _ _ _ _ h
    simp only [deepEqual, valEq, aligned, shaped, *] at h ⊢
    exact congrArg Res.ok (baseEq_eq_scalarEq h.same)
  case case16 =>
    intro e i src hlen _
    rw [List.drop_eq_nil_of_le (by simp at hlen; omega)]
    rfl
  case case17 =>
    intro e i src v r hn hlen
    simp at hn hlen
    omega
  case case18 =>
    intro e i src v r s hs ih2 ih1 hlen h
    obtain ⟨hi, rfl⟩ := List.getElem?_eq_some_iff.mp hs
    rw [List.drop_eq_getElem_cons hi] at h ⊢
    have h := Covered.and h
    exact deepEqElems_cons hi (ih2 h.1) (ih1 (by simp at hlen; omega) h.2)
  case case20 =>
    intro f fs a as b bs ih2 ih1 h
    have h := Covered.and h
    have hfield : fieldEq F P f a b = .ok (fieldSpec P f a b) := by
      have h1 := h.1
      unfold fieldEq
      by_cases hp : isPtrField f = true
      · rw [if_pos hp, if_pos hp] at h1
        rw [if_pos hp, field_ptr P f a b hp h1.same]
      · rw [if_neg hp, if_neg hp] at h1
        rw [if_neg hp, ih2 h1.and.2, field_nonptr P f a b hp h1.and.1.same]
    rw [deepEqFields_cons_eq, valEqFields]
    exact andThen_ok hfield (ih1 h.2)
  case case23 =>
    intro k v src key val r hi hC _
    simp [deepEqEntries, valEqEntries, hi, hC]
  case case24 =>
    intro k v src key val r hi hC _ _ h
    have h := Covered.and h
    simp only [hi] at h
    exact absurd (h.1.elim (fun h => by cases h) (·.1)) hC
  case case25 =>
    intro k v src key val r s hi ih2 ih1 h
    have h := Covered.and h
    simp only [hi] at h
    simp only [valEqEntries, hi]
    exact deepEqEntries_cons hi (ih2 h.1) (ih1 h.2)
  case case6 | case9 | case12 =>
    intros
    simp [deepEqual, valEq, hF]
  case case4 | case5 | case21 =>
    intros
    rename_i h
    simp only [aligned, shaped, alignedFields, shapedFields, *] at h
    cases h.same
  all_goals intros
  all_goals rfl

theorem deepEqElems_eq (F : Facts) (hF : F.lenTest = true) (P : Prog) (xs : List GoVal) :
    ∀ (e : Ty) (i : Nat) (src : List GoVal), i + xs.length = src.length → alignedList P e xs (src.drop i) = true →
      deepEqElems F P e xs i src = .ok (valEqList P e xs (src.drop i)) :=
  fun e i src hlen h => (eq_valEq_all F hF P).2.2.1 e xs i src hlen (.inl h)

theorem deepEqEntries_eq (F : Facts) (hF : F.lenTest = true) (P : Prog) (kvs : List (GoVal × GoVal)) :
    ∀ (k v : Ty) (src : List (GoVal × GoVal)), alignedEntries P k v kvs src = true →
      deepEqEntries F P k v kvs src = .ok (valEqEntries P k v kvs src) :=
  fun k v src h => (eq_valEq_all F hF P).2.1 k v kvs src (.inl h)

theorem deepEqFields_eq (F : Facts) (hF : F.lenTest = true) (P : Prog) (as : List GoVal) :
    ∀ (defs : List FieldDef) (bs : List GoVal), alignedFields P defs as bs = true →
      deepEqFields F P defs as bs = .ok (valEqFields P defs as bs) :=
  fun defs bs h => (eq_valEq_all F hF P).2.2.2 defs as bs (.inl h)

theorem deepEqElems_eq_rep (F : Facts) (hF : F.lenTest = true) (hC : F.commaOk = true) (P : Prog) (xs : List GoVal) :
    ∀ (e : Ty) (i : Nat) (src : List GoVal), i + xs.length = src.length → shapedList P e xs (src.drop i) = true →
      deepEqElems F P e xs i src = .ok (valEqList P e xs (src.drop i)) :=
  fun e i src hlen h => (eq_valEq_all F hF P).2.2.1 e xs i src hlen (.inr ⟨hC, h⟩)

theorem deepEqEntries_eq_rep (F : Facts) (hF : F.lenTest = true) (hC : F.commaOk = true) (P : Prog) (kvs : List (GoVal × GoVal)) :
    ∀ (k v : Ty) (src : List (GoVal × GoVal)), shapedEntries P k v kvs src = true →
      deepEqEntries F P k v kvs src = .ok (valEqEntries P k v kvs src) :=
  fun k v src h => (eq_valEq_all F hF P).2.1 k v kvs src (.inr ⟨hC, h⟩)

theorem deepEqFields_eq_rep (F : Facts) (hF : F.lenTest = true) (hC : F.commaOk = true) (P : Prog) (as : List GoVal) :
    ∀ (defs : List FieldDef) (bs : List GoVal), shapedFields P defs as bs = true →
      deepEqFields F P defs as bs = .ok (valEqFields P defs as bs) :=
  fun defs bs h => (eq_valEq_all F hF P).2.2.2 defs as bs (.inr ⟨hC, h⟩)

end Gen.DeepEq
