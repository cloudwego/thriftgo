import ThriftVerif.Gen.StdLemmas
/-
  A Bool-valued checker for `Gen.Std.SchemaOK` with a soundness lemma, so that `SchemaOK` of a
  regenerated (concrete) schema is discharged by `decide` on `schemaOkB`.
-/
namespace Gen.Std
open Gen

def dfltOptB (f : FieldDef) : Bool :=
  !(f.req == .optional) || !f.dflt.isSome || f.ty.isBase

def unsetB : List FieldDef → List GoVal → Bool
  | f :: fs, c :: cs => (!(f.req == .optional) || !isSet f c) && unsetB fs cs
  | _, _ => true

def nodupB : List Nat → Bool
  | [] => true
  | x :: r => !r.contains x && nodupB r

def structOkB (sd : StructDef) : Bool :=
  nodupB (sd.fields.map idOf) && sd.fields.all dfltOptB && unsetB sd.fields (initVals sd) &&
  (!(sd.kind == 1) || sd.fields.all (fun f => f.req == .optional))

def schemaOkB (P : Prog) : Bool := P.structs.all structOkB

theorem nodupB_sound : ∀ (l : List Nat), nodupB l = true → l.Nodup
  | [], _ => List.nodup_nil
  | x :: r, h => by
    simp only [nodupB, Bool.and_eq_true, Bool.not_eq_true', List.contains_eq_mem, decide_eq_false_iff_not] at h
    exact List.nodup_cons.mpr ⟨h.1, nodupB_sound r h.2⟩

theorem unsetB_sound : ∀ (fs : List FieldDef) (cs : List GoVal), unsetB fs cs = true → Unset fs cs
  | [], _, _ => trivial
  | _ :: _, [], _ => trivial
  | f :: fs, c :: cs, h => by
    simp only [unsetB, Bool.and_eq_true, Bool.or_eq_true, Bool.not_eq_true', beq_eq_false_iff_ne, ne_eq] at h
    exact ⟨fun ho => h.1.resolve_left fun hn => hn ho, unsetB_sound fs cs h.2⟩

theorem structOkB_sound (sd : StructDef) (h : structOkB sd = true) : StructOK sd := by
  simp only [structOkB, Bool.and_eq_true, Bool.or_eq_true, Bool.not_eq_true', beq_eq_false_iff_ne, ne_eq,
    List.all_eq_true, beq_iff_eq] at h
  obtain ⟨⟨⟨h1, h2⟩, h3⟩, h4⟩ := h
  refine ⟨nodupB_sound _ h1, ?_, unsetB_sound _ _ h3, ?_⟩
  · intro f hf ho hd
    have := h2 f hf
    simp only [dfltOptB, Bool.or_eq_true, Bool.not_eq_true', beq_eq_false_iff_ne, ne_eq] at this
    rcases this with (h | h) | h
    · exact absurd ho h
    · rw [hd] at h; cases h
    · exact h
  · exact fun hk => h4.resolve_left fun hn => hn hk

theorem schemaOkB_sound (P : Prog) (h : schemaOkB P = true) : SchemaOK P := by
  intro i sd hsd
  simp only [schemaOkB, List.all_eq_true] at h
  exact structOkB_sound sd (h sd (List.mem_of_getElem? hsd))

end Gen.Std
