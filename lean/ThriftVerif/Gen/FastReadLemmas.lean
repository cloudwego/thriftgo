import ThriftVerif.Gen.FastSkipLemmas
/- helper lemmas about Gen.Fast for Props/C10: FastRead (linked with gopkg) refines the standard Read of Gen.Std:
   the switch `uint32(fid)<<8|uint32(ftyp)` selects a field exactly when `switch id` + type test does, gopkg's scalar
   primitives followed by the slice `b[off:]` are the protocol primitives of Core.Wire, its container and field headers read
   what `readN` reads, and gopkg's Skip accepts what the strict skip of Gen.Std accepts -/
namespace Gen.Fast
open Wire Gen

/-- `uint32(a) << 8` leaves the low byte free -/
theorem shl8_spec (a : Int) : (pat 32 a * 256) % 4294967296 % 256 = 0 ∧ (pat 32 a * 256) % 4294967296 < 4294967296 := by
  omega

theorem shl8_inj {a b : Int} (ha : -32768 ≤ a ∧ a < 32768) (hb : -32768 ≤ b ∧ b < 32768)
    (h : (pat 32 a * 256) % 4294967296 = (pat 32 b * 256) % 4294967296) : a = b := by
  unfold pat at h
  omega

theorem code_le (ty : Ty) : ty.ttype.code ≤ 15 := by
  cases ty <;> simp [Ty.ttype, TType.code]

/-- two keys `id << 8 | byte` agree iff ids and bytes do; a key `0xFFFFFF00 | byte ≥ 0x80` (negative `int8` type byte, sign-extended over
the id bits) is no case constant -/
theorem key_arith {A B c t : Nat} (hA : A % 256 = 0 ∧ A < 4294967296) (hB : B % 256 = 0 ∧ B < 4294967296) (hc : c ≤ 15) :
    (128 ≤ t → A + c ≠ 4294967040 + t) ∧ (¬ 128 ≤ t → (A + c = B + t ↔ A = B ∧ c = t)) := by
  omega

theorem key_eq (P : Prog) (f : FieldDef) (fid ftyp : Nat) (hr : -32768 ≤ f.id ∧ f.id < 32768) (hf : fid < 65536) :
    caseKey P f = switchKey fid ftyp ↔ (pat 16 f.id = fid ∧ f.ty.ttype.code = ftyp) := by
  unfold caseKey switchKey Gopkg.neg
  rw [wireTypeOf_eq]
  obtain ⟨hneg, hpos⟩ := @key_arith _ _ _ ftyp (shl8_spec f.id) (shl8_spec (unpat 16 fid)) (code_le f.ty)
  by_cases hn : 128 ≤ ftyp
  · simp only [hn, decide_true, if_true]
    exact iff_of_false (hneg hn) fun h => absurd (h.2 ▸ code_le f.ty) (by omega)
  · simp only [hn, decide_false, Bool.false_eq_true, if_false, hpos hn]
    refine and_congr_left fun _ => ⟨fun h => ?_, fun h => ?_⟩
    · rw [shl8_inj hr (Std.unpat16_range fid hf) h, Std.pat_unpat16 fid hf]
    · rw [← h, Std.unpat_pat16 f.id hr]

def FieldsOK (defs : List FieldDef) : Prop :=
  (defs.map Std.idOf).Nodup ∧ ∀ f ∈ defs, -32768 ≤ f.id ∧ f.id < 32768

theorem findCase_go_eq (P : Prog) (fid ftyp : Nat) (hf : fid < 65536) :
    ∀ (defs : List FieldDef) (i : Nat), FieldsOK defs →
      findCase.go P (switchKey fid ftyp) defs i =
        (match Std.findField.go fid defs i with
         | some (j, f) => if f.ty.ttype.code = ftyp then some (j, f) else none
         | none => none) := by
  intro defs
  induction defs with
  | nil => intro i _; rfl
  | cons f r ih =>
    intro i hok
    obtain ⟨hnd, hr⟩ := hok
    simp only [List.map_cons, List.nodup_cons] at hnd
    have hrec := ih (i + 1) ⟨hnd.2, fun g hg => hr g (by simp [hg])⟩
    simp only [findCase.go, Std.findField.go, key_eq P f fid ftyp (hr f (by simp)) hf]
    by_cases hid : pat 16 f.id = fid
    · by_cases ht : f.ty.ttype.code = ftyp
      · simp only [hid, ht, and_self, if_true]
      · -- the ids are distinct, so the standard switch finds nothing further on, and neither does this one
        simp only [hid, ht, and_false, if_true, if_false, hrec, Std.findField_go_eq_none.2 (hid ▸ hnd.1 : fid ∉ r.map Std.idOf)]
    · simp only [hid, false_and, if_false]
      exact hrec

theorem findCase_eq (P : Prog) (defs : List FieldDef) (fid ftyp : Nat) (hf : fid < 65536) (hok : FieldsOK defs) :
    findCase P defs (switchKey fid ftyp) =
      (match Std.findField defs fid with
       | some (j, f) => if f.ty.ttype.code = ftyp then some (j, f) else none
       | none => none) := by
  unfold findCase Std.findField
  exact findCase_go_eq P fid ftyp hf defs 0 hok

def B256 (bs : Bytes) : Prop := ∀ b ∈ bs, b < 256

namespace B256

theorem drop {bs : Bytes} (h : B256 bs) (k : Nat) : B256 (bs.drop k) :=
  fun b hb => h b (List.mem_of_mem_drop hb)

theorem of_readN {bs r : Bytes} {n x : Nat} (hB : B256 bs) (h : readN n bs = some (x, r)) : B256 r := by
  rw [(readN_some h).2.2]; exact hB.drop n

theorem of_readBytes {bs b r : Bytes} {n : Nat} (hB : B256 bs) (h : readBytes n bs = some (b, r)) : B256 r := by
  rw [(readBytes_some h).2.2]; exact hB.drop n

theorem of_readScalar {ty : Ty} {bs r : Bytes} {v : GoVal} (hB : B256 bs) (h : Std.readScalar ty bs = some (v, r)) :
    B256 r := by
  revert h
  fun_cases Std.readScalar ty bs
  -- cases of readScalar as in `Std.readScalar_append`
  case case10 h4 _ | case13 h4 _ =>
    intro h
    obtain ⟨q, hq, hv⟩ := Option.map_eq_some_iff.mp h
    cases hv
    exact (hB.of_readN h4).of_readBytes hq
  case case8 | case9 | case11 | case12 | case14 => nofun
  all_goals
    intro h
    obtain ⟨q, hq, hv⟩ := Option.map_eq_some_iff.mp h
    cases hv
    exact hB.of_readN hq

end B256

/-- `ReadBool/Byte/I16/I32/I64/Double` followed by `off += l; b[off:]` is `readN` -/
theorem readFixedVal_eq (n : Nat) (mk : Nat → GoVal) (bs : Bytes) :
    readFixedVal n mk bs = FRes.ofOption ((readN n bs).map fun (x, r) => (mk x, r)) := by
  unfold readFixedVal Gopkg.readFixed readN
  by_cases h : bs.length < n
  · simp only [if_pos h]
    rfl
  · simp only [if_neg h, advance_ok bs n (Nat.le_of_not_lt h)]
    rfl

/-- `ReadString/ReadBinary` followed by `off += l; b[off:]` is `readScalar .str` -/
theorem readBinVal_eq (bs : Bytes) :
    (match Gopkg.readBin bs with
      | none => .err
      | some (b, l) => do
          let rest' ← advance bs l
          .ok (GoVal.bytes b, rest')) = FRes.ofOption (Std.readScalar .str bs) := by
  unfold Gopkg.readBin Std.readScalar readN readBytes Gopkg.u32
  by_cases h4 : bs.length < 4
  · simp only [if_pos h4]
    rfl
  · simp only [if_neg h4]
    by_cases hn : unbe (bs.take 4) ≥ maxSize
    · simp only [if_pos hn]
      rfl
    · simp only [if_neg hn, List.length_drop, Nat.sub_lt_iff_lt_add' (Nat.le_of_not_lt h4)]
      by_cases hl : bs.length < 4 + unbe (bs.take 4)
      · simp only [if_pos hl]
        rfl
      · simp only [if_neg hl, advance_ok bs _ (Nat.le_of_not_lt hl), List.drop_drop]
        rfl

theorem fastReadTy_base (skip : Nat → Bytes → FRes Nat) (P : Prog) (f : Nat) (ty : Ty) (bs : Bytes) (hb : ty.isBase = true) :
    fastReadTyWith skip P (f + 1) ty bs = FRes.ofOption (Std.readScalar ty bs) := by
  cases ty
  case list | set | map | struct => cases hb
  case str | bin => exact readBinVal_eq bs
  all_goals exact readFixedVal_eq _ _ bs

/-- `ReadListBegin` (`k = 1` type byte) and `ReadMapBegin` (`k = 2`): the count follows the type bytes -/
theorem begin_of_readN (k : Nat) {bs r' : Bytes} {n : Nat} (h4 : readN 4 (bs.drop k) = some (n, r')) (hn : ¬ n ≥ maxSize) :
    (if bs.length < k + 4 then none else if Gopkg.u32 (bs.drop k) ≥ maxSize then none else some (Gopkg.u32 (bs.drop k), k + 4))
        = some (n, k + 4) ∧ advance bs (k + 4) = .ok r' := by
  obtain ⟨hlen, hu, hd⟩ := count_at k h4
  rw [if_neg (Nat.not_lt_of_ge hlen), hu, if_neg hn, advance_ok bs _ hlen, hd]
  exact ⟨rfl, rfl⟩

theorem readFieldBegin_field (c : Nat) (bs : Bytes) (id : Nat) (r : Bytes) (hc : c ≠ 0) (hB : B256 (c :: bs))
    (h : readN 2 bs = some (id, r)) :
    Gopkg.readFieldBegin (c :: bs) = some (c, id, 3) ∧ advance (c :: bs) 3 = .ok r ∧ id < 65536 := by
  obtain ⟨hle, hid, hr⟩ := readN_some h
  cases bs with
  | nil => simp at hle
  | cons hi r1 => cases r1 with
    | nil => simp at hle
    | cons lo r2 =>
      have h1 : hi < 256 := hB hi (by simp)
      have h2 : lo < 256 := hB lo (by simp)
      have e : id = hi * 256 + lo := by rw [hid]; simp [unbe]
      refine ⟨?_, ?_, by omega⟩
      · simp [Gopkg.readFieldBegin, hc, e]
      · rw [advance_ok _ 3 (by simp)]; rw [hr]; rfl

/-- `B256 r`: the rest is a byte string again, the next field header is read from it -/
def Refines {α} (dS : Bytes → Option (α × Bytes)) (dF : Bytes → FRes (α × Bytes)) : Prop :=
  ∀ bs v r, B256 bs → dS bs = some (v, r) → dF bs = .ok (v, r) ∧ B256 r

namespace Refines

theorem elems {dS : Bytes → Option (GoVal × Bytes)} {dF : Bytes → FRes (GoVal × Bytes)} (h : Refines dS dF) (n : Nat) :
    Refines (Std.readListWith dS n) (readElems dF n) := by
  intro bs
  fun_induction Std.readListWith dS n bs
  -- cases of readListWith as in `Std.readListWith_append`
  case case1 =>
    intro xs r hB hs
    cases hs
    exact ⟨rfl, hB⟩
  case case4 n bs x r1 hd xs' r' hrec ih =>
    intro xs r hB hs
    cases hs
    obtain ⟨e1, hB1⟩ := h bs x r1 hB hd
    obtain ⟨e2, hB2⟩ := ih xs' r' hB1 hrec
    exact ⟨by simp only [readElems, e1, e2, bind], hB2⟩
  all_goals exact fun _ _ _ h => nomatch h

theorem pairs {kS vS : Bytes → Option (GoVal × Bytes)} {kF vF : Bytes → FRes (GoVal × Bytes)}
    (hk : Refines kS kF) (hv : Refines vS vF) (n : Nat) : Refines (Std.readPairsWith kS vS n) (readPairs kF vF n) := by
  intro bs
  fun_induction Std.readPairsWith kS vS n bs
  -- cases of readPairsWith as in `Std.readPairsWith_append`
  case case1 =>
    intro kvs r hB hs
    cases hs
    exact ⟨rfl, hB⟩
  case case5 n bs x r1 hdk y r2 hdv kvs' r' hrec ih =>
    intro kvs r hB hs
    cases hs
    obtain ⟨e1, hB1⟩ := hk bs x r1 hB hdk
    obtain ⟨e2, hB2⟩ := hv r1 y r2 hB1 hdv
    obtain ⟨e3, hB3⟩ := ih kvs' r' hB2 hrec
    exact ⟨by simp only [readPairs, e1, e2, e3, bind], hB3⟩
  all_goals exact fun _ _ _ h => nomatch h

end Refines

def SkipRefines (skip : Nat → Bytes → FRes Nat) : Prop :=
  ∀ (c : Nat) (bs r : Bytes), Std.skipW c bs = some r → SkipsTo (skip c bs) bs r

theorem gopkg_skipRefines : SkipRefines Gopkg.skip := by
  intro c bs r h
  unfold Std.skipW at h
  split at h
  · cases h
  rename_i t ht
  obtain ⟨q, hq, rfl⟩ := Option.map_eq_some_iff.mp h
  obtain rfl := TType.code_of_ofCode ht
  obtain ⟨hne, hs⟩ := skipType_refines 64 t bs q.1 _ hq
  unfold Gopkg.skip
  rw [if_neg fun e => hne (List.eq_nil_of_length_eq_zero e)]
  exact hs

theorem guardedSkip_refines (n rc lg : Bool) : SkipRefines (guardedSkip n rc lg) := by
  intro c bs r h
  obtain ⟨k, hk, hle, hdr⟩ := gopkg_skipRefines c bs r h
  refine ⟨k, ?_, hle, hdr⟩
  have hneg : Gopkg.neg c = false := by
    unfold Std.skipW at h
    split at h
    · cases h
    rename_i t ht
    obtain rfl := TType.code_of_ofCode ht
    cases t <;> rfl
  unfold guardedSkip
  simp [hneg, hk, Nat.not_lt_of_ge hle]

theorem fields_refine {skip : Nat → Bytes → FRes Nat} (hsk : SkipRefines skip) (P : Prog) {defs : List FieldDef} (hok : FieldsOK defs)
    {rdS : Ty → Bytes → Option (GoVal × Bytes)} {rdF : Ty → Bytes → FRes (GoVal × Bytes)} (hrd : ∀ ty, Refines (rdS ty) (rdF ty)) :
    ∀ (g : Nat) (cur : List GoVal) (seen : List Bool),
      Refines (fun bs => Std.readFieldsWith rdS defs g bs cur seen) (fun bs => fastFieldsWith skip P rdF defs g bs cur seen) := by
  intro g cur seen bs res r
  dsimp only
  fun_induction Std.readFieldsWith rdS defs g bs cur seen
  -- cases of readFieldsWith as in `Std.readFieldsWith_append`
  case case3 hreq =>
    intro hB h
    cases h
    refine ⟨?_, hB.drop 1⟩
    simp only [fastFieldsWith, Gopkg.readFieldBegin, if_true, advance_ok (0 :: r) 1 (Nat.le_add_left 1 _), bind, hreq]
    rfl
  case case7 g bs cur seen id r1 h2 j f hf v r2 hv hc ih =>
    intro hB h
    obtain ⟨e1, e2, hid⟩ := readFieldBegin_field _ bs id r1 hc hB h2
    obtain ⟨e3, hB2⟩ := hrd f.ty r1 v r2 ((hB.drop 1).of_readN h2) hv
    simp only [fastFieldsWith, e1, e2, bind, hc, if_false, findCase_eq P defs id _ hid hok, hf, if_true, e3]
    exact ih hB2 h
  case case9 ih | case11 ih =>
    -- a known id of another wire type and an unknown id take the same path
    intro hB h
    obtain ⟨e1, e2, hid⟩ := readFieldBegin_field _ _ _ _ ‹_› hB ‹_›
    obtain ⟨k, hk, hle, rfl⟩ := hsk _ _ _ ‹_›
    simp only [fastFieldsWith, bind, if_false, findCase_eq P defs _ _ hid hok, advance_ok _ k hle, *]
    exact ih (((hB.drop 1).of_readN ‹_›).drop k) h
  all_goals exact fun _ h => nomatch h

def FieldIdsOK (P : Prog) : Prop := ∀ (i : Nat) (sd : StructDef), P.structs[i]? = some sd → FieldsOK sd.fields

theorem fastReadTy_refines (skip : Nat → Bytes → FRes Nat) (hsk : SkipRefines skip) (P : Prog) (hP : FieldIdsOK P) :
    ∀ (f : Nat) (ty : Ty), Refines (Std.readTy P.structs f ty) (fastReadTyWith skip P f ty) := by
  intro f
  induction f with
  | zero =>
    intro ty bs v r _ h
    cases h
  | succ f ih =>
    intro ty bs v r hB h
    by_cases hb : ty.isBase = true
    · rw [Std.readTy_base P.structs f ty bs hb] at h
      rw [fastReadTy_base skip P f ty bs hb, h]
      exact ⟨rfl, hB.of_readScalar h⟩
    · cases ty <;> simp [Ty.isBase] at hb
      case list el | set el =>
        obtain ⟨ec, r0, n, r', xs, rfl, h4, hn, hq, rfl⟩ := Std.readTy_seq_some (e := el) (by simp) h
        obtain ⟨eb, ha⟩ : Gopkg.readListBegin (ec :: r0) = some (n, 5) ∧ advance (ec :: r0) 5 = .ok r' :=
          begin_of_readN 1 h4 hn
        obtain ⟨e2, hB2⟩ := (ih el).elems n r' xs r ((hB.drop 1).of_readN h4) hq
        exact ⟨by simp only [fastReadTyWith, eb, ha, bind, e2], hB2⟩
      case map k w =>
        obtain ⟨kc, vc, r0, n, r', kvs, rfl, h4, hn, hq, rfl⟩ := Std.readTy_map_some h
        obtain ⟨eb, ha⟩ : Gopkg.readMapBegin (kc :: vc :: r0) = some (n, 6) ∧ advance (kc :: vc :: r0) 6 = .ok r' :=
          begin_of_readN 2 h4 hn
        obtain ⟨e2, hB2⟩ := ((ih k).pairs (ih w)) n r' kvs r ((hB.drop 2).of_readN h4) hq
        exact ⟨by simp only [fastReadTyWith, eb, ha, bind, e2], hB2⟩
      case struct i =>
        obtain ⟨sd, fs, hsd, rfl, hq⟩ := Std.readTy_struct_some h
        obtain ⟨e2, hB2⟩ := fields_refine hsk P (hP i sd hsd) ih _ _ _ bs fs r hB hq
        refine ⟨?_, hB2⟩
        simp only [fastReadTyWith, show P.struct? i = P.structs[i]? from rfl, hsd, Std.newX_eq]
        simp [bind, e2]

theorem fastReadInto_refines (skip : Nat → Bytes → FRes Nat) (hsk : SkipRefines skip) (P : Prog) (hP : FieldIdsOK P) (sidx : Nat)
    (cur obj : GoVal) (bs : Bytes) (hB : B256 bs) (h : stdReadInto P sidx cur bs = some obj) :
    ∃ n, fastReadIntoWith skip P sidx cur bs = .ok (obj, n) ∧ n ≤ bs.length := by
  unfold stdReadInto at h
  unfold fastReadIntoWith
  split at h
  case h_2 => cases h
  rename_i sd fs hsd
  obtain ⟨q, hq, rfl⟩ := Option.map_eq_some_iff.mp h
  obtain ⟨e, _⟩ := fields_refine hsk P (hP sidx sd hsd) (fastReadTy_refines skip hsk P hP bs.length) _ _ _ bs q.1 q.2 hB hq
  refine ⟨bs.length - q.2.length, ?_, by omega⟩
  simp [e, bind]

end Gen.Fast
