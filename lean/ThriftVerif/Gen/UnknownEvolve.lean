import ThriftVerif.Gen.UnknownWriteLemmas
import ThriftVerif.Gen.Evolve
/-
  Gen/UnknownEvolve: the keep_unknown_fields Read loop against the plain one, and its buffer on a mixed stream. One struct
  level, on top of the mixed-stream machinery of Gen/StdLemmas and Gen/Evolve.
-/
namespace Gen.Unknown
open Wire Gen Gen.Std Gen.Evolve

theorem appendB_of_skip (acc : Fields) (c id : Nat) (bs r' : Bytes) (h : skipW c bs = some r') :
    ∃ u, appendB acc c id bs = some (acc ++ [c] ++ be 2 id ++ encW u, r') := by
  revert h
  fun_cases skipW c bs
  case case1 => nofun
  case case2 t ht =>
    intro h
    obtain ⟨⟨w, r⟩, hd, rfl⟩ := Option.map_eq_some_iff.1 h
    exact ⟨w, TType.code_of_ofCode ht ▸ appendB_of_dec acc t id bs w r hd⟩

/-- The keep_unknown_fields loop differs from the plain one only where the id is no `case` of the switch: there the plain
loop's Skip succeeded, so `Append` does (`appendB_of_skip`). Cases of the plain loop's principle: 3 STOP, 7 a field read,
9 a known id with another wire type, 11 an id that is no `case`; the others are the loop's failures. -/
theorem ku_sim (rdTy : Ty → Bytes → Option (GoVal × Bytes)) (defs : List FieldDef) (g : Nat) (bs : Bytes)
    (cur : List GoVal) (seen : List Bool) (acc : Fields) (c : List GoVal) (r : Bytes)
    (h : readFieldsWith rdTy defs g bs cur seen = some (c, r)) :
    ∃ acc', readFieldsKU rdTy defs g bs cur seen acc = some (c, r, acc') := by
  fun_induction readFieldsWith rdTy defs g bs cur seen generalizing acc with
  | case1 | case2 | case4 | case5 | case6 | case8 | case10 => cases h
  | case3 _ _ _ _ hro =>
    cases h
    exact ⟨acc, by simp only [readFieldsKU, hro, if_true]⟩
  | case7 _ _ _ _ _ _ hid _ _ hf _ _ hv hc ih =>
    simp only [readFieldsKU, hc, hid, hf, hv, if_true, if_false]
    exact ih acc h
  | case9 _ _ _ _ _ hc _ _ hid _ _ hf ht _ hs ih =>
    simp only [readFieldsKU, hc, hid, hf, ht, hs, if_false]
    exact ih acc h
  | case11 _ c0 _ _ _ hc id r1 hid hf r2 hs ih =>
    obtain ⟨u, hu⟩ := appendB_of_skip acc c0 id r1 r2 hs
    simp only [readFieldsKU, hc, hid, hf, hu, if_false]
    exact ih _ h

theorem Run.ku {rd : Ty → Bytes → Option (GoVal × Bytes)} {defs : List FieldDef} {ms : List (Nat × WVal)}
    {s s' : List GoVal × List Bool} (h : Run rd defs ms s s') :
    ∀ (g : Nat) (rest : Bytes) (acc : Fields),
      readFieldsKU rd defs (g + ms.length) (encFields ms ++ rest) s.1 s.2 acc =
        readFieldsKU rd defs g rest s'.1 s'.2 (acc ++ encFields (unk defs ms)) := by
  induction h with
  | nil s => intro g rest acc; simp [encFields, unk_nil]
  | @read id w j f v ms s s' hid hf htt hrd _ ih =>
    intro g rest acc
    simp only [List.length_cons, ← Nat.add_assoc, encFields, List.append_assoc, List.cons_append, List.nil_append,
      readFieldsKU, code_ne_zero, if_false, readN_be 2 id _ hid, hf, htt, if_true, hrd, unk_cons_known w ms hf, ih]
  | @skip id u ms s s' hid hwf hd hne _ ih =>
    intro g rest acc
    cases hf : findField defs id with
    | none =>
      simp only [List.length_cons, ← Nat.add_assoc, encFields, List.append_assoc, List.cons_append, List.nil_append,
        readFieldsKU, code_ne_zero, if_false, readN_be 2 id _ hid, hf, appendB_enc acc id u _ hwf hd,
        unk_cons_unknown u ms hf, ih]
    | some jf =>
      simp only [List.length_cons, ← Nat.add_assoc, encFields, List.append_assoc, List.cons_append, List.nil_append,
        readFieldsKU, code_ne_zero, if_false, readN_be 2 id _ hid, hf, hne _ _ hf, skipW_encW u _ hwf hd,
        unk_cons_known u ms hf, ih]

theorem mixed_perm_unk (defs : List FieldDef) :
    ∀ (ws ms : List (Nat × WVal)), Mixed defs ws ms → (∀ x ∈ ws, x.1 ∈ defs.map idOf) →
      (ws ++ unk defs ms).Perm ms ∧ ∀ x ∈ unk defs ms, x.1 < 256 ^ 2 ∧ WF x.2 := by
  intro ws ms hm
  induction hm with
  | nil => intro _; exact ⟨.nil, fun x hx => by cases hx⟩
  | known x ws ms _ ih =>
    intro hk
    obtain ⟨id, w⟩ := x
    obtain ⟨j, f, hf⟩ := findField_some_of_mem defs id (hk (id, w) List.mem_cons_self)
    obtain ⟨hp, hu⟩ := ih fun z hz => hk z (List.mem_cons_of_mem _ hz)
    rw [unk_cons_known w ms hf]
    exact ⟨hp.cons _, hu⟩
  | unknown id u ws ms _ hid hnf hwf _ ih =>
    intro hk
    obtain ⟨hp, hu⟩ := ih hk
    rw [unk_cons_unknown u ms hnf]
    refine ⟨List.perm_middle.trans (hp.cons _), fun y hy => ?_⟩
    rcases List.mem_cons.1 hy with rfl | hy
    · exact ⟨hid, hwf⟩
    · exact hu y hy

theorem WFFields_of_mem : ∀ (fs : List (Nat × WVal)), (∀ x ∈ fs, x.1 < 256 ^ 2 ∧ WF x.2) → WFFields fs
  | [], _ => by simp [WFFields]
  | (id, v) :: fs, h =>
    ⟨(h _ List.mem_cons_self).1, (h _ List.mem_cons_self).2, WFFields_of_mem fs fun x hx => h x (List.mem_cons_of_mem _ hx)⟩

theorem encFields_eq_nil (us : List (Nat × WVal)) : encFields us = [] ↔ us = [] := by
  cases us with
  | nil => simp [encFields]
  | cons a r => obtain ⟨i, v⟩ := a; simp [encFields]

/-- generated Read of struct `sd` under keep_unknown_fields at ONE struct level: the values of known
fields go through `rdTy` (the theorems instantiate it with the plain readers `readTy`) -/
def readStructKU (rdTy : Ty → Bytes → Option (GoVal × Bytes)) (sd : StructDef) (bs : Bytes) :
    Option (List GoVal × Bytes × Fields) :=
  readFieldsKU rdTy sd.fields (bs.length + 1) bs (initVals sd) (sd.fields.map fun _ => false) []

theorem readStructKU_of_run {rd : Ty → Bytes → Option (GoVal × Bytes)} {sd : StructDef} {ms : List (Nat × WVal)}
    {fs' : List GoVal} {seen' : List Bool} (r : Bytes)
    (h : Run rd sd.fields ms (initVals sd, sd.fields.map fun _ => false) (fs', seen'))
    (hro : requiredOk sd.fields seen' = true) :
    readStructKU rd sd (encFields ms ++ 0 :: r) = some (fs', r, encFields (unk sd.fields ms)) := by
  have hle : ms.length ≤ (encFields ms ++ 0 :: r).length :=
    List.length_append ▸ Nat.le_trans (encFields_length ms) (Nat.le_add_right ..)
  have := Run.ku h ((encFields ms ++ 0 :: r).length - ms.length + 1) (0 :: r) []
  rw [Nat.add_right_comm, Nat.sub_add_cancel hle] at this
  unfold readStructKU
  rw [this]
  simp [readFieldsKU, hro]

theorem readStructKU_mixed (P : Prog) (hP : SchemaOK P) (hv : P.validateSet = false) (i : Nat) (sd : StructDef)
    (fs : List GoVal) (ws : List (Nat × WVal)) (f : Nat) (hsd : P.structs[i]? = some sd)
    (hwt : WTFields P.structs sd.fields fs) (hw : toWFields P sd.fields fs = .ok ws) (hd : depthFields ws ≤ f) :
    ∃ fs', ∀ (ms : List (Nat × WVal)) (r : Bytes), Mixed sd.fields ws ms →
      readTy P.structs (f + 1) (.struct i) (encFields ms ++ 0 :: r) = some (.strct fs', r) ∧
      readStructKU (readTy P.structs f) sd (encFields ms ++ 0 :: r) = some (fs', r, encFields (unk sd.fields ms)) := by
  obtain ⟨fs', seen', _, hro, hrun⟩ := struct_run P hP hv i sd fs ws f hsd hwt hw hd
  exact ⟨fs', fun ms r hm => ⟨readTy_struct_of_loop _ i sd f ms r fs' seen' hsd (hrun ms hm) hro,
    readStructKU_of_run r (hrun ms hm) hro⟩⟩

end Gen.Unknown
