import ThriftVerif.Gen.Rpc
import ThriftVerif.Gen.StdLemmas
import ThriftVerif.Core.Assoc
import ThriftVerif.Core.ListLemmas
/-
  Gen/RpcLemmas: what is proved about `Gen.Rpc`. The envelope is read back exactly; the processor map answers a name by a method
  of the `extends` chain with that name and by nothing else. `<fn>_result` is an all-optional struct, where nil means unset: two
  such objects with the same wire fields agree position by position (`PosRel`), so the client's `pick` agrees on them up to
  `WireEq`; this is the route of `call_main`. Apart from it, for the shape of the reply bytes only: the processor's object has at
  most one slot set, and such an object travels as that one field (`toWFields_single`).
-/
namespace Gen.Rpc
open Wire Gen Gen.Std

theorem decMsg_encMsg (sr : Bool) (name : Bytes) (ty seq : Nat) (r : Bytes)
    (hn : name.length < maxSize) (ht : ty < 256) (hs : seq < 256 ^ 4) :
    decMsg sr (encMsg name ty seq ++ r) = some (name, ty, seq, r) := by
  have hp := pow256.2.2.1
  have h1 : version1 + ty < 256 ^ 4 := by simp only [version1]; omega
  obtain ⟨h2, hnn⟩ := size_ok hn
  simp only [encMsg, List.append_assoc, decMsg]
  rw [readN_be 4 _ _ h1]
  have hge : version1 + ty ≥ 2147483648 := Nat.le_add_right_of_le (by decide)
  -- the type byte sits below the version word: `VERSION_1 = 0x8001 * 2^16`
  have hver : ¬ ((version1 + ty) / 65536 * 65536 ≠ version1) := by
    show ¬ ((65536 * 32769 + ty) / 65536 * 65536 ≠ 65536 * 32769)
    rw [Nat.mul_add_div (by decide), Nat.div_eq_of_lt (Nat.lt_trans ht (by decide)), Nat.add_zero, Nat.mul_comm]
    exact fun h => h rfl
  have hty : (version1 + ty) % 256 = ty := by
    show (256 * 8388864 + ty) % 256 = ty
    rw [Nat.mul_add_mod, Nat.mod_eq_of_lt ht]
  simp only [hge, if_true, hver, if_false]
  rw [readN_be 4 _ _ h2]
  simp only [hnn, if_false, readBytes_exact]
  rw [readN_be 4 _ _ hs, hty]

theorem nextSeq_lt (s : Nat) : nextSeq s < 256 ^ 4 := by
  have := pow256.2.2.1
  simp only [nextSeq]; omega

theorem mapGet_get : Assoc.IsGet mapGet := ⟨fun _ => rfl, fun _ _ _ => if_pos rfl, fun _ _ => (if_neg ·)⟩

theorem mapSet_upd (v : Method) : Assoc.IsUpd (fun _ => v) (mapSet · v) :=
  ⟨fun _ => rfl, fun _ _ _ => if_pos rfl, fun _ _ => (if_neg ·)⟩

theorem mapGet_addAll (k : Bytes) : ∀ (ms : List Method) (mp : List (Bytes × Method)),
    (k ∉ ms.map (·.name) ∧ mapGet k (addAll ms mp) = mapGet k mp) ∨ ∃ m ∈ ms, m.name = k ∧ mapGet k (addAll ms mp) = some m
  | [], _ => .inl ⟨List.not_mem_nil, rfl⟩
  | x :: ms, mp => by
    rcases mapGet_addAll k ms (mapSet x.name x mp) with ⟨hn, e⟩ | ⟨m, hm, h⟩
    · by_cases hx : x.name = k
      · exact .inr ⟨x, List.mem_cons_self, hx, e.trans (hx ▸ mapGet_get.upd_same (mapSet_upd x) _ mp)⟩
      · exact .inl ⟨fun h => (List.mem_cons.mp h).elim (hx ·.symm) hn,
          e.trans (mapGet_get.upd_other (mapSet_upd x) mp fun h => hx h.symm)⟩
    · exact .inr ⟨m, List.mem_cons_of_mem _ hm, h⟩

theorem dispatch (k : Bytes) (svc : Service) :
    (k ∉ svc.methods.map (·.name) ∧ mapGet k svc.procMap = none) ∨ ∃ m ∈ svc.methods, m.name = k ∧ mapGet k svc.procMap = some m := by
  fun_induction Service.procMap svc with
  | case1 ms => exact mapGet_addAll k ms []
  | case2 ms b ih =>
    simp only [Service.methods, List.map_append, List.mem_append]
    rcases mapGet_addAll k ms b.procMap with ⟨hn, e⟩ | ⟨m, hm, h⟩
    · rcases ih with ⟨hb, e'⟩ | ⟨m, hm, h⟩
      · exact .inl ⟨fun h => h.elim hn hb, e.trans e'⟩
      · exact .inr ⟨m, .inr hm, h.1, e.trans h.2⟩
    · exact .inr ⟨m, .inl hm, h⟩

def Service.NoShadow (svc : Service) : Prop := (svc.methods.map (·.name)).Nodup

theorem dispatch_unknown (svc : Service) (name : Bytes) (h : name ∉ svc.methods.map (·.name)) : mapGet name svc.procMap = none :=
  (dispatch name svc).elim (·.2) fun ⟨_, hm, e, _⟩ => (h (e ▸ List.mem_map_of_mem hm)).elim

theorem dispatch_mem (svc : Service) (hn : svc.NoShadow) (m : Method) (hm : m ∈ svc.methods) : mapGet m.name svc.procMap = some m :=
  (dispatch m.name svc).elim (fun h => (h.1 (List.mem_map_of_mem hm)).elim) fun ⟨_, hm', e, h⟩ =>
    List.inj_of_nodup_map (·.name) (show (svc.methods.map (·.name)).Nodup from hn) hm' hm e ▸ h

theorem kept_not_streaming (fs : List Fn) (f : Fn) (hf : f ∈ fs) (hs : f.isStreaming = true)
    (hd : (fs.map (·.m.name)).Nodup) : f.m.name ∉ (keptMethods fs).map (·.name) := by
  intro hin
  simp only [keptMethods, List.map_map, List.mem_map, List.mem_filter, Function.comp] at hin
  obtain ⟨k, ⟨hk, hks⟩, hkn⟩ := hin
  rw [List.inj_of_nodup_map (·.m.name) hd hk hf hkn, hs] at hks
  exact absurd hks (by decide)

/-- the fields of a `<fn>_result` struct -/
def AllOpt (defs : List FieldDef) : Prop := ∀ f ∈ defs, f.req = .optional ∧ f.dflt = none

theorem skip_iff_nil {f : FieldDef} (hf : f.req = .optional ∧ f.dflt = none) (v : GoVal) :
    (decide (f.req = .optional) && !isSet f v) = true ↔ v = .nil := by
  simp only [hf.1, decide_true, Bool.true_and, isSet, hf.2, Bool.not_not]
  exact goEq_nil_right v

theorem isSet_nil {f : FieldDef} (h : f.dflt = none) : isSet f .nil = false := by
  simp only [isSet, h, goEq, Bool.not_true]

theorem toWFields_nil_cons (P : Prog) {f : FieldDef} (hf : f.req = .optional ∧ f.dflt = none) (fs : List FieldDef)
    (vs : List GoVal) : toWFields P (f :: fs) (.nil :: vs) = toWFields P fs vs :=
  toWFields_skipped ((skip_iff_nil hf .nil).mpr rfl)

theorem toWFields_nils (P : Prog) : ∀ (defs : List FieldDef), AllOpt defs → toWFields P defs (nils defs.length) = .ok []
  | [], _ => rfl
  | f :: fs, h => by
    obtain ⟨hf, ht⟩ := List.forall_mem_cons.mp h
    exact (toWFields_nil_cons P hf fs _).trans (toWFields_nils P fs ht)

theorem toWFields_single (P : Prog) : ∀ (defs : List FieldDef) (i : Nat) (v : GoVal) (wr : List (Nat × WVal)),
    AllOpt defs → i < defs.length → v ≠ .nil → toWFields P defs ((nils defs.length).set i v) = .ok wr →
    ∃ f w, (defs.drop i).head? = some f ∧ toW P f.ty v = .ok w ∧ wr = [(idOf f, w)]
  | [], i, _, _, _, hi, _, _ => by cases hi
  | f :: fs, 0, v, wr, h, _, hv, hw => by
    obtain ⟨hf, ht⟩ := List.forall_mem_cons.mp h
    obtain ⟨w, h1, ws', h2, rfl⟩ := (toWFields_written_ok (mt (skip_iff_nil hf v).mp hv)).mp hw
    cases (toWFields_nils P fs ht).symm.trans h2
    exact ⟨f, w, rfl, h1, rfl⟩
  | f :: fs, i + 1, v, wr, h, hi, hv, hw => by
    obtain ⟨hf, ht⟩ := List.forall_mem_cons.mp h
    exact toWFields_single P fs i v wr ht (Nat.lt_of_succ_lt_succ hi) hv ((toWFields_nil_cons P hf fs _).symm.trans hw)

def IdsOK (defs : List FieldDef) : Prop := ∀ f ∈ defs, -32768 ≤ f.id ∧ f.id < 32768

def Writable (P : Prog) (defs : List FieldDef) (vs : List GoVal) : Prop :=
  WTFields P.structs defs vs ∧ ∃ ws, toWFields P defs vs = .ok ws

theorem Writable.cons {P : Prog} {f : FieldDef} {fs : List FieldDef} {v : GoVal} {vs : List GoVal}
    (h : Writable P fs vs) (hf : f.req = .optional ∧ f.dflt = none) (hid : -32768 ≤ f.id ∧ f.id < 32768)
    (hv : v = .nil ∨ WT P.structs f.ty v ∧ ∃ w, toW P f.ty v = .ok w) : Writable P (f :: fs) (v :: vs) := by
  obtain ⟨ws, hws⟩ := h.2
  refine ⟨?_, ?_⟩
  · unfold WTFields
    exact ⟨fun _ => hv.imp (fun e => ⟨e, e ▸ isSet_nil hf.2⟩) (·.1), fun hn => absurd hf.1 hn, hid, h.1⟩
  · rcases hv with rfl | ⟨_, w, hw⟩
    · exact ⟨ws, (toWFields_nil_cons P hf fs vs).trans hws⟩
    · by_cases hc : (decide (f.req = .optional) && !isSet f v) = true
      · exact ⟨ws, (toWFields_skipped hc).trans hws⟩
      · exact ⟨_, (toWFields_written_ok hc).mpr ⟨w, hw, ws, hws, rfl⟩⟩

theorem writable_nils (P : Prog) : ∀ (defs : List FieldDef), AllOpt defs → IdsOK defs → Writable P defs (nils defs.length)
  | [], _, _ => ⟨trivial, [], rfl⟩
  | f :: fs, h, hi => by
    obtain ⟨hf, ht⟩ := List.forall_mem_cons.mp h
    obtain ⟨hif, hit⟩ := List.forall_mem_cons.mp hi
    exact (writable_nils P fs ht hit).cons hf hif (.inl rfl)

theorem single_ok (P : Prog) : ∀ (defs : List FieldDef) (i : Nat) (v : GoVal), AllOpt defs → IdsOK defs →
    (v = .nil ∨ ∀ f, (defs.drop i).head? = some f → WT P.structs f.ty v ∧ ∃ w, toW P f.ty v = .ok w) →
    Writable P defs ((nils defs.length).set i v)
  | [], _, _, _, _, _ => ⟨trivial, [], rfl⟩
  | f :: fs, i, v, h, hids, hv => by
    obtain ⟨hf, ht⟩ := List.forall_mem_cons.mp h
    obtain ⟨hif, hit⟩ := List.forall_mem_cons.mp hids
    cases i with
    | zero => exact (writable_nils P fs ht hit).cons hf hif (hv.imp_right fun h => h f rfl)
    | succ i => exact (single_ok P fs i v ht hit hv).cons hf hif (.inl rfl)

/-- what the caller may observe instead of `v` -/
def WireEq (P : Prog) (ty : Ty) (v v' : GoVal) : Prop :=
  v = v' ∨ ∃ w, toW P ty v = .ok w ∧ toW P ty v' = .ok w

theorem WireEq.refl (P : Prog) (ty : Ty) (v : GoVal) : WireEq P ty v v := Or.inl rfl

def PosRel (P : Prog) : List FieldDef → List GoVal → List GoVal → Prop
  | [], as, bs => as = [] ∧ bs = []
  | f :: fs, as, bs => ∃ a as' b bs', as = a :: as' ∧ bs = b :: bs' ∧
      ((a = .nil ∧ b = .nil) ∨ (a ≠ .nil ∧ b ≠ .nil ∧ WireEq P f.ty a b)) ∧ PosRel P fs as' bs'

theorem posRel_of_same_wire (P : Prog) (defs : List FieldDef) (as bs : List GoVal) (ws : List (Nat × WVal))
    (ho : AllOpt defs) (hnd : (defs.map idOf).Nodup) (ha : toWFields P defs as = .ok ws) (hb : toWFields P defs bs = .ok ws) :
    PosRel P defs as bs := by
  fun_induction PosRel P defs as bs generalizing ws with
  | case1 as bs =>
    cases as with
    | cons => cases ha
    | nil =>
      cases bs with
      | cons => cases hb
      | nil => exact ⟨rfl, rfl⟩
  | case2 f fs as bs ih =>
    cases as with
    | nil => cases ha
    | cons a as =>
    cases bs with
    | nil => cases hb
    | cons b bs =>
    obtain ⟨hof, hot⟩ := List.forall_mem_cons.mp ho
    obtain ⟨hnf, hnt⟩ := List.nodup_cons.mp hnd
    -- a field that is set travels under the id of `f`, which the rest cannot produce
    have clash : ∀ {x : GoVal} {xs ys : List GoVal}, x ≠ .nil → toWFields P (f :: fs) (x :: xs) = .ok ws →
        toWFields P fs ys = .ok ws → False := by
      intro x xs ys hx h1 h2
      obtain ⟨w, _, ws', _, rfl⟩ := (toWFields_written_ok (mt (skip_iff_nil hof x).mp hx)).mp h1
      exact hnf (toWFields_ids P fs ys _ h2 (idOf f, w) List.mem_cons_self)
    by_cases hna : a = .nil
    · subst hna
      rw [toWFields_nil_cons P hof] at ha
      by_cases hnb : b = .nil
      · subst hnb
        rw [toWFields_nil_cons P hof] at hb
        exact ⟨_, _, _, _, rfl, rfl, Or.inl ⟨rfl, rfl⟩, ih as bs ws hot hnt ha hb⟩
      · exact (clash hnb hb ha).elim
    · by_cases hnb : b = .nil
      · subst hnb
        rw [toWFields_nil_cons P hof] at hb
        exact (clash hna ha hb).elim
      · obtain ⟨wa, ha1, wsa, ha2, rfl⟩ := (toWFields_written_ok (mt (skip_iff_nil hof a).mp hna)).mp ha
        obtain ⟨wb, hb1, wsb, hb2, e⟩ := (toWFields_written_ok (mt (skip_iff_nil hof b).mp hnb)).mp hb
        cases e
        exact ⟨_, _, _, _, rfl, rfl, Or.inr ⟨hna, hnb, .inr ⟨wa, ha1, hb1⟩⟩, ih as bs wsa hot hnt ha2 hb2⟩

theorem readFrom_rt (P : Prog) (hP : SchemaOK P) (hv : P.validateSet = false) (i : Nat) (sd : StructDef)
    (fs init : List GoVal) (ws : List (Nat × WVal)) (r : Bytes)
    (hsd : P.structs[i]? = some sd) (hwt : WTFields P.structs sd.fields fs)
    (hw : toWFields P sd.fields fs = .ok ws)
    (hlen : init.length = sd.fields.length) (hun : Unset sd.fields init) :
    ∃ fs', readFrom P.structs i init (encFields ws ++ 0 :: r) = some (fs', r) ∧ toWFields P sd.fields fs' = .ok ws := by
  obtain ⟨hnd, hdo, _, _⟩ := hP i sd hsd
  have hdep : depthFields ws ≤ (encFields ws ++ 0 :: r).length :=
    List.length_append ▸ Nat.le_trans (depthFields_le ws) (Nat.le_add_right ..)
  obtain ⟨fs', seen', htw, hro, hrun⟩ := fields_rt P sd.fields fs init ws _ hnd hdo hlen hun hwt hw hdep
    (rtFields P hP hv fs sd.fields _)
  refine ⟨fs', ?_, htw⟩
  simp only [readFrom, hsd]
  exact readFields_stop _ _ ws r init fs' _ seen' (hrun ws (Mixed.refl _ ws)) hro

/-- in the Go zero object `T{}` an optional field without a default is a nil pointer -/
theorem unset_zero : ∀ (defs : List FieldDef), (∀ f ∈ defs, f.req = .optional → f.dflt = none) → Unset defs (defs.map goZero)
  | [], _ => trivial
  | f :: fs, h => by
    refine ⟨fun ho => ?_, unset_zero fs fun g hg => h g (List.mem_cons_of_mem _ hg)⟩
    have hd := h f List.mem_cons_self ho
    have : goZero f = .nil := by
      simp only [goZero, hd, Option.isSome_none, Bool.false_and, Bool.false_eq_true, if_false, ho]
      cases f.ty <;> rfl
    rw [this]
    exact isSet_nil hd

/-- `x := T{}; x.Read` of what `Write` produced. `hz`: with a default, `T{}` holds the Go zero value, which counts as set
unless it equals the default. -/
theorem readZero_rt (P : Prog) (hP : SchemaOK P) (i : Nat) (sd : StructDef) (fs : List GoVal) (ws : List (Nat × WVal))
    (r : Bytes) (hsd : P.structs[i]? = some sd) (hwt : WTFields P.structs sd.fields fs)
    (hw : toWFields P sd.fields fs = .ok ws) (hz : ∀ f ∈ sd.fields, f.req = .optional → f.dflt = none) :
    ∃ fs', readZero P.structs i (encFields ws ++ 0 :: r) = some (fs', r) ∧ toWFields (noVal P) sd.fields fs' = .ok ws := by
  have hw' := toWFields_noVal P fs sd.fields ws hw
  obtain ⟨fs', h1, h2⟩ := readFrom_rt (noVal P) hP rfl i sd fs (zeroVals sd) ws r hsd hwt hw'
    (by simp [zeroVals]) (unset_zero sd.fields hz)
  refine ⟨fs', ?_, h2⟩
  simp only [readZero, hsd]
  exact h1

theorem rt_base (P : Prog) (hP : SchemaOK P) (hv : P.validateSet = false) (ty : Ty) (v : GoVal) {w : WVal} (hb : ty.isBase = true)
    (hn : v ≠ .nil) (hwt : WT P.structs ty v) (hw : toW P ty v = .ok w) {f : Nat} (hd : w.depth ≤ f) (r : Bytes) :
    readTy P.structs f ty (encW w ++ r) = some (v, r) := by
  obtain ⟨v', h, _, _, e⟩ := rt P hP hv v ty w f r hwt hw hd
  exact e hb hn ▸ h

/-- `tApplicationException.Read` is the generated Read loop on `appExcDef`: a `Run` of two `read` steps, each value read back as
itself by `rt_base` (the `Int` is handed on to the caller, so "re-encodes to the same fields" would not do) -/
theorem readAppExc_enc (msg : Bytes) (ty : Nat) (r : Bytes) (hz : msg.length > 0) (hm : msg.length < maxSize)
    (ht : ty < 2147483648) :
    readAppExc (encW (appExcW msg ty) ++ r) = some ((msg, (ty : Int)), r) := by
  have e : encW (appExcW msg ty) ++ r = encFields [(1, .bin msg), (2, .i32 ty)] ++ 0 :: r := by
    simp [appExcW, hz, encW]
  have hp : pat 32 (ty : Int) = ty := by
    simp only [pat]
    omega
  have hd : 1 ≤ (encFields [(1, .bin msg), (2, .i32 ty)] ++ 0 :: r).length := List.length_append ▸ Nat.le_add_left ..
  have rd := rt_base { structs := [], validateSet := false } (fun _ _ h => nomatch h) rfl
  have hrun : Run (readTy [] (encFields [(1, .bin msg), (2, .i32 ty)] ++ 0 :: r).length) appExcDef.fields
      [(1, .bin msg), (2, .i32 ty)] ([.bytes [], .int 0], [false, false]) ([.bytes msg, .int ty], [true, true]) :=
    .read (by decide) rfl rfl (rd .str (.bytes msg) rfl nofun hm rfl hd)
      (.read (by decide) rfl rfl (rd .i32 (.int ty) rfl nofun ⟨by omega, by omega⟩ (congrArg (Res.ok ∘ WVal.i32) hp) hd) (.nil _))
  rw [e, readAppExc, readFields_stop _ _ _ r _ _ _ _ hrun rfl]

def tyAt (defs : List FieldDef) (k : Nat) : Ty := ((defs.drop k).head?.map (·.ty)).getD (.struct 0)

inductive OutcomeRel (P : Prog) (succTy : Ty) (throws : List FieldDef) : Outcome → Outcome → Prop
  | ok (v v' : GoVal) : WireEq P succTy v v' → OutcomeRel P succTy throws (.ok v) (.ok v')
  | exc (i : Nat) (v v' : GoVal) : WireEq P (tyAt throws i) v v' → v' ≠ .nil → OutcomeRel P succTy throws (.exc i v) (.exc i v')
  | app (t : Int) (msg : Bytes) : OutcomeRel P succTy throws (.app t msg) (.app t msg)
  | err : OutcomeRel P succTy throws .err .err

theorem firstThrow_cons_ne_nil (v : GoVal) (r : List GoVal) (k : Nat) (h : v ≠ .nil) : firstThrow (v :: r) k = some (k, v) := by
  -- the equation of `firstThrow` for a head that is not nil, `h` being its side condition
  rw [firstThrow]
  exact h

theorem succOr_of_ne_nil (ty : Option Ty) (v : GoVal) (h : v ≠ .nil) : succOr ty v = v := by
  fun_cases succOr ty v with
  | case1 => exact absurd rfl h
  | case2 => rfl

theorem firstThrow_rel (P : Prog) (defs : List FieldDef) (as bs : List GoVal) (k : Nat) (hr : PosRel P defs as bs) :
    (firstThrow as k = none ∧ firstThrow bs k = none) ∨
    ∃ j v v', firstThrow as k = some (k + j, v) ∧ firstThrow bs k = some (k + j, v') ∧ v' ≠ .nil ∧ WireEq P (tyAt defs j) v v' := by
  fun_induction PosRel P defs as bs generalizing k with
  | case1 as bs =>
    obtain ⟨rfl, rfl⟩ := hr
    exact Or.inl ⟨rfl, rfl⟩
  | case2 f fs as bs ih =>
    obtain ⟨a, as, b, bs, rfl, rfl, h, ht⟩ := hr
    rcases h with ⟨rfl, rfl⟩ | ⟨ha, hb, hw⟩
    · rcases ih as bs (k + 1) ht with hn | ⟨j, v, v', e1, e2, hn, hw⟩
      · exact Or.inl hn
      · exact Or.inr ⟨j + 1, v, v', Nat.add_right_comm k 1 j ▸ e1, Nat.add_right_comm k 1 j ▸ e2, hn, hw⟩
    · exact Or.inr ⟨0, a, b, firstThrow_cons_ne_nil a as k ha, firstThrow_cons_ne_nil b bs k hb, hb, hw⟩

/-- for any field list read as `<fn>_result`: the first field is `success` unless the method is void, the rest are the throws -/
theorem pick_rel (P : Prog) (m : Method) {defs : List FieldDef} {as bs : List GoVal} (hr : PosRel P defs as bs) :
    OutcomeRel P ((defs.head?.map (·.ty)).getD .bool) (defs.drop (if m.void then 0 else 1))
      (pick (defs.head?.map (·.ty)) m as) (pick (defs.head?.map (·.ty)) m bs) := by
  cases hv : m.void
  · cases defs with
    | nil =>
      obtain ⟨rfl, rfl⟩ := hr
      simp only [pick, hv, Bool.false_eq_true, if_false, List.drop_nil, firstThrow, List.head?_nil]
      exact .ok _ _ (.refl ..)
    | cons f fs =>
      obtain ⟨a0, as', b0, bs', rfl, rfl, hr0, hrt⟩ := hr
      simp only [pick, hv, Bool.false_eq_true, if_false, List.drop_succ_cons, List.drop_zero, List.head?_cons, Option.map_some]
      rcases firstThrow_rel P _ as' bs' 0 hrt with ⟨e1, e2⟩ | ⟨j, v, v', e1, e2, hn, hw⟩
      · rw [e1, e2]
        rcases hr0 with ⟨rfl, rfl⟩ | ⟨ha, hb, hw⟩
        · exact .ok _ _ (.refl ..)
        · dsimp only
          rw [succOr_of_ne_nil _ a0 ha, succOr_of_ne_nil _ b0 hb]
          exact .ok _ _ hw
      · rw [e1, e2, Nat.zero_add]
        exact .exc j v v' hw hn
  · simp only [pick, hv, if_true, List.drop_zero]
    rcases firstThrow_rel P _ as bs 0 hr with ⟨e1, e2⟩ | ⟨j, v, v', e1, e2, hn, hw⟩
    · rw [e1, e2]
      exact .ok _ _ (.refl ..)
    · rw [e1, e2, Nat.zero_add]
      exact .exc j v v' hw hn

theorem firstThrow_nils (n k : Nat) : firstThrow (nils n) k = none := by
  induction n generalizing k with
  | zero => rfl
  | succ n ih => exact ih (k + 1)

theorem firstThrow_set (n i k : Nat) (v : GoVal) (hi : i < n) (hv : v ≠ .nil) :
    firstThrow ((nils n).set i v) k = some (k + i, v) := by
  induction n generalizing i k with
  | zero => omega
  | succ n ih =>
    cases i with
    | zero => exact firstThrow_cons_ne_nil v _ k hv
    | succ i => exact Nat.add_right_comm k 1 i ▸ ih i (k + 1) (Nat.lt_of_succ_lt_succ hi)

theorem set_nil_nils (n i : Nat) : (nils n).set i .nil = nils n := List.set_replicate_self

theorem pick_result (ty : Option Ty) (m : Method) (s : GoVal) (ts : List GoVal) :
    pick ty m ((if m.void then [] else [s]) ++ ts) =
      match firstThrow ts 0 with
      | some (i, v) => .exc i v
      | none => if m.void then .ok .nil else .ok (succOr ty s) := by
  cases hv : m.void <;> simp only [pick, hv, Bool.false_eq_true, if_false, if_true] <;> rfl

theorem outcomeOf_eq (ty : Option Ty) (m : Method) (ans : Answer) (ho : m.oneway = false) :
    outcomeOf m ty ans = match resultOf m ans with
      | .ok robj => pick ty m robj
      | .error msg => .app INTERNAL_ERROR (asc "Internal error processing " ++ m.name ++ asc ": " ++ msg) := by
  -- cases of resultOf: a value; a declared exception; an exception that is not declared; an error
  fun_cases resultOf m ans with
  | case1 v => simp only [pick_result, firstThrow_nils, outcomeOf, ho, Bool.false_or]
  | case2 i v hi =>
    simp only [pick_result]
    by_cases hn : v = .nil
    · subst hn
      rw [set_nil_nils, firstThrow_nils]
      simp only [outcomeOf, ho, hi, Bool.false_eq_true, if_false, if_true]
    · rw [firstThrow_set m.nthrows i 0 v hi hn, Nat.zero_add]
      simp only [outcomeOf, ho, hi, Bool.false_eq_true, if_false, if_true]
  | case3 i v hi => simp only [outcomeOf, ho, hi, Bool.false_eq_true, if_false]
  | case4 msg => simp only [outcomeOf, ho, Bool.false_eq_true, if_false]

theorem outcomeOf_oneway (ty : Option Ty) (m : Method) (ans : Answer) (ho : m.oneway = true) : outcomeOf m ty ans = .ok .nil := by
  cases ans <;> simp [outcomeOf, ho]

structure MethodOK (P : Prog) (m : Method) : Prop where
  name : m.name.length < maxSize
  args : ∃ sd, P.structs[m.args]? = some sd ∧ sd.kind = 0 ∧ ∀ f ∈ sd.fields, f.req ≠ .optional
  result : m.oneway = false → ∃ sd, P.structs[m.result]? = some sd ∧ sd.kind = 0 ∧
    sd.fields.length = (if m.void then 0 else 1) + m.nthrows ∧ AllOpt sd.fields ∧
    (m.void = false → sd.fields.head?.map (·.id) = some 0)
  oneway : m.oneway = true → m.void = true ∧ m.nthrows = 0

theorem methodOkB_sound (P : Prog) (m : Method) (h : methodOkB P m = true) : MethodOK P m := by
  simp only [methodOkB, Prog.struct?, Bool.and_eq_true, decide_eq_true_eq] at h
  obtain ⟨⟨h1, h2⟩, h3⟩ := h
  refine ⟨h1, ?_, fun ho => ?_, fun ho => ?_⟩
  · split at h2
    · next sd hs =>
      simp only [argsOkB, Bool.and_eq_true, beq_iff_eq, List.all_eq_true, bne_iff_ne, ne_eq] at h2
      exact ⟨sd, hs, h2⟩
    · cases h2
  · simp only [ho, Bool.false_eq_true, if_false] at h3
    split at h3
    · next sd hs =>
      simp only [resultOkB, Bool.and_eq_true, beq_iff_eq, List.all_eq_true, Bool.or_eq_true, Option.isNone_iff_eq_none] at h3
      obtain ⟨⟨⟨k, l⟩, o⟩, z⟩ := h3
      exact ⟨sd, hs, k, l, o, fun hv => z.resolve_left (by simp [hv])⟩
    · cases h3
  · simpa [ho] using h3

def throwDefs (P : Prog) (m : Method) : List FieldDef :=
  match P.struct? m.result with
  | some rd => rd.fields.drop (if m.void then 0 else 1)
  | none => []

def succTyD (P : Prog) (m : Method) : Ty := (successTy P m).getD .bool

theorem MethodOK.result_shape {P : Prog} {m : Method} {rd : StructDef} (hm : MethodOK P m) (ho : m.oneway = false)
    (hrd : P.structs[m.result]? = some rd) :
    rd.kind = 0 ∧ AllOpt rd.fields ∧ rd.fields.length = (if m.void then 0 else 1) + m.nthrows ∧
      throwDefs P m = rd.fields.drop (if m.void then 0 else 1) ∧ (m.void = false → rd.fields.head?.map (·.id) = some 0) := by
  obtain ⟨rd', hrd', hk, hl, hao, hid⟩ := hm.result ho
  cases hrd.symm.trans hrd'
  exact ⟨hk, hao, hl, by simp only [throwDefs, Prog.struct?, hrd], hid⟩

theorem resultOf_ok (m : Method) (v : GoVal) {n : Nat} (hn : n = (if m.void then 0 else 1) + m.nthrows) :
    resultOf m (.ok v) = .ok (if m.void then nils n else (nils n).set 0 v) := by
  cases hv : m.void <;> simp [resultOf, hn, hv, nils, Nat.add_comm 1, List.replicate_succ]

theorem resultOf_exc (m : Method) (v : GoVal) {i n : Nat} (hi : i < m.nthrows) (hn : n = (if m.void then 0 else 1) + m.nthrows) :
    resultOf m (.exc i v) = .ok ((nils n).set ((if m.void then 0 else 1) + i) v) := by
  cases hv : m.void <;> simp [resultOf, hn, hi, hv, nils, Nat.add_comm 1, List.replicate_succ]

/-- the answer of the handler is something the processor can send: a well-typed, writable `<fn>_result`
object, or an error text that fits a string -/
def AnswerOK (P : Prog) (m : Method) (ans : Answer) : Prop :=
  ∀ rd, P.structs[m.result]? = some rd →
    match resultOf m ans with
    | .ok robj => WTFields P.structs rd.fields robj ∧ ∃ ws, toWFields P rd.fields robj = .ok ws
    | .error msg => (asc "Internal error processing " ++ m.name ++ asc ": " ++ msg).length < maxSize

theorem answerOK_err (P : Prog) (m : Method) (msg : Bytes)
    (h : (asc "Internal error processing " ++ m.name ++ asc ": " ++ msg).length < maxSize) : AnswerOK P m (.err msg) :=
  fun _ _ => h

theorem answerOK_ok (P : Prog) (m : Method) (hm : MethodOK P m) (ho : m.oneway = false) (v : GoVal)
    (hids : ∀ rd, P.structs[m.result]? = some rd → IdsOK rd.fields)
    (hv : m.void = false → v = .nil ∨ ∀ rd sf, P.structs[m.result]? = some rd → rd.fields.head? = some sf →
      WT P.structs sf.ty v ∧ ∃ w, toW P sf.ty v = .ok w) :
    AnswerOK P m (.ok v) := by
  intro rd hrd
  obtain ⟨_, hao, hl, _, _⟩ := hm.result_shape ho hrd
  rw [resultOf_ok m v hl]
  cases hvoid : m.void
  · exact single_ok P _ 0 v hao (hids rd hrd) ((hv hvoid).imp_right fun h f hf => h rd f hrd hf)
  · exact writable_nils P _ hao (hids rd hrd)

theorem answerOK_exc (P : Prog) (m : Method) (hm : MethodOK P m) (ho : m.oneway = false) (i : Nat) (v : GoVal)
    (hi : i < m.nthrows) (hids : ∀ rd, P.structs[m.result]? = some rd → IdsOK rd.fields)
    (hv : ∀ f, ((throwDefs P m).drop i).head? = some f → WT P.structs f.ty v ∧ ∃ w, toW P f.ty v = .ok w) :
    AnswerOK P m (.exc i v) := by
  intro rd hrd
  obtain ⟨_, hao, hl, htd, _⟩ := hm.result_shape ho hrd
  rw [resultOf_exc m v hi hl]
  rw [htd, List.drop_drop] at hv
  exact single_ok P _ _ v hao (hids rd hrd) (.inr hv)

theorem clientSend_eq (P : Prog) (seq : Nat) (m : Method) (a : List GoVal) (ad : StructDef) (ws : List (Nat × WVal))
    (hsd : P.structs[m.args]? = some ad) (hk : ad.kind = 0) (hw : toWFields P ad.fields a = .ok ws) :
    clientSend P seq m a = (nextSeq seq, .ok (encMsg m.name tCALL (nextSeq seq) ++ (encFields ws ++ [0]))) := by
  simp [clientSend, write_struct P m.args ad a ws hsd (fun h => by omega) hw, bind, pure]

theorem toWFields_nonopt_ids (P : Prog) : ∀ (defs : List FieldDef) (vs : List GoVal) (ws : List (Nat × WVal)),
    (∀ f ∈ defs, f.req ≠ .optional) → toWFields P defs vs = .ok ws → ws.map (·.1) = defs.map idOf
  | [], [], _, _, h => by cases h; rfl
  | [], _ :: _, _, _, h => by cases h
  | _ :: _, [], _, _, h => by cases h
  | f :: fs, v :: vs, ws, hno, h => by
    obtain ⟨hf, ht⟩ := List.forall_mem_cons.mp hno
    have hc : ¬ (decide (f.req = .optional) && !isSet f v) = true := by simp only [hf, decide_false, Bool.false_and]; exact Bool.false_ne_true
    obtain ⟨w, _, ws', h2, rfl⟩ := (toWFields_written_ok hc).mp h
    exact congrArg (idOf f :: ·) (toWFields_nonopt_ids P fs vs ws' ht h2)

theorem process_known (P : Prog) (svc : Service) (h : Handler) (m : Method) (ty seq : Nat) (body : Bytes)
    (hn : m.name.length < maxSize) (ht : ty < 256) (hs : seq < 256 ^ 4)
    (hd : mapGet m.name svc.procMap = some m) :
    process P svc h (encMsg m.name ty seq ++ body) = processFn P m h seq body := by
  simp [process, decMsg_encMsg false m.name ty seq body hn ht hs, hd]

-- stated for any string: evaluating `asc` on a literal is slow to check
theorem asc_append_pos {s : String} (h : s ≠ "") (r : Bytes) : (asc s ++ r).length > 0 :=
  List.length_pos_iff.mpr (List.append_ne_nil_of_left_ne_nil (by simp [asc, h]) r)

theorem asc_len_pos (msg name : Bytes) : (asc "Internal error processing " ++ name ++ asc ": " ++ msg).length > 0 := by
  rw [List.append_assoc, List.append_assoc]
  exact asc_append_pos (by decide) _

theorem clientRecv_exc (P : Prog) (m : Method) (seq : Nat) (msg : Bytes) (ty : Nat) (hn : m.name.length < maxSize)
    (hs : seq < 256 ^ 4) (hz : msg.length > 0) (hl : msg.length < maxSize) (ht : ty < 2147483648) :
    clientRecv P seq m (excReply m.name seq msg ty) = (.app ty msg, some []) := by
  have hne : msg ≠ [] := fun e => by rw [e] at hz; exact Nat.lt_irrefl _ hz
  simp only [clientRecv, excReply, decMsg_encMsg false m.name tEXCEPTION seq _ hn (by decide) hs]
  simp only [ne_eq, not_true_eq_false, if_false, if_true]
  rw [← List.append_nil (encW _), readAppExc_enc msg ty [] hz hl ht]
  dsimp only
  rw [if_neg hne]

theorem clientRecv_reply (P : Prog) (m : Method) (seq : Nat) (body : Bytes) (fs : List GoVal) (hn : m.name.length < maxSize)
    (hs : seq < 256 ^ 4) (hread : readZero P.structs m.result body = some (fs, [])) :
    clientRecv P seq m (encMsg m.name tREPLY seq ++ body) = (pick (successTy P m) m fs, some []) := by
  simp only [clientRecv, decMsg_encMsg false m.name tREPLY seq _ hn (by decide) hs]
  simp only [ne_eq, not_true_eq_false, if_false, hread]
  simp [tREPLY, tEXCEPTION]

theorem call_main (P : Prog) (hP : SchemaOK P) (svc : Service) (m : Method) (h : Handler) (a : List GoVal) (seq : Nat)
    (hm : MethodOK P m) (hd : mapGet m.name svc.procMap = some m)
    (ad : StructDef) (hsd : P.structs[m.args]? = some ad)
    (hwt : WTFields P.structs ad.fields a) (ws : List (Nat × WVal)) (hw : toWFields P ad.fields a = .ok ws)
    (hans : ∀ a', m.oneway = false → AnswerOK P m (h m a')) :
    ∃ a', toWFields (noVal P) ad.fields a' = .ok ws ∧
      ∃ obs, call P svc m h a (Conn.fresh seq) = (Conn.fresh (nextSeq seq), obs) ∧
        obs.req = some (encMsg m.name tCALL (nextSeq seq) ++ (encFields ws ++ [0])) ∧
        (∃ po, obs.proc = some po ∧ po.log = [(m.name, a')] ∧ po.rest = some [] ∧ (m.oneway = true → po.reply = [])) ∧
        OutcomeRel (noVal P) (succTyD P m) (throwDefs P m) (outcomeOf m (successTy P m) (h m a')) obs.outcome := by
  obtain ⟨sd, hs, hk, hno⟩ := hm.args
  rw [hsd] at hs; cases hs
  obtain ⟨a', hread, hwa⟩ := readZero_rt P hP m.args ad a ws [] hsd hwt hw (fun f hf ho => absurd ho (hno f hf))
  refine ⟨a', hwa, ?_⟩
  have hsq := nextSeq_lt seq
  simp only [call, clientSend_eq P seq m a ad ws hsd hk hw, Conn.fresh, List.nil_append,
    process_known P svc h m tCALL (nextSeq seq) _ hm.name (by decide) hsq hd, processFn, hread]
  cases ho : m.oneway
  · obtain ⟨rd, hrd, hrk, hrl, hro, _⟩ := hm.result ho
    have hA := hans a' ho rd hrd
    simp only [Bool.false_eq_true, if_false]
    cases hres : resultOf m (h m a') with
    | error msg =>
      simp only [hres] at hA
      simp only [clientRecv_exc P m _ _ INTERNAL_ERROR hm.name hsq (asc_len_pos msg m.name) hA (by decide)]
      refine ⟨_, rfl, rfl, ⟨_, rfl, rfl, rfl, nofun⟩, ?_⟩
      rw [outcomeOf_eq _ m _ ho, hres]
      exact OutcomeRel.app _ _
    | ok robj =>
      simp only [hres] at hA
      obtain ⟨hwtr, wr, hwr⟩ := hA
      obtain ⟨fs', hread2, hwf⟩ := readZero_rt P hP m.result rd robj wr [] hrd hwtr hwr
        (fun f hf _ => (hro f hf).2)
      simp only [write_struct P m.result rd robj wr hrd (fun h => by omega) hwr,
        clientRecv_reply P m _ _ fs' hm.name hsq hread2]
      refine ⟨_, rfl, rfl, ⟨_, rfl, rfl, rfl, nofun⟩, ?_⟩
      -- what was read back encodes to the same fields as what the handler answered
      have hpr := posRel_of_same_wire (noVal P) rd.fields robj fs' wr hro (hP m.result rd hrd).1
        (toWFields_noVal P robj rd.fields wr hwr) hwf
      rw [outcomeOf_eq _ m _ ho, hres]
      simp only [succTyD, successTy, throwDefs, Prog.struct?, hrd]
      exact pick_rel (noVal P) m hpr
  · simp only [if_true]
    refine ⟨_, rfl, rfl, ⟨_, rfl, rfl, rfl, fun _ => rfl⟩, ?_⟩
    rw [outcomeOf_oneway _ m _ ho]
    exact .ok _ _ (.refl ..)

def seqAfter : Nat → Nat → Nat
  | 0, s => s
  | n + 1, s => seqAfter n (nextSeq s)

/-- the hypotheses of `call_main` for one call of a history -/
structure CallOK (P : Prog) (svc : Service) (s : CallSpec) : Prop where
  method : MethodOK P s.m
  dispatch : mapGet s.m.name svc.procMap = some s.m
  wt : ∃ ad, P.structs[s.m.args]? = some ad ∧ WTFields P.structs ad.fields s.a ∧ ∃ ws, toWFields P ad.fields s.a = .ok ws
  answers : ∀ a', s.m.oneway = false → AnswerOK P s.m (s.h s.m a')

def obsAlone (P : Prog) (svc : Service) (seq : Nat) : List CallSpec → List CallObs
  | [] => []
  | s :: r => (call P svc s.m s.h s.a (Conn.fresh seq)).2 :: obsAlone P svc (nextSeq seq) r

theorem runCalls_fresh (P : Prog) (hP : SchemaOK P) (svc : Service) (specs : List CallSpec) (seq : Nat)
    (h : ∀ s ∈ specs, CallOK P svc s) :
    runCalls P svc specs (Conn.fresh seq) = (Conn.fresh (seqAfter specs.length seq), obsAlone P svc seq specs) := by
  fun_induction obsAlone P svc seq specs with
  | case1 => rfl
  | case2 seq s r ih =>
    obtain ⟨hs, hr⟩ := List.forall_mem_cons.mp h
    obtain ⟨ad, hsd, hwt, ws, hw⟩ := hs.wt
    obtain ⟨_, _, obs, hc, _⟩ := call_main P hP svc s.m s.h s.a seq hs.method hs.dispatch ad hsd hwt ws hw hs.answers
    simp only [runCalls, hc, ih hr, List.length_cons, seqAfter]

end Gen.Rpc
