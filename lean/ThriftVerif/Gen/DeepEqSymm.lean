import ThriftVerif.Gen.DeepEqLemmas
import ThriftVerif.Core.ListLemmas
/- symmetry of the specification `valEq`, and of `aligned`, on well-formed values (Go map invariant: keys pairwise different);
   Props/C18 draws from it the symmetry of the generated DeepEqual on the pairs of `deep_equal_iff_partial` -/
namespace Gen.DeepEq
open Gen

/-! ### Go `==` on base-typed map keys is equality of canonical forms -/

def isBaseVal : GoVal → Bool
  | .bool _ | .int _ | .dbl _ | .bytes _ => true
  | _ => false

theorem dblEq_comm (x y : Nat) : dblEq x y = dblEq y x := by
  unfold dblEq
  rw [Bool.or_comm (isNaN x), Bool.and_comm (x % _ == 0), Bool.beq_comm (a := x)]

def canonKey : GoVal → GoVal
  | .dbl x => .dbl (if x % 9223372036854775808 == 0 then 0 else x)
  | v => v

theorem not_nan_of_zeroish (y : Nat) (h : y % 9223372036854775808 = 0) : isNaN y = false := by
  unfold isNaN
  have : y % 4503599627370496 = 0 := by omega
  simp [this]

theorem dblEq_iff_canon (x y : Nat) (hx : dblEq x x = true) :
    dblEq x y = true ↔ (if x % 9223372036854775808 == 0 then 0 else x) = (if y % 9223372036854775808 == 0 then 0 else y) := by
  have hnx := (dblEq_self x).mp hx
  unfold dblEq
  by_cases zx : x % 9223372036854775808 = 0 <;> by_cases zy : y % 9223372036854775808 = 0
  · simp [zx, zy, hnx, not_nan_of_zeroish y zy]
  · simp [zx, zy, hnx]
    omega
  · simp [zx, zy, hnx]
    omega
  · cases hy : isNaN y <;> simp [zx, zy, hnx]
    intro h
    subst h
    simp [hnx] at hy

theorem goEq_iff_canon (a b : GoVal) (ha : isBaseVal a = true) (hb : isBaseVal b = true) (haa : goEq a a = true) :
    goEq a b = true ↔ canonKey a = canonKey b := by
  cases a <;> simp [isBaseVal] at ha <;> cases b <;> simp [isBaseVal] at hb <;> simp [goEq, canonKey] at haa ⊢
  · rename_i x y
    simpa using dblEq_iff_canon x y haa

def keysWF (k : Ty) (m : List (GoVal × GoVal)) : Bool :=
  k.isStruct || (distinctKeys k m && m.all (fun e => isBaseVal e.1))

theorem index_eq (k : Ty) (m : List (GoVal × GoVal)) (key : GoVal) :
    index k m key = (m.find? fun e => Std.keyEq k e.1 key).map (·.2) := by
  unfold index
  cases m.find? _ <;> rfl

theorem index_some_mem (k : Ty) (m : List (GoVal × GoVal)) (key w : GoVal) (h : index k m key = some w) :
    ∃ e ∈ m, e.2 = w ∧ Std.keyEq k e.1 key = true := by
  rw [index_eq, Option.map_eq_some_iff] at h
  obtain ⟨e, hf, hw⟩ := h
  exact ⟨e, List.mem_of_find?_eq_some hf, hw, (List.find?_some hf :)⟩

theorem index_isSome (k : Ty) (m : List (GoVal × GoVal)) (key : GoVal) :
    (index k m key).isSome = true ↔ ∃ e ∈ m, Std.keyEq k e.1 key = true := by
  rw [index_eq, Option.isSome_map, List.find?_isSome]

theorem keyEq_goEq (k : Ty) (hk : k.isStruct = false) (a b : GoVal) : Std.keyEq k a b = goEq a b := by
  simp [Std.keyEq, hk]

theorem distinctKeys_iff (k : Ty) (m : List (GoVal × GoVal)) :
    distinctKeys k m = true ↔
      (∀ e ∈ m, Std.keyEq k e.1 e.1 = true) ∧ m.Pairwise fun e e' => Std.keyEq k e.1 e'.1 = false := by
  induction m with
  | nil => simp [distinctKeys]
  | cons x r ih =>
    simp only [distinctKeys, Bool.and_eq_true, List.all_eq_true, Bool.not_eq_true', ih, List.mem_cons, forall_eq_or_imp,
      List.pairwise_cons]
    exact ⟨fun ⟨⟨a, b⟩, c, d⟩ => ⟨⟨a, c⟩, b, d⟩, fun ⟨⟨a, c⟩, b, d⟩ => ⟨⟨a, b⟩, c, d⟩⟩

def keysC (m : List (GoVal × GoVal)) : List GoVal := m.map (fun e => canonKey e.1)

theorem keysWF_iff {k : Ty} (hk : k.isStruct = false) {m : List (GoVal × GoVal)} :
    keysWF k m = true ↔ distinctKeys k m = true ∧ ∀ e ∈ m, isBaseVal e.1 = true := by
  simp only [keysWF, hk, Bool.false_or, Bool.and_eq_true, List.all_eq_true]

theorem keyEq_mem_iff (k : Ty) (hk : k.isStruct = false) {m m' : List (GoVal × GoVal)} (hw : keysWF k m = true)
    (hw' : keysWF k m' = true) {e e' : GoVal × GoVal} (he : e ∈ m) (he' : e' ∈ m') :
    Std.keyEq k e.1 e'.1 = true ↔ canonKey e.1 = canonKey e'.1 := by
  obtain ⟨hd, hb⟩ := (keysWF_iff hk).mp hw
  have haa := ((distinctKeys_iff k m).mp hd).1 e he
  rw [keyEq_goEq k hk] at haa ⊢
  exact goEq_iff_canon e.1 e'.1 (hb e he) (((keysWF_iff hk).mp hw').2 e' he') haa

theorem keysC_nodup (k : Ty) (hk : k.isStruct = false) (m : List (GoVal × GoVal)) (hw : keysWF k m = true) :
    (keysC m).Nodup := by
  obtain ⟨h, _⟩ := (keysWF_iff hk).mp hw
  rw [keysC, List.Nodup, List.pairwise_map]
  refine ((distinctKeys_iff k m).mp h).2.imp_of_mem fun {e e'} he he' hne heq => ?_
  rw [(keyEq_mem_iff k hk hw hw he he').mpr heq] at hne
  cases hne

theorem canon_inj (k : Ty) (hk : k.isStruct = false) (m : List (GoVal × GoVal)) (hw : keysWF k m = true)
    {e1 e2 : GoVal × GoVal} (h1 : e1 ∈ m) (h2 : e2 ∈ m) (h : canonKey e1.1 = canonKey e2.1) : e1 = e2 :=
  List.inj_of_nodup_map (l := m) _ (keysC_nodup k hk m hw) h1 h2 h

def EntriesOK (R : GoVal → GoVal → Bool) (k : Ty) (ma mb : List (GoVal × GoVal)) : Prop :=
  ∀ e ∈ ma, ∃ w, index k mb e.1 = some w ∧ R e.2 w = true

theorem EntriesOK.found {R : GoVal → GoVal → Bool} {k : Ty} {ma mb : List (GoVal × GoVal)} (h : EntriesOK R k ma mb) :
    ∀ e ∈ ma, (index k mb e.1).isSome = true := by
  intro e he
  obtain ⟨w, hi, _⟩ := h e he
  simp [hi]

theorem entriesOK_flip (R : GoVal → GoVal → Bool) (k : Ty) (hk : k.isStruct = false) (ma mb : List (GoVal × GoVal))
    (hwa : keysWF k ma = true) (hwb : keysWF k mb = true)
    (h1 : EntriesOK R k ma mb) (h2 : ∀ e' ∈ mb, (index k ma e'.1).isSome = true)
    (hsym : ∀ e ∈ ma, ∀ e' ∈ mb, R e.2 e'.2 = true → R e'.2 e.2 = true) :
    EntriesOK R k mb ma ∧ ∀ e ∈ ma, (index k mb e.1).isSome = true := by
  constructor
  · intro e' he'
    obtain ⟨w', hi⟩ := Option.isSome_iff_exists.mp (h2 e' he')
    refine ⟨w', hi, ?_⟩
    obtain ⟨e0, he0, hw0, hk0⟩ := index_some_mem k ma e'.1 w' hi
    obtain ⟨w, hiw, hR⟩ := h1 e0 he0
    obtain ⟨e1, he1, hw1, hk1⟩ := index_some_mem k mb e0.1 w hiw
    have heq : e1 = e' := canon_inj k hk mb hwb he1 he'
      (((keyEq_mem_iff k hk hwb hwa he1 he0).mp hk1).trans ((keyEq_mem_iff k hk hwa hwb he0 he').mp hk0))
    subst heq
    exact hw0 ▸ hsym e0 he0 e1 he1 (hw1 ▸ hR)
  · exact h1.found

/-- a key-wise comparison `f` written by recursion on the left map, like `valEqEntries` and `alignedEntries` -/
theorem entriesOK_iff (R : GoVal → GoVal → Bool) (k : Ty) (mb : List (GoVal × GoVal)) (f : List (GoVal × GoVal) → Bool)
    (hnil : f [] = true)
    (hcons : ∀ key val r, f ((key, val) :: r) = ((match index k mb key with | some w => R val w | none => false) && f r))
    (ma : List (GoVal × GoVal)) : f ma = true ↔ EntriesOK R k ma mb := by
  induction ma with
  | nil => simp [hnil, EntriesOK]
  | cons x r ih =>
    obtain ⟨key, val⟩ := x
    simp only [hcons, Bool.and_eq_true, ih, EntriesOK, List.mem_cons, forall_eq_or_imp]
    refine and_congr_left fun _ => ?_
    cases index k mb key <;> simp

theorem valEqEntries_iff (P : Prog) (k v : Ty) (mb ma : List (GoVal × GoVal)) :
    valEqEntries P k v ma mb = true ↔ EntriesOK (valEq P v) k ma mb :=
  entriesOK_iff (valEq P v) k mb (fun ma => valEqEntries P k v ma mb) rfl (fun _ _ _ => rfl) ma

theorem valEqSub_eq_all (P : Prog) (k v : Ty) (mb ma : List (GoVal × GoVal)) :
    valEqSub P k v ma mb = ma.all fun e => mb.any fun e' => valEq P k e.1 e'.1 && valEq P v e.2 e'.2 := by
  induction ma with
  | nil => rfl
  | cons x r ih => simp only [valEqSub, ih, List.all_cons]

theorem valEqAny_eq_any (P : Prog) (k v : Ty) (e' : GoVal × GoVal) (ma : List (GoVal × GoVal)) :
    valEqAny P k v ma e' = ma.any fun e => valEq P k e.1 e'.1 && valEq P v e.2 e'.2 := by
  induction ma with
  | nil => rfl
  | cons x r ih => simp only [valEqAny, ih, List.any_cons]

mutual
/-- a value of type `ty` as a Go program can hold it -/
def wf (P : Prog) (ty : Ty) (a : GoVal) : Bool :=
  match ty, a with
  | _, .nil => true
  | .struct i, .strct fs =>
      match P.struct? i with
      | some sd => wfFields P sd.fields fs
      | none => false
  | .list e, .list xs => wfList P e xs
  | .set e, .list xs => wfList P e xs
  | .map k v, .map kvs => keysWF k kvs && wfEntries P k v kvs
  | ty, a => baseOK ty a
termination_by structural a
def wfList (P : Prog) (e : Ty) (xs : List GoVal) : Bool :=
  match xs with
  | [] => true
  | x :: r => wf P e x && wfList P e r
termination_by structural xs
def wfEntries (P : Prog) (k v : Ty) (kvs : List (GoVal × GoVal)) : Bool :=
  match kvs with
  | [] => true
  | (key, val) :: r => wf P k key && wf P v val && wfEntries P k v r
termination_by structural kvs
def wfFields (P : Prog) (defs : List FieldDef) (as : List GoVal) : Bool :=
  match defs, as with
  | [], [] => true
  | f :: fs, a :: as => wf P f.ty a && wfFields P fs as
  | _, _ => false
termination_by structural as
end

theorem scalarEq_symm (ty : Ty) (a b : GoVal) (h : scalarEq ty a b = true) : scalarEq ty b a = true := by
  -- `h_8` is the clause `_, .int x, .int y` of `scalarEq`, which the earlier clauses keep from `bool`, `dbl`, `str`, `bin`
  unfold scalarEq at h
  split at h
  case h_2 => exact (dblEq_comm _ _).trans h
  case h_8 => cases ty <;> first | exact Bool.beq_comm.trans h | contradiction
  all_goals first | exact Bool.beq_comm.trans h | cases h

theorem scalarEq_comm (ty : Ty) (a b : GoVal) : scalarEq ty a b = scalarEq ty b a :=
  Bool.eq_iff_iff.mpr ⟨scalarEq_symm ty a b, scalarEq_symm ty b a⟩

theorem wfEntries_mem (P : Prog) (k v : Ty) (m : List (GoVal × GoVal)) (h : wfEntries P k v m = true) :
    ∀ e ∈ m, wf P k e.1 = true ∧ wf P v e.2 = true := by
  induction m with
  | nil => nofun
  | cons x r ih =>
    rw [wfEntries, Bool.and_eq_true, Bool.and_eq_true] at h
    exact List.forall_mem_cons.mpr ⟨h.1, ih h.2⟩

theorem map_symm (P : Prog) (k v : Ty) (ma mb : List (GoVal × GoVal)) (hwa : keysWF k ma = true) (hwb : keysWF k mb = true)
    (H : ∀ e ∈ ma, ∀ e' ∈ mb, valEq P k e.1 e'.1 = valEq P k e'.1 e.1 ∧ valEq P v e.2 e'.2 = valEq P v e'.2 e.2)
    (h : valEq P (.map k v) (.map ma) (.map mb) = true) : valEq P (.map k v) (.map mb) (.map ma) = true := by
  simp only [valEq, entriesOf] at h ⊢
  cases hk : k.isStruct
  · simp only [hk, Bool.false_eq_true, if_false, Bool.and_eq_true, beq_iff_eq, valEqEntries_iff, List.all_eq_true] at h ⊢
    obtain ⟨hl, h1, h2⟩ := h
    have := entriesOK_flip (valEq P v) k hk ma mb hwa hwb h1 h2 (fun e he e' he' h => (H e he e' he').2 ▸ h)
    exact ⟨hl.symm, this.1, this.2⟩
  · simp only [hk, if_true, valEqSub_eq_all, valEqAny_eq_any, Bool.and_eq_true, beq_iff_eq, List.all_eq_true, List.any_eq_true] at h ⊢
    obtain ⟨hl, h1, h2⟩ := h
    refine ⟨hl.symm, fun e' he' => ?_, fun e he => ?_⟩
    · obtain ⟨e, he, hkk, hvv⟩ := h2 e' he'
      exact ⟨e, he, (H e he e' he').1 ▸ hkk, (H e he e' he').2 ▸ hvv⟩
    · obtain ⟨e', he', hkk, hvv⟩ := h1 e he
      exact ⟨e', he', (H e he e' he').1 ▸ hkk, (H e he e' he').2 ▸ hvv⟩

theorem alignedEntries_iff (P : Prog) (k v : Ty) (mb ma : List (GoVal × GoVal)) :
    alignedEntries P k v ma mb = true ↔ EntriesOK (aligned P v) k ma mb :=
  entriesOK_iff (aligned P v) k mb (fun ma => alignedEntries P k v ma mb) rfl (fun _ _ _ => rfl) ma

theorem aligned_base (P : Prog) (ty : Ty) (a b : GoVal) (hb : ty.isBase = true) :
    aligned P ty a b = (baseOK ty a && baseOK ty b) := by
  cases ty <;> first | (cases a <;> rfl) | cases hb

theorem lenOr_comm {n m : Nat} {p q : Bool} (h : (n != m || p) = true) (hpq : n = m → p = true → q = true) :
    (m != n || q) = true := by
  by_cases hl : n = m
  · subst hl
    simp only [bne_self_eq_false, Bool.false_or] at h ⊢
    exact hpq rfl h
  · simp [Ne.symm hl]

theorem nil_comm (P : Prog) (ty : Ty) (b : GoVal) (hty : ty.isBase = false) (hb : wf P ty b = true) :
    valEq P ty .nil b = valEq P ty b .nil ∧ (aligned P ty .nil b = true → aligned P ty b .nil = true) := by
  cases ty with
  | list e | set e =>
    cases b with
    | nil => exact ⟨rfl, id⟩
    | list ys => cases ys <;> exact ⟨rfl, fun _ => rfl⟩
    | _ => cases hb
  | map k v =>
    cases b with
    | nil => exact ⟨rfl, id⟩
    | map mb => cases mb <;> simp [valEq, aligned, entriesOf, valEqSub, valEqEntries, alignedEntries]
    | _ => cases hb
  | struct i =>
    cases b with
    | nil | strct fs => exact ⟨rfl, fun _ => rfl⟩
    | _ => cases hb
  | _ => cases hty

theorem map_aligned_comm (P : Prog) (k v : Ty) (ma mb : List (GoVal × GoVal))
    (hwa : keysWF k ma = true) (hwb : keysWF k mb = true)
    (H : ∀ e ∈ ma, ∀ e' ∈ mb, aligned P v e.2 e'.2 = true → aligned P v e'.2 e.2 = true)
    (h : aligned P (.map k v) (.map ma) (.map mb) = true) : aligned P (.map k v) (.map mb) (.map ma) = true := by
  simp only [aligned, entriesOf] at h ⊢
  refine lenOr_comm h fun hl h' => ?_
  cases hk : k.isStruct
  · simp only [hk, Bool.false_eq_true, if_false, Bool.and_eq_true, alignedEntries_iff, List.all_eq_true] at h' ⊢
    exact entriesOK_flip (aligned P v) k hk ma mb hwa hwb h'.1 h'.2 H
  · simp only [hk, if_true] at h' ⊢
    have : ma = [] := by simpa using h'
    subst this
    simpa using hl.symm

theorem comm_base (P : Prog) (ty : Ty) (a b : GoVal) (hty : ty.isBase = true) :
    valEq P ty a b = valEq P ty b a ∧ (aligned P ty a b = true → aligned P ty b a = true) := by
  rw [valEq_base P ty a b hty, valEq_base P ty b a hty, aligned_base P ty a b hty, aligned_base P ty b a hty, Bool.and_comm]
  exact ⟨scalarEq_comm ty a b, id⟩

/-- `valEq` and `aligned` are symmetric on values a Go program can hold: one induction on `wf` of the left value serves both; in each
branch `wf` of the right value leaves `nil` or the same shape. `case n` is the n-th branch of `wf` (1 `nil`, 2–3 `.struct`, 4 `.list`,
5 `.set`, 6 `.map`, 7 the last clause), `wfList` (8–9), `wfFields` (10–12), `wfEntries` (13–14). -/
theorem comm_all (P : Prog) :
    (∀ ty a, wf P ty a = true → ∀ b, wf P ty b = true →
      valEq P ty a b = valEq P ty b a ∧ (aligned P ty a b = true → aligned P ty b a = true)) ∧
    (∀ k v kvs, wfEntries P k v kvs = true → ∀ mb, wfEntries P k v mb = true → ∀ e ∈ kvs, ∀ e' ∈ mb,
      (valEq P k e.1 e'.1 = valEq P k e'.1 e.1 ∧ valEq P v e.2 e'.2 = valEq P v e'.2 e.2) ∧
      (aligned P v e.2 e'.2 = true → aligned P v e'.2 e.2 = true)) ∧
    (∀ e xs, wfList P e xs = true → ∀ ys, wfList P e ys = true →
      valEqList P e xs ys = valEqList P e ys xs ∧ (alignedList P e xs ys = true → alignedList P e ys xs = true)) ∧
    (∀ defs as, wfFields P defs as = true → ∀ bs, wfFields P defs bs = true →
      valEqFields P defs as bs = valEqFields P defs bs as ∧
      (alignedFields P defs as bs = true → alignedFields P defs bs as = true)) := by
  apply wf.mutual_induct P
  case case1 =>
    intro ty _ b hb
    cases hty : ty.isBase
    · exact nil_comm P ty b hty hb
    · exact comm_base P ty .nil b hty
  case case2 =>
    intro i fs sd hs ih ha b hb
    cases b with
    | nil => exact ⟨(nil_comm P _ _ rfl ha).1.symm, fun _ => rfl⟩
    | strct gs =>
      simp only [wf, hs] at ha hb
      simp only [valEq, aligned, hs]
      exact ih ha gs hb
    | _ => cases hb
  case case4 | case5 =>
    intro e xs ih ha b hb
    cases b with
    | nil => exact ⟨(nil_comm P _ _ rfl ha).1.symm, fun _ => rfl⟩
    | list ys => exact ⟨(ih ha ys hb).1, fun h => lenOr_comm h fun _ => (ih ha ys hb).2⟩
    | _ => cases hb
  case case6 =>
    intro k v ma ih ha b hb
    cases b with
    | nil => exact ⟨(nil_comm P _ _ rfl ha).1.symm, fun _ => rfl⟩
    | map mb =>
      simp only [wf, Bool.and_eq_true] at ha hb
      have H := ih ha.2 mb hb.2
      exact ⟨Bool.eq_iff_iff.mpr ⟨map_symm P k v ma mb ha.1 hb.1 fun e he e' he' => (H e he e' he').1,
          map_symm P k v mb ma hb.1 ha.1 fun e' he' e he => ⟨(H e he e' he').1.1.symm, (H e he e' he').1.2.symm⟩⟩,
        map_aligned_comm P k v ma mb ha.1 hb.1 fun e he e' he' => (H e he e' he').2⟩
    | _ => cases hb
  case case7 =>
    intro ty a _ _ _ _ _ ha b _
    simp only [wf, *] at ha
    exact comm_base P ty a b (by cases ty <;> first | rfl | cases ha)
  case case9 =>
    intro e x r ih1 ih2 ha ys hb
    cases ys with
    | nil => exact ⟨rfl, fun _ => rfl⟩
    | cons y t =>
      simp only [wfList, Bool.and_eq_true] at ha hb
      have h1 := ih1 ha.1 y hb.1
      have h2 := ih2 ha.2 t hb.2
      simp only [valEqList, alignedList, Bool.and_eq_true, h1.1, h2.1, true_and]
      exact fun h => ⟨h1.2 h.1, h2.2 h.2⟩
  case case11 =>
    intro f fs a as ih1 ih2 ha bs hb
    cases bs with
    | nil => cases hb
    | cons b bs' =>
      simp only [wfFields, Bool.and_eq_true] at ha hb
      have h1 := ih1 ha.1 b hb.1
      have h2 := ih2 ha.2 bs' hb.2
      constructor
      · simp only [valEqFields, h1.1, h2.1, Bool.or_comm (isNilV a) (isNilV b), Bool.and_comm (isNilV a) (isNilV b)]
      · simp only [alignedFields, Bool.and_eq_true]
        intro h
        refine ⟨?_, h2.2 h.2⟩
        have h := h.1
        rw [Bool.or_comm (isNilV b), Bool.and_comm (baseOK f.ty b), Bool.beq_comm (a := isNilV b)]
        by_cases hp : isPtrField f = true
        · rw [if_pos hp] at h ⊢
          exact h
        · rw [if_neg hp, Bool.and_eq_true] at h ⊢
          exact ⟨h.1, h1.2 h.2⟩
  case case14 =>
    intro k v key val r ihk ihv ihr ha mb hb
    simp only [wfEntries, Bool.and_eq_true] at ha
    refine List.forall_mem_cons.mpr ⟨fun e' he' => ?_, ihr ha.2 mb hb⟩
    have hb' := wfEntries_mem P k v mb hb e' he'
    exact ⟨⟨(ihk ha.1.1 _ hb'.1).1, (ihv ha.1.2 _ hb'.2).1⟩, (ihv ha.1.2 _ hb'.2).2⟩
  case case3 =>
    intro i fs hs ha
    simp [wf, hs] at ha
  case case12 =>
    intro t defs h1 h2 ha
    simp [wfFields, *] at ha
  case case8 =>
    intro e _ ys _
    cases ys <;> exact ⟨rfl, fun _ => rfl⟩
  case case10 =>
    intro _ bs hb
    cases bs <;> first | exact ⟨rfl, id⟩ | cases hb
  case case13 =>
    intro k v _ mb _ e he
    cases he

theorem aligned_comm (P : Prog) (a : GoVal) (ty : Ty) (b : GoVal) (ha : wf P ty a = true) (hb : wf P ty b = true) :
    aligned P ty a b = true → aligned P ty b a = true :=
  ((comm_all P).1 ty a ha b hb).2

theorem valEqList_comm (P : Prog) (xs : List GoVal) : ∀ (e : Ty) (ys : List GoVal), wfList P e xs = true → wfList P e ys = true →
    valEqList P e xs ys = valEqList P e ys xs :=
  fun e ys ha hb => ((comm_all P).2.2.1 e xs ha ys hb).1

theorem valEqFields_comm (P : Prog) (as : List GoVal) : ∀ (defs : List FieldDef) (bs : List GoVal),
    wfFields P defs as = true → wfFields P defs bs = true → valEqFields P defs as bs = valEqFields P defs bs as :=
  fun defs bs ha hb => ((comm_all P).2.2.2 defs as ha bs hb).1

theorem entries_comm (P : Prog) (kvs : List (GoVal × GoVal)) : ∀ (k v : Ty) (mb : List (GoVal × GoVal)),
    wfEntries P k v kvs = true → wfEntries P k v mb = true →
      ∀ e ∈ kvs, ∀ e' ∈ mb, valEq P k e.1 e'.1 = valEq P k e'.1 e.1 ∧ valEq P v e.2 e'.2 = valEq P v e'.2 e.2 :=
  fun k v mb ha hb e he e' he' => ((comm_all P).2.1 k v kvs ha mb hb e he e' he').1

theorem alignedList_comm (P : Prog) (xs : List GoVal) : ∀ (e : Ty) (ys : List GoVal), wfList P e xs = true → wfList P e ys = true →
    alignedList P e xs ys = true → alignedList P e ys xs = true :=
  fun e ys ha hb => ((comm_all P).2.2.1 e xs ha ys hb).2

theorem alignedFields_comm (P : Prog) (as : List GoVal) : ∀ (defs : List FieldDef) (bs : List GoVal),
    wfFields P defs as = true → wfFields P defs bs = true → alignedFields P defs as bs = true → alignedFields P defs bs as = true :=
  fun defs bs ha hb => ((comm_all P).2.2.2 defs as ha bs hb).2

theorem alignedEntries_comm (P : Prog) (kvs : List (GoVal × GoVal)) : ∀ (k v : Ty) (mb : List (GoVal × GoVal)),
    wfEntries P k v kvs = true → wfEntries P k v mb = true →
      ∀ e ∈ kvs, ∀ e' ∈ mb, aligned P v e.2 e'.2 = true → aligned P v e'.2 e.2 = true :=
  fun k v mb ha hb e he e' he' => ((comm_all P).2.1 k v kvs ha mb hb e he e' he').2

end Gen.DeepEq
