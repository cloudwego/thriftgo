import ThriftVerif.Gen.StdLemmas.Write
import ThriftVerif.Gen.StdLemmas.Read
import ThriftVerif.Gen.StdLemmas.Run
import ThriftVerif.Gen.StdLemmas.Loop
import ThriftVerif.Gen.StdLemmas.RoundTrip
/-
  Gen/StdLemmas: the round trip of `Gen.Std`, the generated Read/Write of the default templates, in parts (import order).
  The typed round trip gives ONE read-back value for all continuations (`RTu`), which is what lets unknown-id fields be
  interleaved and the written fields be permuted.
-/
