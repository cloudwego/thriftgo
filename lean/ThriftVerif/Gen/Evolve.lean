import ThriftVerif.Gen.StdLemmas
/-
  Gen/Evolve: schema evolution at one struct level. `new` is `old` with fields added
  (a mask over `new`'s field list says which fields are `old`'s). The mask projections `proj` / `added`
  and the Read loop under a mask (`loop_rt_sub`) are in Gen/StdLemmas/Loop. `Gen.Unknown.unk` (the fields of a
  stream that a schema does not know) stands here because `new_fields_split` states the new writer's fields in its terms.
-/
namespace Gen.Evolve
open Wire Gen Gen.Std

theorem idOf_lt (f : FieldDef) : idOf f < 256 ^ 2 := pat_lt_bytes pow256.2.1 f.id

/-- values of added fields are within the protocol's Skip depth when written -/
def AddedShallow (P : Prog) : List Bool → List FieldDef → List GoVal → Prop
  | true :: m, _ :: fs, _ :: vs => AddedShallow P m fs vs
  | false :: m, f :: fs, v :: vs => (∀ w, toW P f.ty v = .ok w → w.depth ≤ 64) ∧ AddedShallow P m fs vs
  | _, _, _ => True

end Gen.Evolve

namespace Gen.Unknown
open Wire Gen Gen.Std

def unk (defs : List FieldDef) (ms : List (Nat × WVal)) : List (Nat × WVal) :=
  ms.filter fun x => (findField defs x.1).isNone

theorem unk_nil (defs : List FieldDef) : unk defs [] = [] := rfl

theorem unk_cons_known {defs : List FieldDef} {id : Nat} {jf : Nat × FieldDef} (w : WVal) (ms : List (Nat × WVal))
    (h : findField defs id = some jf) : unk defs ((id, w) :: ms) = unk defs ms := by
  simp [unk, h]

theorem unk_cons_unknown {defs : List FieldDef} {id : Nat} (w : WVal) (ms : List (Nat × WVal))
    (h : findField defs id = none) : unk defs ((id, w) :: ms) = (id, w) :: unk defs ms := by
  simp [unk, h]

theorem mem_unk {defs : List FieldDef} {ms : List (Nat × WVal)} {x : Nat × WVal} :
    x ∈ unk defs ms ↔ x ∈ ms ∧ findField defs x.1 = none := by
  simp [unk]

theorem unk_ne_nil {defs : List FieldDef} {ms : List (Nat × WVal)} :
    unk defs ms ≠ [] ↔ ∃ x ∈ ms, findField defs x.1 = none :=
  ⟨fun h => (List.exists_mem_of_ne_nil _ h).imp fun _ hx => mem_unk.1 hx,
    fun ⟨_, hx, hn⟩ => List.ne_nil_of_mem (mem_unk.2 ⟨hx, hn⟩)⟩

theorem unk_append (defs : List FieldDef) (a b : List (Nat × WVal)) : unk defs (a ++ b) = unk defs a ++ unk defs b :=
  List.filter_append ..

theorem unk_perm (defs : List FieldDef) {ms ms' : List (Nat × WVal)} (hp : ms.Perm ms') : (unk defs ms).Perm (unk defs ms') :=
  hp.filter _

theorem unk_unk (defs : List FieldDef) (ms : List (Nat × WVal)) : unk defs (unk defs ms) = unk defs ms := by
  simp [unk]

theorem unk_known {defs : List FieldDef} {ws : List (Nat × WVal)} (hk : ∀ x ∈ ws, x.1 ∈ defs.map idOf) :
    unk defs ws = [] :=
  List.eq_nil_iff_forall_not_mem.2 fun x hx =>
    have ⟨_, _, hf⟩ := findField_some_of_mem defs x.1 (hk x (mem_unk.1 hx).1)
    nomatch hf.symm.trans (mem_unk.1 hx).2

end Gen.Unknown

namespace Gen.Evolve
open Wire Gen Gen.Std

theorem new_fields_split (P : Prog) (old : List FieldDef) :
    ∀ (mask : List Bool) (new : List FieldDef) (vs : List GoVal) (wsN : List (Nat × WVal)),
      mask.length = new.length → toWFields P new vs = .ok wsN → WTFields P.structs new vs →
      (∀ g ∈ proj mask new, idOf g ∈ old.map idOf) → (∀ g ∈ added mask new, idOf g ∉ old.map idOf) →
      AddedShallow P mask new vs →
      ∃ wsO, toWFields P (proj mask new) (proj mask vs) = .ok wsO ∧
        toWFields P (added mask new) (added mask vs) = .ok (Unknown.unk old wsN) ∧ Mixed old wsO wsN := by
  intro mask
  induction mask with
  | nil =>
    intro new vs wsN hl h _ _ _ _
    cases List.eq_nil_of_length_eq_zero hl.symm
    cases vs with
    | cons v vs => cases h
    | nil => cases h; exact ⟨[], rfl, rfl, .nil⟩
  | cons b m ih =>
    intro new vs wsN hl h hwt hold hfresh hsh
    cases new with
    | nil => cases hl
    | cons f fs =>
    cases vs with
    | nil => cases h
    | cons v vs =>
    have hl' := Nat.succ.inj hl
    by_cases hc : (decide (f.req = .optional) && !isSet f v) = true
    · rw [toWFields_skipped hc] at h
      cases b with
      | true =>
        obtain ⟨wsO, h1, h2, h3⟩ := ih fs vs wsN hl' h hwt.2.2.2 (fun g hg => hold g (List.mem_cons_of_mem _ hg)) hfresh hsh
        exact ⟨wsO, (toWFields_skipped hc).trans h1, h2, h3⟩
      | false =>
        obtain ⟨wsO, h1, h2, h3⟩ := ih fs vs wsN hl' h hwt.2.2.2 hold (fun g hg => hfresh g (List.mem_cons_of_mem _ hg)) hsh.2
        exact ⟨wsO, h1, (toWFields_skipped hc).trans h2, h3⟩
    · obtain ⟨w, hw, ws', hws', rfl⟩ := (toWFields_written_ok hc).mp h
      cases b with
      | true =>
        obtain ⟨wsO, h1, h2, h3⟩ := ih fs vs ws' hl' hws' hwt.2.2.2 (fun g hg => hold g (List.mem_cons_of_mem _ hg)) hfresh hsh
        obtain ⟨j, f', hf⟩ := findField_some_of_mem old (idOf f) (hold f List.mem_cons_self)
        exact ⟨(pat 16 f.id, w) :: wsO, (toWFields_written_ok hc).mpr ⟨w, hw, wsO, h1, rfl⟩,
          (Unknown.unk_cons_known w ws' (id := pat 16 f.id) hf).symm ▸ h2, .known _ _ _ h3⟩
      | false =>
        obtain ⟨wsO, h1, h2, h3⟩ := ih fs vs ws' hl' hws' hwt.2.2.2 hold (fun g hg => hfresh g (List.mem_cons_of_mem _ hg)) hsh.2
        have hnf := findField_none old _ (hfresh f (List.mem_cons_self ..))
        exact ⟨wsO, h1, (Unknown.unk_cons_unknown w ws' hnf).symm ▸ (toWFields_written_ok hc).mpr ⟨w, hw, _, h2, rfl⟩,
          .unknown (pat 16 f.id) w wsO ws' h3 (idOf_lt f) hnf (toW_WF P v f.ty w (WT_of_written hwt hc) hw).1 (hsh.1 w hw)⟩

theorem Mixed_depth (defs : List FieldDef) : ∀ ws ms, Mixed defs ws ms → depthFields ws ≤ depthFields ms := by
  intro ws ms h
  induction h with
  | nil => simp
  | known x ws ms _ ih => obtain ⟨i, w⟩ := x; simp only [depthFields]; omega
  | unknown id u ws ms _ _ _ _ _ ih => simp only [depthFields]; omega

theorem old_reads_new (P : Prog) (hP : SchemaOK P) (hv : P.validateSet = false) (iOld : Nat)
    (sdOld sdNew : StructDef) (mask : List Bool) (vs : List GoVal) (wsN : List (Nat × WVal)) (f : Nat)
    (hO : P.structs[iOld]? = some sdOld) (hl : mask.length = sdNew.fields.length)
    (hproj : proj mask sdNew.fields = sdOld.fields)
    (hfresh : ∀ g ∈ added mask sdNew.fields, idOf g ∉ sdOld.fields.map idOf)
    (hwt : WTFields P.structs sdNew.fields vs) (hw : toWFields P sdNew.fields vs = .ok wsN)
    (hsh : AddedShallow P mask sdNew.fields vs) (hd : depthFields wsN ≤ f) :
    ∃ fs' wsO, toWFields P sdOld.fields (proj mask vs) = .ok wsO ∧ toWFields P sdOld.fields fs' = .ok wsO ∧
      ∀ r, readTy P.structs (f + 1) (.struct iOld) (encFields wsN ++ 0 :: r) = some (.strct fs', r) := by
  obtain ⟨kind, flds⟩ := sdOld
  cases hproj
  obtain ⟨wsO, h1, _, hm⟩ := new_fields_split P _ mask sdNew.fields vs wsN hl hw hwt
    (fun _ hg => List.mem_map_of_mem hg) hfresh hsh
  obtain ⟨fs', h2, h3⟩ := struct_read_mixed P hP hv iOld ⟨kind, _⟩ (proj mask vs) wsO f hO
    (WTFields_proj P.structs mask sdNew.fields vs hl hwt) h1 (Nat.le_trans (Mixed_depth _ wsO wsN hm) hd)
  exact ⟨fs', wsO, h1, h2, fun r => h3 wsN r hm⟩

theorem requiredOk_of_proj (mask : List Bool) (defs : List FieldDef) (seen : List Bool) (hl : mask.length = defs.length)
    (hr : ReqSeen (proj mask defs) (proj mask seen)) (ha : ∀ g ∈ added mask defs, g.req ≠ .required) :
    requiredOk defs seen = true := by
  fun_induction requiredOk defs seen generalizing mask with
  | case2 => rfl
  | case1 f fs b bs ih =>
    obtain _ | ⟨c, m⟩ := mask
    · cases hl
    · refine (requiredOk_cons f fs b bs).mpr ?_
      cases c with
      | true => exact ⟨hr.1, ih m (Nat.succ.inj hl) hr.2 ha⟩
      | false =>
        exact ⟨fun e => absurd e (ha f (List.mem_cons_self ..)),
          ih m (Nat.succ.inj hl) hr fun g hg => ha g (List.mem_cons_of_mem _ hg)⟩

theorem new_reads_old (P : Prog) (hP : SchemaOK P) (hv : P.validateSet = false) (iNew : Nat)
    (sdOld sdNew : StructDef) (mask : List Bool) (us : List GoVal) (wsO : List (Nat × WVal)) (f : Nat)
    (hN : P.structs[iNew]? = some sdNew) (hl : mask.length = sdNew.fields.length)
    (hproj : proj mask sdNew.fields = sdOld.fields)
    (hadd : ∀ g ∈ added mask sdNew.fields, g.req ≠ .required)
    (hwt : WTFields P.structs sdOld.fields us) (hw : toWFields P sdOld.fields us = .ok wsO)
    (hd : depthFields wsO ≤ f) :
    ∃ fs', (∀ r, readTy P.structs (f + 1) (.struct iNew) (encFields wsO ++ 0 :: r) = some (.strct fs', r)) ∧
      toWFields P sdOld.fields (proj mask fs') = .ok wsO ∧ added mask fs' = added mask (initVals sdNew) := by
  obtain ⟨hnd, hdo, hun, _⟩ := hP iNew sdNew hN
  obtain ⟨_, flds⟩ := sdOld
  cases hproj
  obtain ⟨csuf', ssuf', _, _, htw, hrs, ha1, hrun⟩ :=
    loop_rt_sub P (readTy P.structs f) f mask sdNew.fields us wsO hl hw hd
      (rtFields P hP hv us _ f) hwt hdo [] []
      (initVals sdNew) [] (sdNew.fields.map fun _ => false) hnd rfl rfl (initVals_length sdNew) (by simp)
      (Unset_proj mask _ _ hun)
  exact ⟨csuf', fun r => readTy_struct_of_loop _ iNew sdNew f wsO r csuf' ssuf' hN
    (hrun wsO (Mixed.refl _ wsO)) (requiredOk_of_proj mask sdNew.fields ssuf' hl hrs hadd),
    htw, ha1⟩

end Gen.Evolve
