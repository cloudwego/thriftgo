import ThriftVerif.Gen.UnknownLemmas
/-
  Gen/UnknownWriteLemmas: `unknown.write` (model `wr`) and `Fields.Write` replay canonical encodings byte for byte
  (`Replays`). By induction on the fuel; each loop replays a list of which the writer in the loop replays every member.
-/
namespace Gen.Unknown
open Wire Gen

abbrev Replays (d : Bytes → Bytes → WR) (enc : Bytes) : Prop :=
  ∀ r out, d (enc ++ r) out = .ok r (out ++ enc)

theorem wFix_be (n v : Nat) : Replays (wFix n) (be n v) := by
  intro r out
  have hl := be_length n v
  simp [wFix, hl, List.take_left' hl, List.drop_left' hl]

theorem wStr_enc {bs : Bytes} (h : bs.length < maxSize) : Replays wStr (be 4 bs.length ++ bs) := by
  intro r out
  have h1 : ¬ (bs.length ≥ maxSize ∨ bs.length > (be 4 bs.length ++ (bs ++ r)).length) := by
    simp [be_length]
    omega
  have h2 : ¬ bs.length > (bs ++ r).length := by simp
  simp only [wStr, List.append_assoc, readN_be 4 bs.length _ (size_ok h).1, h1, h2, if_false, List.take_left' rfl,
    List.drop_left' rfl]

/-- i8, double, i16, i32, i64. This and `wr_str` are stated for a variable buffer: `rfl` against `be n v ++ r` makes the
unifier evaluate the length of that buffer, which is very slow to check. -/
theorem wr_fix {t n : Nat} (h : (t, n) ∈ [(3, 1), (4, 8), (6, 2), (8, 4), (10, 8)]) (f : Nat) (buf out : Bytes) :
    wr (f + 1) t buf out = wFix n buf out := by
  simp only [List.mem_cons, Prod.mk.injEq, List.not_mem_nil, or_false] at h
  rcases h with ⟨rfl, rfl⟩ | ⟨rfl, rfl⟩ | ⟨rfl, rfl⟩ | ⟨rfl, rfl⟩ | ⟨rfl, rfl⟩ <;> rfl

theorem wr_str (f : Nat) (buf out : Bytes) : wr (f + 1) 11 buf out = wStr buf out := rfl

theorem wr_list {f t et n : Nat} {enc : Bytes} (ht : t = 14 ∨ t = 15) (hn : n < maxSize)
    (h : Replays (wListWith (wr f et) n) enc) : Replays (wr (f + 1) t) ([et] ++ be 4 n ++ enc) := by
  intro r out
  rcases ht with rfl | rfl <;>
    simp only [wr, List.append_assoc, List.cons_append, List.nil_append, readN_be 4 n _ (size_ok hn).1, (size_ok hn).2,
      if_false, Nat.reduceEqDiff, true_or, or_true, if_true, h _ _]

theorem wr_map {f kt vt n : Nat} {enc : Bytes} (hn : n < maxSize)
    (h : Replays (wPairsWith (wr f kt) (wr f vt) n) enc) : Replays (wr (f + 1) 13) ([kt, vt] ++ be 4 n ++ enc) := by
  intro r out
  simp only [wr, List.append_assoc, List.cons_append, List.nil_append, readN_be 4 n _ (size_ok hn).1, (size_ok hn).2,
    if_false, Nat.reduceEqDiff, or_self, if_true, h _ _]

section
variable {d dk dv : Bytes → Bytes → WR}

theorem wListWith_replays : ∀ (xs : List WVal), (∀ x ∈ xs, Replays d (encW x)) →
    Replays (wListWith d xs.length) (encList xs)
  | [], _, r, out => by simp [wListWith, encList]
  | x :: xs, h, r, out => by
    simp only [List.length_cons, wListWith, encList, List.append_assoc, h x List.mem_cons_self _ _]
    simpa using wListWith_replays xs (fun y hy => h y (List.mem_cons_of_mem _ hy)) r (out ++ encW x)

theorem wPairsWith_replays : ∀ (xs : List (WVal × WVal)), (∀ x ∈ xs, Replays dk (encW x.1) ∧ Replays dv (encW x.2)) →
    Replays (wPairsWith dk dv xs.length) (encPairs xs)
  | [], _, r, out => by simp [wPairsWith, encPairs]
  | (k, v) :: xs, h, r, out => by
    obtain ⟨hk, hv⟩ := h (k, v) List.mem_cons_self
    simp only [List.length_cons, wPairsWith, encPairs, List.append_assoc, hk _ _, hv _ _]
    simpa using wPairsWith_replays xs (fun y hy => h y (List.mem_cons_of_mem _ hy)) r (out ++ encW k ++ encW v)

end

theorem wFieldsWith_replays {d : Nat → Bytes → Bytes → WR} : ∀ (fs : List (Nat × WVal)),
    (∀ x ∈ fs, x.1 < 256 ^ 2 ∧ Replays (d x.2.ttype.code) (encW x.2)) →
    ∀ g, fs.length < g → Replays (wFieldsWith d g) (encFields fs ++ [0])
  | [], _, g + 1, _, r, out => by simp [wFieldsWith, encFields]
  | (id, v) :: fs, h, g + 1, hg, r, out => by
    obtain ⟨hid, hv⟩ := h (id, v) List.mem_cons_self
    simp only [encFields, List.append_assoc, List.cons_append, List.nil_append, wFieldsWith, Std.code_ne_zero, if_false,
      readN_be 2 id _ hid, hv _ _]
    simpa using wFieldsWith_replays fs (fun y hy => h y (List.mem_cons_of_mem _ hy)) g (Nat.lt_of_succ_lt_succ hg) r
      (out ++ [v.ttype.code] ++ be 2 id ++ encW v)

theorem writeLoop_replays {fuel : Nat} : ∀ (us : List (Nat × WVal)),
    (∀ x ∈ us, x.1 < 256 ^ 2 ∧ Replays (wr fuel x.2.ttype.code) (encW x.2)) →
    ∀ g out, us.length < g → writeLoop fuel g (encFields us) out = .ok [] (out ++ encFields us)
  | [], _, g + 1, out, _ => by simp [writeLoop, encFields]
  | (id, v) :: us, h, g + 1, out, hg => by
    obtain ⟨hid, hv⟩ := h (id, v) List.mem_cons_self
    simp only [encFields, List.append_assoc, List.cons_append, List.nil_append, writeLoop, Std.code_ne_zero, if_false,
      readN_be 2 id _ hid, hv _ _]
    simpa using writeLoop_replays us (fun y hy => h y (List.mem_cons_of_mem _ hy)) g
      (out ++ [v.ttype.code] ++ be 2 id ++ encW v) (Nat.lt_of_succ_lt_succ hg)

section
variable {f : Nat} (H : ∀ (w : WVal), WF w → w.depth ≤ f → Replays (wr f w.ttype.code) (encW w))
include H

theorem list_replays (et : TType) : ∀ (xs : List WVal), WFList et xs → depthList xs ≤ f →
    ∀ x ∈ xs, Replays (wr f et.code) (encW x)
  | x :: xs, ⟨hx, hwx, hwr⟩, hd, y, hy => by
    obtain ⟨hdx, hdr⟩ := Nat.max_le.mp hd
    rcases List.mem_cons.1 hy with rfl | hy
    · exact hx ▸ H y hwx hdx
    · exact list_replays et xs hwr hdr y hy

theorem pairs_replays (kt vt : TType) : ∀ (xs : List (WVal × WVal)), WFPairs kt vt xs → depthPairs xs ≤ f →
    ∀ x ∈ xs, Replays (wr f kt.code) (encW x.1) ∧ Replays (wr f vt.code) (encW x.2)
  | (k, v) :: xs, ⟨hk, hv, hwk, hwv, hwr⟩, hd, y, hy => by
    obtain ⟨hdkv, hdr⟩ := Nat.max_le.mp hd
    obtain ⟨hdk, hdv⟩ := Nat.max_le.mp hdkv
    rcases List.mem_cons.1 hy with rfl | hy
    · exact ⟨hk ▸ H k hwk hdk, hv ▸ H v hwv hdv⟩
    · exact pairs_replays kt vt xs hwr hdr y hy

theorem fields_replays : ∀ (fs : List (Nat × WVal)), WFFields fs → depthFields fs ≤ f →
    ∀ x ∈ fs, x.1 < 256 ^ 2 ∧ Replays (wr f x.2.ttype.code) (encW x.2)
  | (id, v) :: fs, ⟨hid, hwv, hwr⟩, hd, y, hy => by
    obtain ⟨hdv, hdr⟩ := Nat.max_le.mp hd
    rcases List.mem_cons.1 hy with rfl | hy
    · exact ⟨hid, H v hwv hdv⟩
    · exact fields_replays fs hwr hdr y hy

end

theorem wr_encW : ∀ (f : Nat) (w : WVal), WF w → w.depth ≤ f → Replays (wr f w.ttype.code) (encW w) := by
  intro f
  induction f with
  | zero =>
    intro w _ hd
    have := Std.depth_pos w
    omega
  | succ f ih =>
    intro w hwf hd r out
    cases w with
    | bool b => cases b <;> rfl
    | i8 v | dbl v | i16 v | i32 v | i64 v =>
      simp only [encW, WVal.ttype, TType.code]
      exact (wr_fix (by decide) f _ out).trans (wFix_be _ v r out)
    | bin bs => exact (wr_str f _ out).trans (wStr_enc hwf r out)
    | struct fs =>
      have hg : fs.length < (encW (.struct fs) ++ r).length + 1 := by
        have := encFields_length fs
        simp only [encW, List.length_append]
        omega
      exact wFieldsWith_replays fs (fields_replays ih fs hwf (Nat.le_of_succ_le_succ hd)) _ hg r out
    | map kt vt kvs =>
      exact wr_map hwf.1 (wPairsWith_replays kvs (pairs_replays ih kt vt kvs hwf.2 (Nat.le_of_succ_le_succ hd))) r out
    | set et xs | list et xs =>
      exact wr_list (by simp [WVal.ttype, TType.code]) hwf.1
        (wListWith_replays xs (list_replays ih et xs hwf.2 (Nat.le_of_succ_le_succ hd))) r out

theorem wPairsWith_sub (xs : List (WVal × WVal)) : ∀ (f : Nat) (kt vt : TType), WFPairs kt vt xs → depthPairs xs ≤ f →
    ∀ x ∈ xs, (∀ r out, wr f kt.code (encW x.1 ++ r) out = .ok r (out ++ encW x.1)) ∧
              (∀ r out, wr f vt.code (encW x.2 ++ r) out = .ok r (out ++ encW x.2)) :=
  fun f kt vt => pairs_replays (wr_encW f) kt vt xs

theorem wFieldsWith_sub (fs : List (Nat × WVal)) : ∀ (f : Nat), WFFields fs → depthFields fs ≤ f →
    ∀ x ∈ fs, x.1 < 256 ^ 2 ∧ ∀ r out, wr f x.2.ttype.code (encW x.2 ++ r) out = .ok r (out ++ encW x.2) :=
  fun f => fields_replays (wr_encW f) fs

theorem write_enc (us : List (Nat × WVal)) (hwf : WFFields us) : write (encFields us) = some (encFields us) := by
  have hl := encFields_length us
  have := writeLoop_replays us (wFieldsWith_sub us ((encFields us).length + 1) hwf
    (Nat.le_succ_of_le (Std.depthFields_le us))) ((encFields us).length + 1) [] (by omega)
  simp [write, writeR, this]

end Gen.Unknown
