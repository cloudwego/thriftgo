import ThriftVerif.Gen.DeepEq
/-
  C18 helper lemmas about Gen.DeepEq: the conditions on values and programs (`aligned`, `selfOK`, `noStructKey`) under which the
  generated DeepEqual is structural equality `valEq`, reflexive, without false negatives; the validate_set double loop of Write
  (`dupCheck`) as the test for a pair `i < j` of equal elements; the witness programs of Props/C18.
-/
namespace Gen.DeepEq
open Gen

def isErr {α} : Res α → Bool
  | .err => true
  | _ => false

theorem Res.bind_ok {α β} (a : α) (f : α → Res β) : ((Res.ok a : Res α) >>= f) = f a := rfl

theorem Res.ok_ne_panic {α} (a : α) : (Res.ok a : Res α) ≠ .panic := nofun

theorem andThen_ne_panic {x y : Res Bool} (hx : x ≠ .panic) (hy : y ≠ .panic) :
    (x >>= fun c => if c = true then y else .ok false) ≠ .panic := by
  cases x with
  | ok c => cases c <;> first | exact hy | nofun
  | err => nofun
  | panic => exact absurd rfl hx

theorem andThen_ok {x y : Res Bool} {c d : Bool} (hx : x = .ok c) (hy : y = .ok d) :
    (x >>= fun c => if c = true then y else .ok false) = .ok (c && d) := by
  subst hx hy
  cases c <;> rfl

theorem orElse_ok {x y : Res Bool} {c d : Bool} (hx : x = .ok c) (hy : y = .ok d) :
    (x >>= fun c => if c = true then .ok true else y) = .ok (c || d) := by
  subst hx hy
  cases c <;> rfl

theorem deepEqFields_cons_eq (F : Facts) (P : Prog) (f : FieldDef) (fs : List FieldDef) (a b : GoVal) (as bs : List GoVal) :
    deepEqFields F P (f :: fs) (a :: as) (b :: bs) =
      (fieldEq F P f a b >>= fun c => if c = true then deepEqFields F P fs as bs else .ok false) := rfl

theorem deepEqual_nil_nil (F : Facts) (P : Prog) (ty : Ty) : deepEqual F P ty .nil .nil = .ok true := by
  cases ty <;> simp [deepEqual, isNilV, elemsOf, entriesOf, baseEq, bytesOf, goEq]

/-! ### no panic: the `len` test guards every slice index

Under `deepEqual.mutual_induct` (here and in Gen/DeepEqValEq) the conjuncts stand in the order of the motives (`deepEqual`, Entries,
Elems, Fields) and `case n` counts the branches in another order, which is not that of Gen/DeepEq.lean either: `deepEqual` 1–15
(`.struct` 1–5, `.list` 6–8, `.set` 9–11, `.map` 12–14, the last clause 15), `deepEqElems` 16–18, `deepEqFields` 19–21,
`deepEqEntries` 22–25, each in the order of its text. The side conditions of the last clause (15) say that no earlier clause applies; with
them `simp only [deepEqual, valEq, …, *]` takes every definition with the same `match ty, a` head to its last clause. -/

theorem ne_panic_all (F : Facts) (hF : F.lenTest = true) (P : Prog) :
    (∀ ty a b, deepEqual F P ty a b ≠ .panic) ∧
    (∀ k v kvs src, deepEqEntries F P k v kvs src ≠ .panic) ∧
    (∀ e xs i src, i + xs.length ≤ src.length → deepEqElems F P e xs i src ≠ .panic) ∧
    (∀ defs as bs, deepEqFields F P defs as bs ≠ .panic) := by
  apply deepEqual.mutual_induct F P
  case case8 | case11 =>
    intro b e xs hl ih
    rw [deepEqual, if_neg hl]
    exact ih (by simp [hF] at hl; omega)
  case case17 =>
    intro e i src v r hn h
    simp at h hn
    omega
  case case18 =>
    intro e i src v r s hs ih2 ih1 h
    rw [deepEqElems, hs]
    exact andThen_ne_panic ih2 (ih1 (by simp at h; omega))
  case case20 =>
    intro f fs a as b bs ih2 ih1
    rw [deepEqFields_cons_eq]
    refine andThen_ne_panic ?_ ih1
    unfold fieldEq
    split
    · exact Res.ok_ne_panic _
    · exact ih2
  case case24 | case25 =>
    intros
    simp only [deepEqEntries, *]
    exact andThen_ne_panic ‹_› ‹_›
  all_goals intros
  -- `hF` among the rewrite rules would change the `len` test in the goal and not in the branch condition
  all_goals clear hF
  all_goals simp only [deepEqual, deepEqElems, deepEqEntries, deepEqFields, *, if_true, if_false, ne_eq, reduceCtorEq,
    not_false_eq_true]

theorem deepEqElems_ne_panic (F : Facts) (hF : F.lenTest = true) (P : Prog) (xs : List GoVal) :
    ∀ (e : Ty) (i : Nat) (src : List GoVal), i + xs.length ≤ src.length → deepEqElems F P e xs i src ≠ .panic :=
  fun e => (ne_panic_all F hF P).2.2.1 e xs

theorem deepEqEntries_ne_panic (F : Facts) (hF : F.lenTest = true) (P : Prog) (kvs : List (GoVal × GoVal)) :
    ∀ (k v : Ty) (src : List (GoVal × GoVal)), deepEqEntries F P k v kvs src ≠ .panic :=
  fun k v => (ne_panic_all F hF P).2.1 k v kvs

theorem deepEqFields_ne_panic (F : Facts) (hF : F.lenTest = true) (P : Prog) (as : List GoVal) :
    ∀ (defs : List FieldDef) (bs : List GoVal), deepEqFields F P defs as bs ≠ .panic :=
  fun defs => (ne_panic_all F hF P).2.2.2 defs as

/-! ### the pairs on which DeepEqual is structural equality (`aligned`; in words at `deep_equal_iff_partial`, Props/C18) -/

/-- a value of base type `ty` as Go's type system allows it in a non-pointer slot -/
def baseOK (ty : Ty) (v : GoVal) : Bool :=
  match ty, v with
  | .bool, .bool _ => true
  | .dbl, .dbl _ => true
  | .str, .bytes _ => true
  | .bin, .bytes _ => true
  | .bin, .nil => true
  | .i8, .int _ => true
  | .i16, .int _ => true
  | .i32, .int _ => true
  | .i64, .int _ => true
  | .enum, .int _ => true
  | _, _ => false

mutual
def aligned (P : Prog) (ty : Ty) (a b : GoVal) : Bool :=
  match ty, a with
  | .struct _, .nil => true
  | .struct i, .strct fs =>
      match b with
      | .nil => true
      | .strct gs =>
          match P.struct? i with
          | some sd => alignedFields P sd.fields fs gs
          | none => false
      | _ => false
  | .list _, .nil => true
  | .list e, .list xs => xs.length != (elemsOf b).length || alignedList P e xs (elemsOf b)
  | .set _, .nil => true
  | .set e, .list xs => xs.length != (elemsOf b).length || alignedList P e xs (elemsOf b)
  | .map _ _, .nil => true
  | .map k v, .map kvs =>
      kvs.length != (entriesOf b).length ||
      (if k.isStruct then kvs.isEmpty
       else alignedEntries P k v kvs (entriesOf b) && (entriesOf b).all (fun e' => (index k kvs e'.1).isSome))
  | ty, a => baseOK ty a && baseOK ty b
termination_by structural a
def alignedList (P : Prog) (e : Ty) (xs ys : List GoVal) : Bool :=
  match xs, ys with
  | x :: xs, y :: ys => aligned P e x y && alignedList P e xs ys
  | _, _ => true
termination_by structural xs
def alignedEntries (P : Prog) (k v : Ty) (kvs other : List (GoVal × GoVal)) : Bool :=
  match kvs with
  | [] => true
  | (key, val) :: r =>
      (match index k other key with
       | some w => aligned P v val w
       | none => false) && alignedEntries P k v r other
termination_by structural kvs
def alignedFields (P : Prog) (defs : List FieldDef) (as bs : List GoVal) : Bool :=
  match defs, as, bs with
  | [], [], [] => true
  | f :: fs, a :: as, b :: bs =>
      (if isPtrField f then isNilV a || isNilV b || (baseOK f.ty a && baseOK f.ty b)
       else (if presenceSlot f && f.ty == .bin then isNilV a == isNilV b else true) && aligned P f.ty a b)
      && alignedFields P fs as bs
  | _, _, _ => false
termination_by structural as
end

theorem baseEq_eq_scalarEq {ty : Ty} {a b : GoVal} (h : (baseOK ty a && baseOK ty b) = true) :
    baseEq ty a b = scalarEq ty a b := by
  rw [Bool.and_eq_true] at h
  obtain ⟨ha, hb⟩ := h
  cases ty <;> cases a <;> (try cases ha) <;> cases b <;> (try cases hb) <;> rfl

theorem isPtr_presence (f : FieldDef) (h : isPtrField f = true) : presenceSlot f = true := by
  simp only [isPtrField, Bool.and_eq_true] at h
  simp [presenceSlot, h.1.1.1, h.1.1.2, h.1.2]

theorem isPtr_isBase (f : FieldDef) (h : isPtrField f = true) : f.ty.isBase = true := by
  simp only [isPtrField, Bool.and_eq_true] at h
  exact h.1.2

theorem valEq_base (P : Prog) (ty : Ty) (a b : GoVal) (hb : ty.isBase = true) : valEq P ty a b = scalarEq ty a b := by
  cases ty <;> first | (cases a <;> rfl) | cases hb

theorem eq_nil_of_isNilV {a : GoVal} (h : isNilV a = true) : a = .nil := by
  cases a <;> first | rfl | cases h

theorem valEq_struct_nil (P : Prog) (i : Nat) (a b : GoVal) (h : (isNilV a || isNilV b) = true) :
    valEq P (.struct i) a b = (isNilV a && isNilV b) := by
  cases a with
  | nil => rfl
  | _ => cases eq_nil_of_isNilV (a := b) h; rfl

theorem ptrBaseEq_eq (ty : Ty) (a b : GoVal) :
    ptrBaseEq ty a b = if isNilV a || isNilV b then isNilV a && isNilV b else baseEq ty a b := by
  cases a <;> cases b <;> rfl

/-- what `valEqFields` asks of the field `f` -/
abbrev fieldSpec (P : Prog) (f : FieldDef) (a b : GoVal) : Bool :=
  if presenceSlot f && (isNilV a || isNilV b) then isNilV a && isNilV b else valEq P f.ty a b

theorem fieldSpec_ptr (P : Prog) {f : FieldDef} (a b : GoVal) (hp : isPtrField f = true) :
    fieldSpec P f a b = if isNilV a || isNilV b then isNilV a && isNilV b else scalarEq f.ty a b := by
  rw [fieldSpec, isPtr_presence f hp, Bool.true_and, valEq_base P f.ty a b (isPtr_isBase f hp)]

theorem field_ptr (P : Prog) (f : FieldDef) (a b : GoVal) (hp : isPtrField f = true)
    (h : (isNilV a || isNilV b || (baseOK f.ty a && baseOK f.ty b)) = true) :
    ptrBaseEq f.ty a b = fieldSpec P f a b := by
  rw [ptrBaseEq_eq, fieldSpec_ptr P a b hp]
  cases hn : (isNilV a || isNilV b)
  · rw [hn, Bool.false_or] at h
    rw [baseEq_eq_scalarEq h]
  · rfl

theorem field_nonptr (P : Prog) (f : FieldDef) (a b : GoVal) (hp : ¬ isPtrField f = true)
    (h : (if (presenceSlot f && f.ty == .bin) = true then isNilV a == isNilV b else true) = true) :
    valEq P f.ty a b = fieldSpec P f a b := by
  rw [eq_comm, fieldSpec, ite_eq_right_iff, Bool.and_eq_true]
  intro hq
  have hcase : f.ty = .bin ∨ f.ty.isStruct = true := by
    have h1 := hq.1
    simp only [presenceSlot, Bool.and_eq_true, Bool.or_eq_true] at h1
    simp only [isPtrField, Bool.and_eq_true, not_and, bne_iff_ne, ne_eq, Decidable.not_not] at hp
    exact h1.2.imp (fun hb => hp ⟨h1.1, hb⟩) id
  cases hcase with
  | inl hbin =>
    simp only [hq.1, hbin, beq_self_eq_true, Bool.and_self, if_true, beq_iff_eq] at h
    have hb : isNilV b = true := by simpa [h] using hq.2
    have ha : isNilV a = true := h.trans hb
    rw [hbin]
    cases eq_nil_of_isNilV ha
    cases eq_nil_of_isNilV hb
    rfl
  | inr hst =>
    cases hty : f.ty <;> first | exact (valEq_struct_nil P _ a b hq.2).symm | (rw [hty] at hst; cases hst)

theorem valEqList_length (P : Prog) (e : Ty) : ∀ (xs ys : List GoVal), valEqList P e xs ys = true → xs.length = ys.length := by
  intro xs
  induction xs with
  | nil => intro ys h; cases ys <;> simp_all [valEqList]
  | cons x r ih =>
    intro ys h
    cases ys with
    | nil => simp [valEqList] at h
    | cons y t =>
      simp only [valEqList, Bool.and_eq_true] at h
      simp [ih t h.2]

theorem deepEqElems_cons {F : Facts} {P : Prog} {e : Ty} {v : GoVal} {r : List GoVal} {i : Nat} {src : List GoVal}
    (hi : i < src.length) {c d : Bool} (hv : deepEqual F P e v src[i] = .ok c)
    (hr : deepEqElems F P e r (i + 1) src = .ok d) : deepEqElems F P e (v :: r) i src = .ok (c && d) := by
  simp only [deepEqElems, List.getElem?_eq_getElem hi]
  exact andThen_ok hv hr

theorem deepEqEntries_cons {F : Facts} {P : Prog} {k v : Ty} {key val : GoVal} {r src : List (GoVal × GoVal)} {w : GoVal}
    (hi : index k src key = some w) {c d : Bool} (hv : deepEqual F P v val w = .ok c)
    (hr : deepEqEntries F P k v r src = .ok d) : deepEqEntries F P k v ((key, val) :: r) src = .ok (c && d) := by
  simp only [deepEqEntries, hi]
  exact andThen_ok hv hr

def hasDup (cmp : GoVal → GoVal → Res Bool) : List GoVal → Bool
  | [] => false
  | x :: r => r.any (fun y => cmp x y == .ok true) || hasDup cmp r

theorem dupFrom_eq (cmp : GoVal → GoVal → Res Bool) (x : GoVal) (ys : List GoVal) (h : ∀ y ∈ ys, ∃ c, cmp x y = .ok c) :
    dupFrom cmp x ys = .ok (ys.any (fun y => cmp x y == .ok true)) := by
  induction ys with
  | nil => rfl
  | cons y r ih =>
    obtain ⟨⟨c, hc⟩, hr⟩ := List.forall_mem_cons.mp h
    simp only [dupFrom, List.any_cons, hc]
    rw [orElse_ok rfl (ih hr)]
    cases c <;> rfl

theorem dupCheck_eq (cmp : GoVal → GoVal → Res Bool) (xs : List GoVal) (h : ∀ x ∈ xs, ∀ y ∈ xs, ∃ c, cmp x y = .ok c) :
    dupCheck cmp xs = .ok (hasDup cmp xs) := by
  induction xs with
  | nil => rfl
  | cons x r ih =>
    exact orElse_ok (dupFrom_eq cmp x r fun y hy => h x (by simp) y (by simp [hy]))
      (ih fun a ha b hb => h a (by simp [ha]) b (by simp [hb]))

theorem hasDup_iff (cmp : GoVal → GoVal → Res Bool) (xs : List GoVal) :
    hasDup cmp xs = true ↔ ∃ (i j : Nat) (_ : i < j) (hj : j < xs.length), cmp (xs[i]'(by omega)) xs[j] = .ok true := by
  induction xs with
  | nil => simp [hasDup]
  | cons x r ih =>
    simp only [hasDup, Bool.or_eq_true, List.any_eq_true, beq_iff_eq, ih]
    constructor
    · rintro (⟨y, hy, hc⟩ | ⟨i, j, hij, hj, hc⟩)
      · obtain ⟨n, hn, rfl⟩ := List.getElem_of_mem hy
        exact ⟨0, n + 1, by omega, by simp; omega, by simpa using hc⟩
      · exact ⟨i + 1, j + 1, by omega, by simp; omega, by simpa using hc⟩
    · rintro ⟨_ | i, _ | j, hij, hj, hc⟩
      · omega
      · exact .inl ⟨_, List.getElem_mem _, by simpa using hc⟩
      · omega
      · exact .inr ⟨i, j, by omega, by simpa using hj, by simpa using hc⟩

theorem any_goEq (x : GoVal) (r : List GoVal) :
    (r.any fun y => (Res.ok (goEq x y) : Res Bool) == Res.ok true) = !r.all fun y => !goEq x y := by
  rw [List.not_all_eq_any_not]
  congr
  funext y
  cases goEq x y <;> rfl

theorem hasDup_goEq (xs : List GoVal) : hasDup (fun x y => .ok (goEq x y)) xs = !Std.noDup xs := by
  induction xs with
  | nil => rfl
  | cons x r ih => simp only [hasDup, Std.noDup, ih, Bool.not_and, any_goEq]

theorem dupCheck_goEq (xs : List GoVal) : dupCheck (fun x y => .ok (goEq x y)) xs = .ok (!Std.noDup xs) := by
  rw [dupCheck_eq _ xs (fun x _ y _ => ⟨_, rfl⟩), hasDup_goEq]

theorem toW_eq_std_all (F : Facts) (P : Prog) :
    (∀ ty v, toW F P false ty v = Std.toW P ty v) ∧
    (∀ defs vs, toWFields F P false defs vs = Std.toWFields P defs vs) ∧
    (∀ k v kvs, toWPairs F P false k v kvs = Std.toWPairs P k v kvs) ∧
    (∀ e xs, toWList F P false e xs = Std.toWList P e xs) := by
  have hc (e : Ty) : setCmp F P false e = fun x y => Res.ok (goEq x y) := rfl
  apply Std.toW.mutual_induct P
  -- the two `.set e, .list xs` branches of `Std.toW` (the check refuses, passes): the double loop runs here
  case case4 | case5 =>
    intro e xs h
    intros
    simp only [toW, Std.toW, dupCheck_goEq, *]
    cases hv : P.validateSet <;> cases hn : Std.noDup xs <;> simp_all
  all_goals intros
  all_goals simp only [toW, toWList, toWPairs, toWFields, Std.toW, Std.toWList, Std.toWPairs, Std.toWFields, *, if_true]

theorem toWList_eq_std (F : Facts) (P : Prog) (xs : List GoVal) : ∀ (e : Ty), toWList F P false e xs = Std.toWList P e xs :=
  fun e => (toW_eq_std_all F P).2.2.2 e xs

theorem toWPairs_eq_std (F : Facts) (P : Prog) (kvs : List (GoVal × GoVal)) : ∀ (k v : Ty),
    toWPairs F P false k v kvs = Std.toWPairs P k v kvs :=
  fun k v => (toW_eq_std_all F P).2.2.1 k v kvs

theorem toWFields_eq_std (F : Facts) (P : Prog) (vs : List GoVal) : ∀ (defs : List FieldDef),
    toWFields F P false defs vs = Std.toWFields P defs vs :=
  fun defs => (toW_eq_std_all F P).2.1 defs vs


/-! ### reflexivity on deep copies (`selfOK`; in words at `deep_equal_refl`, Props/C18) -/

def nanFreeBase (ty : Ty) (v : GoVal) : Bool :=
  baseOK ty v && (match v with | .dbl x => !isNaN x | _ => true)

def distinctKeys (k : Ty) : List (GoVal × GoVal) → Bool
  | [] => true
  | (key, _) :: r => Std.keyEq k key key && r.all (fun e => !Std.keyEq k key e.1) && distinctKeys k r

mutual
def selfOK (P : Prog) (ty : Ty) (a : GoVal) : Bool :=
  match ty, a with
  | .struct _, .nil => true
  | .struct i, .strct fs =>
      match P.struct? i with
      | some sd => selfOKFields P sd.fields fs
      | none => false
  | .list _, .nil => true
  | .list e, .list xs => selfOKList P e xs
  | .set _, .nil => true
  | .set e, .list xs => selfOKList P e xs
  | .map _ _, .nil => true
  | .map k v, .map kvs => if k.isStruct then kvs.isEmpty else distinctKeys k kvs && selfOKEntries P v kvs
  | ty, a => nanFreeBase ty a
termination_by structural a
def selfOKList (P : Prog) (e : Ty) (xs : List GoVal) : Bool :=
  match xs with
  | [] => true
  | x :: r => selfOK P e x && selfOKList P e r
termination_by structural xs
def selfOKEntries (P : Prog) (v : Ty) (kvs : List (GoVal × GoVal)) : Bool :=
  match kvs with
  | [] => true
  | (_, val) :: r => selfOK P v val && selfOKEntries P v r
termination_by structural kvs
def selfOKFields (P : Prog) (defs : List FieldDef) (as : List GoVal) : Bool :=
  match defs, as with
  | [], [] => true
  | f :: fs, a :: as =>
      (if isPtrField f then isNilV a || nanFreeBase f.ty a else selfOK P f.ty a) && selfOKFields P fs as
  | _, _ => false
termination_by structural as
end

theorem dblEq_self (x : Nat) : dblEq x x = true ↔ isNaN x = false := by
  simp [dblEq]

theorem baseEq_self {ty : Ty} {a : GoVal} (h : nanFreeBase ty a = true) : baseEq ty a a = true := by
  simp only [nanFreeBase, Bool.and_eq_true] at h
  obtain ⟨hok, hnan⟩ := h
  cases ty <;> cases a <;> (try cases hok) <;> simp_all [baseEq, goEq, bytesOf, dblEq_self]

theorem ptrBaseEq_self (ty : Ty) (a : GoVal) (h : (isNilV a || nanFreeBase ty a) = true) : ptrBaseEq ty a a = true := by
  rw [ptrBaseEq_eq, Bool.or_self, Bool.and_self]
  cases hn : isNilV a
  · rw [hn, Bool.false_or] at h
    exact baseEq_self h
  · rfl

theorem index_self (k : Ty) (m : List (GoVal × GoVal)) (h : distinctKeys k m = true) :
    ∀ e ∈ m, index k m e.1 = some e.2 := by
  induction m with
  | nil => nofun
  | cons x r ih =>
    simp only [distinctKeys, Bool.and_eq_true, List.all_eq_true, Bool.not_eq_true'] at h
    refine List.forall_mem_cons.mpr ⟨?_, fun e he => ?_⟩
    · simp [index, List.find?, h.1.1]
    · have := ih h.2 e he
      simp only [index] at this ⊢
      simp only [List.find?, h.1.2 e he]
      exact this

/-- `case n` is the n-th branch of `selfOK` (1–3 `.struct`, 4–5 `.list`, 6–7 `.set`, 8–10 `.map`, 11 the last clause), `selfOKList`
(12–13), `selfOKFields` (14–16), `selfOKEntries` (17–18).
Whatever the template's two facts are: a value passes the `len` test against itself, and every key is found. -/
theorem refl_all (F : Facts) (P : Prog) :
    (∀ ty a, selfOK P ty a = true → deepEqual F P ty a a = .ok true) ∧
    (∀ v kvs, selfOKEntries P v kvs = true → ∀ k src, (∀ e ∈ kvs, index k src e.1 = some e.2) →
      deepEqEntries F P k v kvs src = .ok true) ∧
    (∀ e xs, selfOKList P e xs = true → ∀ pre : List GoVal, deepEqElems F P e xs pre.length (pre ++ xs) = .ok true) ∧
    (∀ defs as, selfOKFields P defs as = true → deepEqFields F P defs as as = .ok true) := by
  apply selfOK.mutual_induct P
  case case2 =>
    intro i fs sd hs ih h
    simp only [selfOK, hs] at h
    simp only [deepEqual, hs]
    exact ih h
  case case5 | case7 =>
    intro e xs ih h
    simpa [deepEqual, elemsOf] using ih h []
  case case9 =>
    intro k v kvs hk h
    simp only [selfOK, hk, if_true] at h
    have : kvs = [] := by simpa using h
    subst this
    simp [deepEqual, entriesOf, deepEqEntries]
  case case10 =>
    intro k v kvs hk ih h
    simp only [selfOK, hk, Bool.false_eq_true, if_false, Bool.and_eq_true] at h
    simp only [deepEqual, entriesOf, bne_self_eq_false, Bool.and_false, Bool.false_eq_true, if_false]
    exact ih h.2 k kvs (index_self k kvs h.1)
  case case11 =>
    intro ty a _ _ _ _ _ _ _ _ h
    simp only [selfOK, deepEqual, *] at h ⊢
    exact congrArg Res.ok (baseEq_self h)
  case case13 =>
    intro e v r ih1 ih2 h pre
    simp only [selfOKList, Bool.and_eq_true] at h
    have ih := ih2 h.2 (pre ++ [v])
    simp only [List.length_append, List.length_cons, List.length_nil, List.append_assoc, List.cons_append,
      List.nil_append] at ih
    exact deepEqElems_cons (by simp) (by simpa using ih1 h.1) ih
  case case15 =>
    intro f fs a as ih1 ih2 h
    rw [selfOKFields, Bool.and_eq_true] at h
    have hfield : fieldEq F P f a a = .ok true := by
      unfold fieldEq
      by_cases hp : isPtrField f = true
      · rw [if_pos hp, ptrBaseEq_self f.ty a (by simpa [hp] using h.1)]
      · rw [if_neg hp]
        exact ih1 (by simpa [hp] using h.1)
    rw [deepEqFields_cons_eq]
    exact andThen_ok hfield (ih2 h.2)
  case case18 =>
    intro v key val r ih1 ih2 h k src hidx
    simp only [selfOKEntries, Bool.and_eq_true] at h
    obtain ⟨hkey, hrest⟩ := List.forall_mem_cons.mp hidx
    exact deepEqEntries_cons hkey (ih1 h.1) (ih2 h.2 k src hrest)
  case case4 | case6 | case8 =>
    intros
    exact deepEqual_nil_nil F P _
  case case3 | case16 =>
    intros
    rename_i h
    simp only [selfOK, selfOKFields, *] at h
    cases h
  all_goals intros
  all_goals rfl

-- the loop statements here and after `complete_all` carry a hypothesis `hF : F.lenTest = true` that the `_all` theorems do without

theorem deepEqElems_refl (F : Facts) (hF : F.lenTest = true) (P : Prog) (xs : List GoVal) :
    ∀ (e : Ty) (pre : List GoVal), selfOKList P e xs = true →
      deepEqElems F P e xs pre.length (pre ++ xs) = .ok true :=
  fun e pre h => (refl_all F P).2.2.1 e xs h pre

theorem deepEqEntries_refl (F : Facts) (hF : F.lenTest = true) (P : Prog) (kvs : List (GoVal × GoVal)) :
    ∀ (k v : Ty) (src : List (GoVal × GoVal)), (∀ e ∈ kvs, index k src e.1 = some e.2) → selfOKEntries P v kvs = true →
      deepEqEntries F P k v kvs src = .ok true :=
  fun k v src hidx h => (refl_all F P).2.1 v kvs h k src hidx

theorem deepEqFields_refl (F : Facts) (hF : F.lenTest = true) (P : Prog) (as : List GoVal) :
    ∀ (defs : List FieldDef), selfOKFields P defs as = true → deepEqFields F P defs as as = .ok true :=
  fun defs h => (refl_all F P).2.2.2 defs as h


def _root_.Gen.Ty.noStructKey : Ty → Bool
  | .list e => e.noStructKey
  | .set e => e.noStructKey
  | .map k v => !k.isStruct && k.noStructKey && v.noStructKey
  | _ => true

def _root_.Gen.Prog.noStructKey (P : Prog) : Bool :=
  P.structs.all fun sd => sd.fields.all fun f => f.ty.noStructKey

theorem scalarEq_baseEq {ty : Ty} {a b : GoVal} (h : scalarEq ty a b = true) : baseEq ty a b = true := by
  -- `h_8` is the clause `_, .int x, .int y` of `scalarEq`: `baseEq` compares the integers, or at `str`, `bin` their `bytesOf`, twice `[]`
  unfold scalarEq at h
  split at h
  case h_8 => cases ty <;> first | exact h | rfl
  all_goals first | exact h | cases h

theorem ptrBaseEq_of_spec (P : Prog) (f : FieldDef) (a b : GoVal) (hp : isPtrField f = true)
    (h : fieldSpec P f a b = true) : ptrBaseEq f.ty a b = true := by
  rw [fieldSpec_ptr P a b hp] at h
  rw [ptrBaseEq_eq]
  cases hn : (isNilV a || isNilV b)
  · rw [hn] at h
    exact scalarEq_baseEq h
  · rw [hn] at h
    exact h

theorem complete_all (F : Facts) (P : Prog) (hP : P.noStructKey = true) :
    (∀ ty a b, ty.noStructKey = true → valEq P ty a b = true → deepEqual F P ty a b = .ok true) ∧
    (∀ k v kvs src, v.noStructKey = true → valEqEntries P k v kvs src = true → deepEqEntries F P k v kvs src = .ok true) ∧
    (∀ e xs i src, e.noStructKey = true → valEqList P e xs (src.drop i) = true → deepEqElems F P e xs i src = .ok true) ∧
    (∀ defs as bs, (∀ f ∈ defs, f.ty.noStructKey = true) → valEqFields P defs as bs = true →
      deepEqFields F P defs as bs = .ok true) := by
  apply deepEqual.mutual_induct F P
  case case1 =>
    intro b i _ h
    exact congrArg Res.ok h
  case case3 =>
    intro i fs gs sd hs ih _ h
    simp only [valEq, hs] at h
    simp only [deepEqual, hs]
    exact ih (List.all_eq_true.mp (List.all_eq_true.mp hP sd (List.mem_of_getElem? hs))) h
  case case7 | case10 =>
    intro b e xs hl _ h
    simp [valEqList_length P e xs _ h] at hl
  case case8 | case11 =>
    intro b e xs hl ih hty h
    rw [deepEqual, if_neg hl]
    exact ih hty h
  case case13 =>
    intro b k v kvs hl _ h
    simp only [valEq, Bool.and_eq_true, beq_iff_eq] at h
    simp [h.1] at hl
  case case14 =>
    intro b k v kvs hl ih hty h
    simp only [Ty.noStructKey, Bool.and_eq_true, Bool.not_eq_true'] at hty
    simp only [valEq, hty.1.1, Bool.false_eq_true, if_false, Bool.and_eq_true] at h
    rw [deepEqual, if_neg hl]
    exact ih hty.2 h.2.1
  case case15 =>
    intro b ty a _ _ _ _ _ _ _ _ _ h
    simp only [deepEqual, valEq, *] at h ⊢
    exact congrArg Res.ok (scalarEq_baseEq h)
  case case17 =>
    intro e i src v r hn _ h
    rw [List.drop_eq_nil_of_le (by simpa using hn)] at h
    cases h
  case case18 =>
    intro e i src v r s hs ih2 ih1 he h
    obtain ⟨hi, rfl⟩ := List.getElem?_eq_some_iff.mp hs
    rw [List.drop_eq_getElem_cons hi, valEqList, Bool.and_eq_true] at h
    exact deepEqElems_cons hi (ih2 he h.1) (ih1 he h.2)
  case case20 =>
    intro f fs a as b bs ih2 ih1 hdefs h
    obtain ⟨hf, hfs⟩ := List.forall_mem_cons.mp hdefs
    rw [valEqFields, Bool.and_eq_true] at h
    have h1 : fieldSpec P f a b = true := h.1
    have hfield : fieldEq F P f a b = .ok true := by
      unfold fieldEq
      by_cases hp : isPtrField f = true
      · rw [if_pos hp, ptrBaseEq_of_spec P f a b hp h1]
      · rw [if_neg hp]
        by_cases hq : (presenceSlot f && (isNilV a || isNilV b)) = true
        · -- both slots are nil
          rw [fieldSpec, if_pos hq, Bool.and_eq_true] at h1
          cases eq_nil_of_isNilV h1.1
          cases eq_nil_of_isNilV h1.2
          exact deepEqual_nil_nil F P f.ty
        · rw [fieldSpec, if_neg hq] at h1
          exact ih2 hf h1
    rw [deepEqFields_cons_eq]
    exact andThen_ok hfield (ih1 hfs h.2)
  case case25 =>
    intro k v src key val r s hi ih2 ih1 hv h
    simp only [valEqEntries, hi, Bool.and_eq_true] at h
    exact deepEqEntries_cons hi (ih2 hv h.1) (ih1 hv h.2)
  case case6 | case9 | case12 =>
    intros
    rename_i h
    simp only [valEq] at h
    simp [deepEqual, h]
  case case2 | case4 | case5 | case21 | case23 | case24 =>
    intros
    rename_i h
    simp only [valEq, valEqFields, valEqEntries, *] at h
    cases h
  all_goals intros
  all_goals rfl

theorem deepEqElems_complete (F : Facts) (hF : F.lenTest = true) (P : Prog) (hP : P.noStructKey = true) (xs : List GoVal) :
    ∀ (e : Ty) (i : Nat) (src : List GoVal), e.noStructKey = true → valEqList P e xs (src.drop i) = true →
      deepEqElems F P e xs i src = .ok true :=
  fun e => (complete_all F P hP).2.2.1 e xs

theorem deepEqEntries_complete (F : Facts) (hF : F.lenTest = true) (P : Prog) (hP : P.noStructKey = true)
    (kvs : List (GoVal × GoVal)) :
    ∀ (k v : Ty) (src : List (GoVal × GoVal)), v.noStructKey = true → valEqEntries P k v kvs src = true →
      deepEqEntries F P k v kvs src = .ok true :=
  fun k v => (complete_all F P hP).2.1 k v kvs

theorem deepEqFields_complete (F : Facts) (hF : F.lenTest = true) (P : Prog) (hP : P.noStructKey = true) (as : List GoVal) :
    ∀ (defs : List FieldDef) (bs : List GoVal), (∀ f ∈ defs, f.ty.noStructKey = true) → valEqFields P defs as bs = true →
      deepEqFields F P defs as bs = .ok true :=
  fun defs => (complete_all F P hP).2.2.2 defs as

/-! ### witnesses (the directed program of harness/cmd/c18/directed.go, reduced to the structs used) -/
namespace Witness

def fd (id : Int) (req : Req) (ty : Ty) : FieldDef := { id := id, req := req, ty := ty, dflt := none }

/-- `struct K {1: i32 x}` (0)  `struct D0 {1: map<i32,i32> m}` (1)  `struct D1 {1: map<K,i32> m}` (2)
    `struct D2 {1: optional binary b}` (3)  `struct D3 {1: set<map<i32,i32>> s}` (4) -/
def P : Prog := { structs := [
  { kind := 0, fields := [fd 1 .default .i32] },
  { kind := 0, fields := [fd 1 .default (.map .i32 .i32)] },
  { kind := 0, fields := [fd 1 .default (.map (.struct 0) .i32)] },
  { kind := 0, fields := [fd 1 .optional .bin] },
  { kind := 0, fields := [fd 1 .default (.set (.map .i32 .i32))] }] }

def P1 : Prog := { structs := [
  { kind := 0, fields := [fd 1 .default .i32] },
  { kind := 0, fields := [fd 1 .default (.map .i32 .i32)] }] }

def PD : Prog := { structs := [{ kind := 0, fields := [fd 1 .default .dbl] }] }

def m10 : GoVal := .strct [.map [(.int 1, .int 0)]]
def m20 : GoVal := .strct [.map [(.int 2, .int 0)]]
def m25 : GoVal := .strct [.map [(.int 2, .int 5)]]
def m13 : GoVal := .strct [.map [(.int 1, .int 3)]]
def k17 : GoVal := .strct [.map [(.strct [.int 1], .int 7)]]
def unsetBin : GoVal := .strct [.nil]
def emptyBin : GoVal := .strct [.bytes []]
def setOfMaps : GoVal := .strct [.list [.map [(.int 1, .int 0)], .map [(.int 2, .int 0)]]]

end Witness

end Gen.DeepEq
