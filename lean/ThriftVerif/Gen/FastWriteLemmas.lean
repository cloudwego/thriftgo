import ThriftVerif.Gen.FastLemmas
import ThriftVerif.Core.InsSort
/- helper lemmas about Gen.Fast for Props/C10: what FastAppend emits is the encoding of the standard wire value
   (`Gen.Std.toW`) with the fields of every struct sorted by field id (`normW`), and `normW` is the identity when the schema
   declares its fields in id order: one induction over the depth of the wire value (`fastAny_is_std`). -/
namespace Gen.Fast
open Wire Gen Gen.Std

/-- a wire field id is the 16-bit pattern of the signed `ID` that getSortedFields compares -/
def insertW (x : Nat × WVal) : List (Nat × WVal) → List (Nat × WVal)
  | [] => [x]
  | y :: r => if unpat 16 x.1 ≤ unpat 16 y.1 then x :: y :: r else y :: insertW x r

def sortW : List (Nat × WVal) → List (Nat × WVal)
  | [] => []
  | x :: r => insertW x (sortW r)

mutual
def normW : WVal → WVal
  | .struct fs => .struct (sortW (normFields fs))
  | .map kt vt kvs => .map kt vt (normPairs kvs)
  | .set et xs => .set et (normList xs)
  | .list et xs => .list et (normList xs)
  | .bool b => .bool b
  | .i8 v => .i8 v
  | .dbl v => .dbl v
  | .i16 v => .i16 v
  | .i32 v => .i32 v
  | .i64 v => .i64 v
  | .bin bs => .bin bs
def normFields : List (Nat × WVal) → List (Nat × WVal)
  | [] => []
  | (id, v) :: r => (id, normW v) :: normFields r
def normPairs : List (WVal × WVal) → List (WVal × WVal)
  | [] => []
  | (k, v) :: r => (normW k, normW v) :: normPairs r
def normList : List WVal → List WVal
  | [] => []
  | x :: r => normW x :: normList r
end

theorem insSort_pairs : InsSort (fun a b : FieldDef × GoVal => a.1.id ≤ b.1.id) insertField sortPairs :=
  ⟨fun _ => rfl, fun _ _ _ => rfl, rfl, fun _ _ => rfl⟩

theorem insSort_W : InsSort (fun a b : Nat × WVal => unpat 16 a.1 ≤ unpat 16 b.1) insertW sortW :=
  ⟨fun _ => rfl, fun _ _ _ => rfl, rfl, fun _ _ => rfl⟩

theorem depthFields_perm {l₁ l₂ : List (Nat × WVal)} (h : l₁.Perm l₂) : depthFields l₁ = depthFields l₂ := by
  induction h with
  | nil => rfl
  | cons x _ ih => simp only [depthFields, ih]
  | swap x y l => simp only [depthFields]; exact Nat.max_left_comm ..
  | trans _ _ ih1 ih2 => exact ih1.trans ih2

theorem WFFields_perm {l₁ l₂ : List (Nat × WVal)} (h : l₁.Perm l₂) : WFFields l₁ → WFFields l₂ := by
  induction h with
  | nil => exact id
  | cons x _ ih => simp only [WFFields]; exact fun h => ⟨h.1, h.2.1, ih h.2.2⟩
  | swap x y l => simp only [WFFields]; exact fun h => ⟨h.2.2.1, h.2.2.2.1, h.1, h.2.1, h.2.2.2.2⟩
  | trans _ _ ih1 ih2 => exact ih2 ∘ ih1

theorem normW_ttype (w : WVal) : (normW w).ttype = w.ttype := by
  cases w <;> simp [normW, WVal.ttype]

theorem normList_length (xs : List WVal) : (normList xs).length = xs.length := by
  induction xs with
  | nil => rfl
  | cons x r ih => simp [normList, ih]

theorem normPairs_length (xs : List (WVal × WVal)) : (normPairs xs).length = xs.length := by
  induction xs with
  | nil => rfl
  | cons x r ih => obtain ⟨a, b⟩ := x; simp [normPairs, ih]

/-- the optional-skip rule of fastgo is the `IsSet<F>` of the standard code, except for an optional binary
field that has a default -/
def NoOptBinDflt (f : FieldDef) : Prop := ¬ (f.req = .optional ∧ f.ty = .bin ∧ f.dflt.isSome = true)

theorem catOf_bin (P : Prog) (ty : Ty) :
    decide (catOf P ty = Generated.C10.catBinary) = (match ty with | .bin => true | _ => false) := by
  fun_cases catOf P ty <;> rfl

theorem optWritten_eq_isSet (c : Bool) (P : Prog) (f : FieldDef) (v : GoVal) (ho : f.req = .optional)
    (hn : c = true ∨ NoOptBinDflt f) : optWritten c P f v = isSet f v := by
  unfold optWritten isSet
  rw [isContainerType_eq, catOf_bin]
  cases hd : f.dflt with
  | none =>
    cases hty : f.ty <;> simp [isPointerField, hty, ho, hd]
  | some d =>
    cases hty : f.ty <;> simp [isPointerField, hty, ho, hd, Ty.isBase]
    cases c with
    | true => simp
    | false =>
      rcases hn with h | h
      · cases h
      · exact absurd ⟨ho, hty, by simp [hd]⟩ h

theorem written_eq (c : Bool) (P : Prog) (f : FieldDef) (v : GoVal) (hn : c = true ∨ NoOptBinDflt f) :
    written c P f v = !(f.req = .optional && !isSet f v) := by
  unfold written
  by_cases ho : f.req = .optional
  · rw [optWritten_eq_isSet c P f v ho hn]; simp [ho]
  · simp [ho]

/-- `WL` is the field list `fastFields` emits for the pair list `L`, in that order -/
inductive Corr (c : Bool) (P : Prog) (g : Ty → GoVal → FRes Bytes) : List (FieldDef × GoVal) → List (Nat × WVal) → Prop
  | nil : Corr c P g [] []
  | skip {L WL f v} : written c P f v = false → Corr c P g L WL → Corr c P g ((f, v) :: L) WL
  | emit {L WL f v w} : written c P f v = true → g f.ty v = .ok (encW w) → w.ttype.code = wireTypeOf P f.ty →
      Corr c P g L WL → Corr c P g ((f, v) :: L) ((pat 16 f.id, w) :: WL)

theorem Corr.fastFields {c : Bool} {P : Prog} {g : Ty → GoVal → FRes Bytes} {L : List (FieldDef × GoVal)} {WL : List (Nat × WVal)}
    (h : Corr c P g L WL) : fastFields c P g L = .ok (encFields WL) := by
  induction h with
  | nil => rfl
  | skip hw _ ih => simp only [Gen.Fast.fastFields, hw, Bool.false_eq_true, if_false]; exact ih
  | emit hw hg ht _ ih =>
    simp only [Gen.Fast.fastFields, hw, if_true, hg, ih, bind, encFields, ht]

theorem Corr.sublist {c : Bool} {P : Prog} {g : Ty → GoVal → FRes Bytes} {L : List (FieldDef × GoVal)} {WL : List (Nat × WVal)}
    (h : Corr c P g L WL) : (WL.map (·.1)).Sublist (L.map fun p => pat 16 p.1.id) := by
  induction h with
  | nil => exact .slnil
  | skip _ _ ih => exact ih.cons _
  | emit _ _ _ _ ih => exact ih.cons_cons _

theorem Corr.insert_skip {c : Bool} {P : Prog} {g : Ty → GoVal → FRes Bytes} (x : FieldDef × GoVal) (hx : written c P x.1 x.2 = false)
    {L : List (FieldDef × GoVal)} {WL : List (Nat × WVal)} (h : Corr c P g L WL) : Corr c P g (insertField x L) WL := by
  fun_induction insertField x L generalizing WL with
  | case1 | case2 => exact .skip hx h
  | case3 y r hle ih =>
    cases h with
    | skip hw hc => exact .skip hw (ih hc)
    | emit hw hg ht hc => exact .emit hw hg ht (ih hc)

theorem Corr.insert_emit {c : Bool} {P : Prog} {g : Ty → GoVal → FRes Bytes} (x : FieldDef × GoVal) (w : WVal)
    (hx : written c P x.1 x.2 = true) (hg : g x.1.ty x.2 = .ok (encW w)) (ht : w.ttype.code = wireTypeOf P x.1.ty)
    (hxr : -32768 ≤ x.1.id ∧ x.1.id < 32768) {L : List (FieldDef × GoVal)} {WL : List (Nat × WVal)} (h : Corr c P g L WL)
    (hs : L.Pairwise (fun a b => a.1.id ≤ b.1.id)) (hr : ∀ p ∈ L, -32768 ≤ p.1.id ∧ p.1.id < 32768) :
    Corr c P g (insertField x L) (insertW (pat 16 x.1.id, w) WL) := by
  have hux : unpat 16 (pat 16 x.1.id) = x.1.id := unpat_pat16 x.1.id hxr
  fun_induction insertField x L generalizing WL with
  | case1 => cases h; exact .emit hx hg ht .nil
  | case2 y r hle =>
    -- `x` goes in front of all the fields, so in front of all that is written of them
    rw [insSort_W.ins_head fun z hz => ?_]
    · exact .emit hx hg ht h
    · obtain ⟨p, hp, e⟩ := List.mem_map.mp (h.sublist.subset (List.mem_map_of_mem hz))
      rw [hux, ← e, unpat_pat16 p.1.id (hr p hp)]
      rcases List.mem_cons.mp hp with rfl | hp
      · exact hle
      · exact Int.le_trans hle ((List.pairwise_cons.mp hs).1 p hp)
  | case3 y r hle ih =>
    have ih := fun {WL} h => ih (WL := WL) h (List.pairwise_cons.mp hs).2 fun p hp => hr p (List.mem_cons_of_mem _ hp)
    have huy := unpat_pat16 y.1.id (hr y List.mem_cons_self)
    cases h with
    | skip hw hc => exact .skip hw (ih hc)
    | emit hw hg' ht' hc =>
      rw [insertW, if_neg (by rwa [hux, huy])]
      exact .emit hw hg' ht' (ih hc)

theorem fastAny_scalar (c : Bool) (P : Prog) (fuel : Nat) (ty : Ty) (v : GoVal) (w : WVal) (h : scalarW ty v = some w) :
    fastAny c P (fuel + 1) ty v = .ok (encW (normW w)) ∧ normW w = w := by
  unfold scalarW at h
  split at h <;> cases h <;> exact ⟨rfl, rfl⟩

theorem WTFields_ids (S : List StructDef) (defs : List FieldDef) : ∀ (vs : List GoVal), WTFields S defs vs →
    defs.length = vs.length ∧ ∀ f ∈ defs, -32768 ≤ f.id ∧ f.id < 32768 := by
  induction defs with
  | nil => intro vs h; cases vs with
    | nil => exact ⟨rfl, fun _ hf => nomatch hf⟩
    | cons => exact h.elim
  | cons g fs ih => intro vs h; cases vs with
    | nil => exact h.elim
    | cons v r =>
      have ⟨hl, hr⟩ := ih r h.2.2.2
      exact ⟨congrArg Nat.succ hl, List.forall_mem_cons.mpr ⟨h.2.2.1, hr⟩⟩

def NoOptBin (P : Prog) : Prop := ∀ (i : Nat) (sd : StructDef), P.structs[i]? = some sd → ∀ f ∈ sd.fields, NoOptBinDflt f

def WriteOK (c : Bool) (P : Prog) : Prop := c = true ∨ NoOptBin P

theorem WriteOK.field {c : Bool} {P : Prog} (h : WriteOK c P) (i : Nat) (sd : StructDef) (hsd : P.structs[i]? = some sd) :
    ∀ f ∈ sd.fields, c = true ∨ NoOptBinDflt f :=
  fun f hf => h.imp_right fun h => h i sd hsd f hf

def SortedSchema (P : Prog) : Prop :=
  ∀ (i : Nat) (sd : StructDef), P.structs[i]? = some sd → sd.fields.Pairwise (fun a b => a.id ≤ b.id)

theorem toWFields_sorted (P : Prog) (defs : List FieldDef) (vs : List GoVal) (ws : List (Nat × WVal))
    (h : toWFields P defs vs = .ok ws) (hs : defs.Pairwise (fun a b => a.id ≤ b.id))
    (hr : ∀ f ∈ defs, -32768 ≤ f.id ∧ f.id < 32768) : ws.Pairwise (fun a b => unpat 16 a.1 ≤ unpat 16 b.1) := by
  have hd : (defs.map fun f => pat 16 f.id).Pairwise (fun a b => unpat 16 a ≤ unpat 16 b) := by
    rw [List.pairwise_map]
    exact hs.imp_of_mem fun ha hb hab => by rw [unpat_pat16 _ (hr _ ha), unpat_pat16 _ (hr _ hb)]; exact hab
  have := hd.sublist (toWFields_sublist P defs vs ws h)
  rw [List.pairwise_map] at this
  exact this

/-- the write theorem for the values of nesting depth ≤ `fuel`, said of an arbitrary writer `g`: `g` writes the standard wire value with
the fields of every struct sorted, and sorting changes nothing when the schema is in id order -/
def StdAt (P : Prog) (fuel : Nat) (g : Ty → GoVal → FRes Bytes) : Prop :=
  ∀ (v : GoVal) (ty : Ty) (w : WVal), WT P.structs ty v → toW P ty v = .ok w → w.depth ≤ fuel →
    g ty v = .ok (encW (normW w)) ∧ (SortedSchema P → normW w = w)

theorem concatWith_is_std {P : Prog} {fuel : Nat} {g : Ty → GoVal → FRes Bytes} (hg : StdAt P fuel g) (e : Ty) :
    ∀ (xs : List GoVal) (ws : List WVal), WTList P.structs e xs → toWList P e xs = .ok ws → depthList ws ≤ fuel →
      concatWith (g e) xs = .ok (encList (normList ws)) ∧ (SortedSchema P → normList ws = ws) := by
  intro xs
  induction xs with
  | nil => intro ws _ h _; simp only [toWList] at h; cases h; exact ⟨rfl, fun _ => rfl⟩
  | cons x r ih =>
    intro ws hwt h hd
    obtain ⟨w, h1, ws', h2, rfl⟩ := toWList_cons_ok.mp h
    simp only [WTList] at hwt
    simp only [depthList] at hd
    obtain ⟨a1, a2⟩ := hg x e w hwt.1 h1 (by omega)
    obtain ⟨b1, b2⟩ := ih ws' hwt.2 h2 (by omega)
    exact ⟨by simp only [concatWith, a1, b1, bind, normList, encList], fun hS => by simp only [normList, a2 hS, b2 hS]⟩

theorem concatPairsWith_is_std {P : Prog} {fuel : Nat} {g : Ty → GoVal → FRes Bytes} (hg : StdAt P fuel g) (k v : Ty) :
    ∀ (kvs : List (GoVal × GoVal)) (ws : List (WVal × WVal)), WTPairs P.structs k v kvs → toWPairs P k v kvs = .ok ws →
      depthPairs ws ≤ fuel →
      concatPairsWith (g k) (g v) kvs = .ok (encPairs (normPairs ws)) ∧ (SortedSchema P → normPairs ws = ws) := by
  intro kvs
  induction kvs with
  | nil => intro ws _ h _; simp only [toWPairs] at h; cases h; exact ⟨rfl, fun _ => rfl⟩
  | cons x r ih =>
    obtain ⟨a, b⟩ := x
    intro ws hwt h hd
    obtain ⟨wa, h1, wb, h2, ws', h3, rfl⟩ := toWPairs_cons_ok.mp h
    simp only [WTPairs] at hwt
    simp only [depthPairs] at hd
    obtain ⟨a1, a2⟩ := hg a k wa hwt.1 h1 (by omega)
    obtain ⟨b1, b2⟩ := hg b v wb hwt.2.1 h2 (by omega)
    obtain ⟨c1, c2⟩ := ih ws' hwt.2.2 h3 (by omega)
    exact ⟨by simp only [concatPairsWith, a1, b1, c1, bind, normPairs, encPairs, List.append_assoc],
      fun hS => by simp only [normPairs, a2 hS, b2 hS, c2 hS]⟩

theorem fields_corr {c : Bool} {P : Prog} {fuel : Nat} {g : Ty → GoVal → FRes Bytes} (hg : StdAt P fuel g) :
    ∀ (defs : List FieldDef) (vs : List GoVal) (ws : List (Nat × WVal)), WTFields P.structs defs vs →
      toWFields P defs vs = .ok ws → depthFields ws ≤ fuel → (∀ f ∈ defs, c = true ∨ NoOptBinDflt f) →
      Corr c P g (sortPairs (defs.zip vs)) (sortW (normFields ws)) ∧ (SortedSchema P → normFields ws = ws) := by
  intro defs
  induction defs with
  | nil =>
    intro vs ws hwt h _ _
    cases vs with
    | nil => cases h; exact ⟨.nil, fun _ => rfl⟩
    | cons => exact hwt.elim
  | cons f fs ih =>
    intro vs ws hwt h hd hn
    cases vs with
    | nil => exact hwt.elim
    | cons v vs =>
      have hw := written_eq c P f v (hn f List.mem_cons_self)
      have ih := fun ws h hd => ih vs ws hwt.2.2.2 h hd fun g hg => hn g (List.mem_cons_of_mem _ hg)
      by_cases hc : (decide (f.req = .optional) && !isSet f v) = true
      · rw [toWFields_skipped hc] at h
        obtain ⟨b1, b2⟩ := ih ws h hd
        exact ⟨Corr.insert_skip (f, v) (by rw [hw, hc]; rfl) b1, b2⟩
      · obtain ⟨w, h1, ws', h2, rfl⟩ := (toWFields_written_ok hc).mp h
        simp only [depthFields] at hd
        have hwtv := WT_of_written hwt hc
        obtain ⟨a1, a2⟩ := hg v f.ty w hwtv h1 (by omega)
        obtain ⟨b1, b2⟩ := ih ws' h2 (by omega)
        refine ⟨Corr.insert_emit (f, v) (normW w) (by rw [hw, (Bool.not_eq_true _).mp hc]; rfl) a1
          (by rw [normW_ttype, (toW_WF P v f.ty w hwtv h1).2, wireTypeOf_eq]) hwt.2.2.1 b1
          (insSort_pairs.srt_sorted (fun _ _ h => by omega) (fun _ _ _ => Int.le_trans) _) fun p hp => ?_,
          fun hS => by rw [normFields, a2 hS, b2 hS]⟩
        exact (WTFields_ids _ fs vs hwt.2.2.2).2 p.1 (List.of_mem_zip ((insSort_pairs.srt_perm _).mem_iff.mp hp)).1

theorem fastAny_is_std (c : Bool) (P : Prog) (hP : WriteOK c P) : ∀ (fuel : Nat), StdAt P fuel (fastAny c P fuel) := by
  intro fuel
  induction fuel with
  | zero => intro v ty w _ _ hd; have := depth_pos w; omega
  | succ fuel ih =>
  intro v ty w
  -- the branches of `toW` in the order of its text: 1–2 list (nil, slice), 3–5 set (nil, duplicates, slice), 6–7 map (nil, map),
  -- 8–10 nil struct pointer (union, other, unknown index), 11–13 struct (union check fails, written, unknown index), 14 base types;
  -- in 4, 8, 10, 11, 13 the standard Write fails, and a nil pointer (9) is not `WT`
  fun_cases toW P ty v <;> intro hwt h hd
  case case4 | case8 | case10 | case11 | case13 => cases h
  case case9 => exact hwt.elim
  case case1 | case3 | case6 =>
    cases h
    exact ⟨by simp only [fastAny, gopkgTypeOf_eq]; rfl, fun _ => rfl⟩
  case case2 e xs | case5 e xs _ =>
    obtain ⟨ws, h1, h2⟩ := (Res.bind_eq_ok ..).mp h
    cases h2
    simp only [WVal.depth] at hd
    obtain ⟨_, hlen⟩ := toWList_WF P xs e ws hwt.2 h1
    obtain ⟨this, hid⟩ := concatWith_is_std ih e xs ws hwt.2 h1 (by omega)
    exact ⟨by simp only [fastAny, this, bind, normW, encW, gopkgTypeOf_eq, normList_length, hlen], fun hS => by simp only [normW, hid hS]⟩
  case case7 k vt kvs =>
    obtain ⟨ws, h1, h2⟩ := (Res.bind_eq_ok ..).mp h
    cases h2
    simp only [WVal.depth] at hd
    obtain ⟨_, hlen⟩ := toWPairs_WF P kvs k vt ws hwt.2.1 h1
    obtain ⟨this, hid⟩ := concatPairsWith_is_std ih k vt kvs ws hwt.2.1 h1 (by omega)
    exact ⟨by simp only [fastAny, this, bind, normW, encW, gopkgTypeOf_eq, normPairs_length, hlen], fun hS => by simp only [normW, hid hS]⟩
  case case12 i fs sd hsd _ =>
    obtain ⟨ws, h1, h2⟩ := (Res.bind_eq_ok ..).mp h
    cases h2
    obtain ⟨sd', hsd', hf⟩ := hwt
    cases hsd.symm.trans hsd'
    simp only [WVal.depth] at hd
    obtain ⟨hc, hid⟩ := fields_corr (c := c) ih sd.fields fs ws hf h1 (by omega) (hP.field i sd hsd)
    obtain ⟨hlen, hids⟩ := WTFields_ids P.structs sd.fields fs hf
    refine ⟨?_, fun hS => ?_⟩
    · simp only [fastAny, hsd, hlen, bne_self_eq_false, sortFields, hc.fastFields, bind, normW, encW]
      rfl
    · rw [normW, hid hS, insSort_W.srt_of_sorted ws (toWFields_sorted P sd.fields fs ws h1 (hS i sd hsd) hids)]
  case case14 =>
    exact (fastAny_scalar c P fuel ty v w ((Res.ofOption_eq_ok ..).mp h)).imp_right fun e _ => e

theorem fastList_is_std (c : Bool) (P : Prog) (hP : WriteOK c P) (xs : List GoVal) : ∀ (e : Ty) (ws : List WVal) (fuel : Nat),
    WTList P.structs e xs → toWList P e xs = .ok ws → depthList ws ≤ fuel →
    concatWith (fastAny c P fuel e) xs = .ok (encList (normList ws)) :=
  fun e ws fuel hwt h hd => (concatWith_is_std (fastAny_is_std c P hP fuel) e xs ws hwt h hd).1

theorem fastPairs_is_std (c : Bool) (P : Prog) (hP : WriteOK c P) (kvs : List (GoVal × GoVal)) : ∀ (k v : Ty) (ws : List (WVal × WVal)) (fuel : Nat),
    WTPairs P.structs k v kvs → toWPairs P k v kvs = .ok ws → depthPairs ws ≤ fuel →
    concatPairsWith (fastAny c P fuel k) (fastAny c P fuel v) kvs = .ok (encPairs (normPairs ws)) :=
  fun k v ws fuel hwt h hd => (concatPairsWith_is_std (fastAny_is_std c P hP fuel) k v kvs ws hwt h hd).1

theorem fastFields_is_std (c : Bool) (P : Prog) (hP : WriteOK c P) (vs : List GoVal) : ∀ (defs : List FieldDef) (ws : List (Nat × WVal)) (fuel : Nat),
    WTFields P.structs defs vs → toWFields P defs vs = .ok ws → depthFields ws ≤ fuel → (∀ f ∈ defs, c = true ∨ NoOptBinDflt f) →
    Corr c P (fastAny c P fuel) (sortPairs (defs.zip vs)) (sortW (normFields ws)) :=
  fun defs ws fuel hwt h hd hn => (fields_corr (fastAny_is_std c P hP fuel) defs vs ws hwt h hd hn).1

mutual
theorem normW_WF (w : WVal) : WF w → WF (normW w) ∧ (normW w).depth = w.depth := by
  intro h
  cases w
  case struct fs =>
    simp only [WF] at h
    obtain ⟨h1, h2⟩ := normFields_WF fs h
    simp only [normW, WF, WVal.depth, depthFields_perm (insSort_W.srt_perm _), h2, and_true]
    exact WFFields_perm (insSort_W.srt_perm _).symm h1
  case map kt vt kvs =>
    simp only [WF] at h
    obtain ⟨h1, h2⟩ := normPairs_WF kt vt kvs h.2
    simp only [normW, WF, WVal.depth, normPairs_length, h2, and_true]
    exact ⟨h.1, h1⟩
  case set et xs | list et xs =>
    simp only [WF] at h
    obtain ⟨h1, h2⟩ := normList_WF et xs h.2
    simp only [normW, WF, WVal.depth, normList_length, h2, and_true]
    exact ⟨h.1, h1⟩
  all_goals exact ⟨h, rfl⟩
theorem normFields_WF (fs : List (Nat × WVal)) : WFFields fs → WFFields (normFields fs) ∧ depthFields (normFields fs) = depthFields fs := by
  intro h
  cases fs with
  | nil => exact ⟨h, rfl⟩
  | cons x r =>
    obtain ⟨id, v⟩ := x
    simp only [WFFields] at h
    obtain ⟨a1, a2⟩ := normW_WF v h.2.1
    obtain ⟨b1, b2⟩ := normFields_WF r h.2.2
    simp only [normFields, WFFields, depthFields, a2, b2, and_true]
    exact ⟨h.1, a1, b1⟩
theorem normPairs_WF (kt vt : TType) (kvs : List (WVal × WVal)) : WFPairs kt vt kvs →
    WFPairs kt vt (normPairs kvs) ∧ depthPairs (normPairs kvs) = depthPairs kvs := by
  intro h
  cases kvs with
  | nil => exact ⟨h, rfl⟩
  | cons x r =>
    obtain ⟨k, v⟩ := x
    simp only [WFPairs] at h
    obtain ⟨a1, a2⟩ := normW_WF k h.2.2.1
    obtain ⟨c1, c2⟩ := normW_WF v h.2.2.2.1
    obtain ⟨b1, b2⟩ := normPairs_WF kt vt r h.2.2.2.2
    simp only [normPairs, WFPairs, depthPairs, a2, b2, c2, normW_ttype, and_true]
    exact ⟨h.1, h.2.1, a1, c1, b1⟩
theorem normList_WF (et : TType) (xs : List WVal) : WFList et xs → WFList et (normList xs) ∧ depthList (normList xs) = depthList xs := by
  intro h
  cases xs with
  | nil => exact ⟨h, rfl⟩
  | cons x r =>
    simp only [WFList] at h
    obtain ⟨a1, a2⟩ := normW_WF x h.2.1
    obtain ⟨b1, b2⟩ := normList_WF et r h.2.2
    simp only [normList, WFList, depthList, a2, b2, normW_ttype, and_true]
    exact ⟨h.1, a1, b1⟩
end

theorem normFields_ids : ∀ (l : List (Nat × WVal)), (normFields l).map (·.1) = l.map (·.1) := by
  intro l
  induction l with
  | nil => rfl
  | cons x r ih => obtain ⟨a, b⟩ := x; simp [normFields, ih]

/-- the writer with the guard needs nothing of the schema, so it serves for the facts about `normW` alone -/
theorem stdAt_guarded (P : Prog) (n : Nat) : StdAt P n (fastAny true P n) := fastAny_is_std true P (Or.inl rfl) n

theorem normW_id (P : Prog) (hS : SortedSchema P) (v : GoVal) (ty : Ty) (w : WVal) (hwt : WT P.structs ty v)
    (h : toW P ty v = .ok w) : normW w = w :=
  (stdAt_guarded P w.depth v ty w hwt h (Nat.le_refl _)).2 hS

theorem normList_id (P : Prog) (hS : SortedSchema P) (xs : List GoVal) : ∀ (e : Ty) (ws : List WVal),
    WTList P.structs e xs → toWList P e xs = .ok ws → normList ws = ws :=
  fun e ws hwt h => (concatWith_is_std (stdAt_guarded P _) e xs ws hwt h (Nat.le_refl _)).2 hS

theorem normPairs_id (P : Prog) (hS : SortedSchema P) (kvs : List (GoVal × GoVal)) : ∀ (k v : Ty) (ws : List (WVal × WVal)),
    WTPairs P.structs k v kvs → toWPairs P k v kvs = .ok ws → normPairs ws = ws :=
  fun k v ws hwt h => (concatPairsWith_is_std (stdAt_guarded P _) k v kvs ws hwt h (Nat.le_refl _)).2 hS

theorem normFields_id (P : Prog) (hS : SortedSchema P) (vs : List GoVal) : ∀ (defs : List FieldDef) (ws : List (Nat × WVal)),
    WTFields P.structs defs vs → toWFields P defs vs = .ok ws → normFields ws = ws :=
  fun defs ws hwt h => (fields_corr (c := true) (stdAt_guarded P _) defs vs ws hwt h (Nat.le_refl _) fun _ _ => Or.inl rfl).2 hS

end Gen.Fast
