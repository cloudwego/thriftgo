import ThriftVerif.Gen.Fast
import ThriftVerif.Gen.StdLemmas
/- helper lemmas about Gen.Fast for Props/C10: the regenerated tables, BLength = length of FastAppend -/
namespace Gen.Fast
open Wire Gen

/-- the fixed wire size of a type per the Thrift binary protocol (0 = variable length) -/
def fixedSize : Ty → Nat
  | .bool => 1 | .i8 => 1 | .i16 => 2 | .i32 => 4 | .enum => 4 | .i64 => 8 | .dbl => 8
  | _ => 0

theorem catOf_struct (P : Prog) (i : Nat) :
    catOf P (.struct i) = Generated.C10.catStruct ∨ catOf P (.struct i) = Generated.C10.catUnion ∨
      catOf P (.struct i) = Generated.C10.catException := by
  simp only [catOf]
  cases P.struct? i with
  | none => exact Or.inl rfl
  | some sd =>
    simp only []
    by_cases h1 : sd.kind = 1
    · exact Or.inr (Or.inl (if_pos h1))
    · by_cases h2 : sd.kind = 2
      · exact Or.inr (Or.inr ((if_neg h1).trans (if_pos h2)))
      · exact Or.inl ((if_neg h1).trans (if_neg h2))

theorem wireTypeOf_eq (P : Prog) (ty : Ty) : wireTypeOf P ty = ty.ttype.code := by
  unfold wireTypeOf
  fun_cases catOf P ty <;> rfl

theorem gopkgTypeOf_eq (P : Prog) (ty : Ty) : gopkgTypeOf P ty = ty.ttype.code := by
  unfold gopkgTypeOf
  fun_cases catOf P ty <;> rfl

theorem wireSizeOf_eq (P : Prog) (ty : Ty) : wireSizeOf P ty = fixedSize ty := by
  unfold wireSizeOf
  fun_cases catOf P ty <;> rfl

theorem isContainerType_eq (P : Prog) (ty : Ty) :
    isContainerType P ty = (match ty with | .map _ _ | .list _ | .set _ | .bin => true | _ => false) := by
  unfold isContainerType
  fun_cases catOf P ty <;> rfl

theorem FRes.bind_eq_ok {α β} (x : FRes α) (f : α → FRes β) (b : β) :
    (x >>= f) = .ok b ↔ ∃ a, x = .ok a ∧ f a = .ok b := by
  cases x <;> simp [bind]

theorem FRes.ok_inj {α} (a b : α) : (FRes.ok a = FRes.ok b) ↔ a = b := by
  constructor
  · intro h; cases h; rfl
  · intro h; rw [h]

theorem concatWith_sum (g : GoVal → FRes Bytes) (h : GoVal → FRes Nat) (xs : List GoVal) :
    ∀ bs : Bytes, (∀ x ∈ xs, ∀ b, g x = .ok b → h x = .ok b.length) →
      concatWith g xs = .ok bs → sumWith h xs = .ok bs.length := by
  fun_induction concatWith g xs with
  | case1 => intro bs _ hc; cases hc; rfl
  | case2 x r ih =>
    intro bs hp hc
    simp only [FRes.bind_eq_ok, FRes.ok.injEq] at hc
    obtain ⟨a, ha, b, hb, rfl⟩ := hc
    rw [sumWith, hp x List.mem_cons_self a ha, ih b (fun y hy => hp y (List.mem_cons_of_mem x hy)) hb, List.length_append]
    rfl

theorem sumWith_const (n : Nat) : ∀ xs : List GoVal, sumWith (fun _ => .ok n) xs = .ok (xs.length * n)
  | [] => by rw [sumWith, List.length_nil, Nat.zero_mul]
  | x :: r => by
    rw [sumWith, sumWith_const n r, List.length_cons, Nat.succ_mul, Nat.add_comm]
    rfl

theorem concatPairs_split (gk gv : GoVal → FRes Bytes) (kvs : List (GoVal × GoVal)) (bs : Bytes)
    (hc : concatPairsWith gk gv kvs = .ok bs) :
    ∃ bk bv, concatWith gk (kvs.map (·.1)) = .ok bk ∧ concatWith gv (kvs.map (·.2)) = .ok bv ∧
      bs.length = bk.length + bv.length := by
  fun_induction concatPairsWith gk gv kvs generalizing bs with
  | case1 => cases hc; exact ⟨[], [], rfl, rfl, rfl⟩
  | case2 k v r ih =>
    simp only [FRes.bind_eq_ok] at hc
    obtain ⟨a, ha, b, hb, c, hc', habc⟩ := hc
    cases habc
    obtain ⟨bk, bv, hk, hv, hl⟩ := ih c hc'
    refine ⟨a ++ bk, b ++ bv, ?_, ?_, ?_⟩
    · simp only [List.map_cons, concatWith, ha, hk, bind]
    · simp only [List.map_cons, concatWith, hb, hv, bind]
    · simp only [List.length_append, hl]; omega

theorem sumPairs_of_sides (hk hv : GoVal → FRes Nat) (kvs : List (GoVal × GoVal)) (a b : Nat)
    (ha : sumWith hk (kvs.map (·.1)) = .ok a) (hb : sumWith hv (kvs.map (·.2)) = .ok b) :
    sumPairsWith hk hv kvs = .ok (a + b) := by
  fun_induction sumPairsWith hk hv kvs generalizing a b with
  | case1 => cases ha; cases hb; rfl
  | case2 k v r ih =>
    simp only [List.map_cons, sumWith, FRes.bind_eq_ok] at ha hb
    obtain ⟨a1, ha1, a2, ha2, e1⟩ := ha
    obtain ⟨b1, hb1, b2, hb2, e2⟩ := hb
    cases e1
    cases e2
    simp only [ha1, hb1, ih a2 b2 ha2 hb2, bind]
    congr 1
    omega

theorem fastFields_blength (c : Bool) (P : Prog) (g : Ty → GoVal → FRes Bytes) (h : Ty → GoVal → FRes Nat)
    (l : List (FieldDef × GoVal)) : ∀ bs : Bytes,
      (∀ p ∈ l, ∀ b, g p.1.ty p.2 = .ok b → h p.1.ty p.2 = .ok b.length) →
      fastFields c P g l = .ok bs → blengthFields c P h l = .ok bs.length := by
  fun_induction fastFields c P g l with
  | case1 => intro bs _ hc; cases hc; rfl
  | case2 f v r hw ih =>
    intro bs hp hc
    simp only [FRes.bind_eq_ok, FRes.ok.injEq] at hc
    obtain ⟨a, ha, b, hb, rfl⟩ := hc
    rw [blengthFields, if_pos hw, hp (f, v) List.mem_cons_self a ha, ih b (fun q hq => hp q (List.mem_cons_of_mem _ hq)) hb]
    simp only [List.length_append, List.length_singleton, be_length]
    rfl
  | case3 f v r hw ih =>
    intro bs hp hc
    rw [blengthFields, if_neg hw]
    exact ih bs (fun q hq => hp q (List.mem_cons_of_mem _ hq)) hc

theorem fastAny_fixed (c : Bool) (P : Prog) (fuel : Nat) (ty : Ty) (v : GoVal) (bs : Bytes) (hz : 0 < fixedSize ty)
    (h : fastAny c P fuel ty v = .ok bs) : bs.length = fixedSize ty := by
  cases fuel with
  | zero => cases h
  | succ fuel =>
    cases ty <;> simp [fixedSize] at hz <;> cases v <;> simp [fastAny] at h <;> subst h <;> simp [fixedSize, be_length]

theorem blengthAny_exact (c : Bool) (P : Prog) : ∀ (fuel : Nat) (ty : Ty) (v : GoVal) (bs : Bytes),
    fastAny c P fuel ty v = .ok bs → blengthAny c P fuel ty v = .ok bs.length := by
  intro fuel
  induction fuel with
  | zero => intro ty v bs h; cases h
  | succ fuel ih =>
    intro ty v bs h
    have elems : ∀ (e : Ty) (xs : List GoVal) (b : Bytes), concatWith (fastAny c P fuel e) xs = .ok b →
        (0 < fixedSize e → b.length = xs.length * fixedSize e) ∧ sumWith (blengthAny c P fuel e) xs = .ok b.length := by
      intro e xs b hb
      refine ⟨fun he => ?_, concatWith_sum _ _ xs b (fun x _ y hy => ih e x y hy) hb⟩
      -- every element takes `fixedSize e` bytes, so the constant is a length function for them too
      have := concatWith_sum _ (fun _ => .ok (fixedSize e)) xs b
        (fun x _ y hy => congrArg FRes.ok (fastAny_fixed c P fuel e x y he hy).symm) hb
      rw [sumWith_const] at this
      exact (FRes.ok.inj this).symm
    unfold blengthAny
    rw [wireSizeOf_eq]
    by_cases hz : 0 < fixedSize ty
    · rw [if_pos hz, fastAny_fixed c P (fuel + 1) ty v bs hz h]
    · rw [if_neg hz]
      cases ty <;> simp [fixedSize] at hz <;> cases v <;> simp only [fastAny, reduceCtorEq] at h
      case str.bytes b | bin.bytes b => cases h; simp only [List.length_append, be_length]
      case bin.nil | list.nil | set.nil | map.nil | struct.nil => cases h; rfl
      case list.list e xs | set.list e xs =>
        simp only [FRes.bind_eq_ok] at h
        obtain ⟨s, hs, hb⟩ := h
        cases hb
        obtain ⟨hfix, hsum⟩ := elems e xs s hs
        simp only [wireSizeOf_eq, List.length_append, List.length_singleton, be_length]
        by_cases he : 0 < fixedSize e
        · rw [if_pos he, hfix he]
        · rw [if_neg he, hsum]; rfl
      case map.map k w kvs =>
        simp only [FRes.bind_eq_ok] at h
        obtain ⟨s, hs, hb⟩ := h
        cases hb
        obtain ⟨bk, bv, hbk, hbv, hlen⟩ := concatPairs_split _ _ kvs s hs
        obtain ⟨kfix, ksum⟩ := elems k _ bk hbk
        obtain ⟨wfix, wsum⟩ := elems w _ bv hbv
        simp only [List.length_map] at kfix wfix
        simp only [wireSizeOf_eq, List.length_append, List.length_cons, List.length_nil, be_length, hlen]
        by_cases hk : 0 < fixedSize k <;> by_cases hw : 0 < fixedSize w <;>
          simp only [hk, hw, decide_true, decide_false, Bool.and_self, Bool.and_false, Bool.false_and, Bool.false_eq_true, if_true, if_false]
        · rw [kfix hk, wfix hw, Nat.mul_add]
        · rw [wsum, kfix hk]; simp only [bind]; congr 1; omega
        · rw [ksum, wfix hw]; simp only [bind]; congr 1; omega
        · rw [sumPairs_of_sides _ _ kvs _ _ ksum wsum]; simp only [bind]
      case struct.strct i fs =>
        simp only []
        cases hsd : P.struct? i with
        | none => simp [hsd] at h
        | some sd =>
          simp only [hsd] at h ⊢
          split at h
          · cases h
          · rename_i hlen
            simp only [FRes.bind_eq_ok] at h
            obtain ⟨s, hs, hb⟩ := h
            cases hb
            have := fastFields_blength c P (fastAny c P fuel) (blengthAny c P fuel) (sortFields sd.fields fs) s
              (fun p _ b hb => ih p.1.ty p.2 b hb) hs
            simp [hlen, this, bind]

end Gen.Fast
