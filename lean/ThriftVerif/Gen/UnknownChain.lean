import ThriftVerif.Gen.UnknownEvolve
/-
  Gen/UnknownChain: one hop (Read, then Write of the same object) through code generated with keep_unknown_fields from the
  OLD struct and through code generated from the NEW struct, on any permutation of what the new code wrote, and chains of
  hops. Props/C09 reads `keep_roundtrip` and `chain` off the two hop theorems.
-/
namespace Gen.Unknown
open Wire Gen Gen.Std Gen.Evolve

/-- generated `Write` of struct `sd` under keep_unknown_fields at one struct level: the union check
(`c != 1 && !(c == 0 && len(p._unknownFields) > 0)`), the known fields, then `_unknownFields.Write`, then STOP -/
def writeStructKU (P : Prog) (sd : StructDef) (fs : List GoVal) (acc : Fields) : Res Bytes :=
  if sd.kind = 1 && countSet sd.fields fs != 1 && !(countSet sd.fields fs == 0 && carrying acc) then .err else
  match toWFields P sd.fields fs with
  | .ok ws => writeFieldsKU (encFields ws) acc
  | .err => .err
  | .panic => .panic

/-- Read into `NewX()`, `CarryingUnknownFields()`, Write of the same object (keep_unknown_fields) -/
def hopKU (P : Prog) (f : Nat) (sd : StructDef) (bs : Bytes) : Option (Bytes × Bool) :=
  match readStructKU (readTy P.structs f) sd bs with
  | some (fs, _, acc) =>
    match writeStructKU P sd fs acc with
    | .ok out => some (out, carrying acc)
    | _ => none
  | none => none

/-- Read into `NewX()`, Write of the same object (plain code) -/
def hopStd (P : Prog) (f : Nat) (i : Nat) (bs : Bytes) : Option Bytes :=
  match readTy P.structs (f + 1) (.struct i) bs with
  | some (v, _) =>
    match Std.write P i v with
    | .ok out => some out
    | _ => none
  | none => none

/-- the hypotheses of one-level evolution: `sdNew` = `sdOld` + added fields (mask), both struct tables entries
of `P` (nested types are shared), `vs` a well-typed object of the new struct that writes `wsN` -/
structure Evo (P : Prog) (iOld iNew : Nat) (sdOld sdNew : StructDef) (mask : List Bool) (vs : List GoVal)
    (wsN : List (Nat × WVal)) (f : Nat) : Prop where
  hP : SchemaOK P
  hv : P.validateSet = false
  hO : P.structs[iOld]? = some sdOld
  hN : P.structs[iNew]? = some sdNew
  hl : mask.length = sdNew.fields.length
  hproj : proj mask sdNew.fields = sdOld.fields
  hfresh : ∀ g ∈ added mask sdNew.fields, idOf g ∉ sdOld.fields.map idOf
  hadd : ∀ g ∈ added mask sdNew.fields, g.req ≠ .required
  hwt : WTFields P.structs sdNew.fields vs
  hw : toWFields P sdNew.fields vs = .ok wsN
  hsh : AddedShallow P mask sdNew.fields vs
  hd : depthFields wsN ≤ f
  /-- for a union: the new code's Write succeeded, i.e. exactly one member was set -/
  hcount : (sdOld.kind = 1 ∨ sdNew.kind = 1) → wsN.length = 1

theorem toWFields_length (P : Prog) : ∀ (defs : List FieldDef) (vs : List GoVal) (ws : List (Nat × WVal)),
    toWFields P defs vs = .ok ws → vs.length = defs.length
  | [], [], _, _ => rfl
  | [], _ :: _, _, h => by simp [toWFields] at h
  | _ :: _, [], _, h => by simp [toWFields] at h
  | f :: fs, v :: vs, ws, h => by
    by_cases hc : (decide (f.req = .optional) && !isSet f v) = true
    · rw [toWFields_skipped hc] at h
      exact congrArg (· + 1) (toWFields_length P fs vs ws h)
    · obtain ⟨_, _, ws', hws', _⟩ := (toWFields_written_ok hc).1 h
      exact congrArg (· + 1) (toWFields_length P fs vs ws' hws')

theorem mixed_unknowns (defs : List FieldDef) : ∀ (us : List (Nat × WVal)),
    (∀ x ∈ us, x.1 < 256 ^ 2 ∧ findField defs x.1 = none ∧ WF x.2 ∧ x.2.depth ≤ 64) → Mixed defs [] us
  | [], _ => .nil
  | (id, u) :: us, h => by
    obtain ⟨h1, h2, h3, h4⟩ := h (id, u) (by simp)
    exact .unknown id u [] us (mixed_unknowns defs us (fun y hy => h y (by simp [hy]))) h1 h2 h3 h4

theorem mixed_append (defs : List FieldDef) (us : List (Nat × WVal))
    (h : ∀ x ∈ us, x.1 < 256 ^ 2 ∧ findField defs x.1 = none ∧ WF x.2 ∧ x.2.depth ≤ 64) :
    ∀ (ws : List (Nat × WVal)), Mixed defs ws (ws ++ us)
  | [] => by simpa using mixed_unknowns defs us h
  | x :: ws => .known x ws (ws ++ us) (mixed_append defs us h ws)

theorem carrying_enc (us : List (Nat × WVal)) : carrying (encFields us) = !us.isEmpty := by
  cases us with
  | nil => rfl
  | cons a r => obtain ⟨i, v⟩ := a; simp [carrying, encFields]

theorem writeStructKU_enc (P : Prog) (sd : StructDef) {fs : List GoVal} {ws us : List (Nat × WVal)}
    (hopt : sd.kind = 1 → ∀ f ∈ sd.fields, f.req = .optional) (htw : toWFields P sd.fields fs = .ok ws) (hwf : WFFields us)
    (hk : sd.kind = 1 → ws.length = 1 ∨ (ws.length = 0 ∧ us ≠ [])) :
    writeStructKU P sd fs (encFields us) = .ok (encFields (ws ++ us) ++ [0]) := by
  have hu : (sd.kind = 1 && countSet sd.fields fs != 1 &&
      !(countSet sd.fields fs == 0 && carrying (encFields us))) = false := by
    by_cases h1 : sd.kind = 1
    · rw [← countSet_written P sd.fields fs ws htw (hopt h1), carrying_enc]
      rcases hk h1 with h2 | ⟨h2, h3⟩
      · simp [h1, h2]
      · simp [h1, h2, h3]
    · simp [h1]
  simp only [writeStructKU, hu, htw, writeFieldsKU, write_enc _ hwf, encFields_append]
  rfl

theorem hopKU_of_run (P : Prog) (hP : SchemaOK P) (i : Nat) (sd : StructDef) (hsd : P.structs[i]? = some sd) (f : Nat)
    {ms ws : List (Nat × WVal)} {fs' : List GoVal} {seen' : List Bool}
    (hrun : Run (readTy P.structs f) sd.fields ms (initVals sd, sd.fields.map fun _ => false) (fs', seen'))
    (hro : requiredOk sd.fields seen' = true) (htw : toWFields P sd.fields fs' = .ok ws)
    (hwf : WFFields (unk sd.fields ms))
    (hk : sd.kind = 1 → ws.length = 1 ∨ (ws.length = 0 ∧ unk sd.fields ms ≠ [])) :
    hopKU P f sd (encFields ms ++ [0]) = some (encFields (ws ++ unk sd.fields ms) ++ [0], !(unk sd.fields ms).isEmpty) := by
  simp only [hopKU, readStructKU_of_run [] hrun hro, writeStructKU_enc P sd (hP i sd hsd).2.2.2 htw hwf hk, carrying_enc]

theorem hopStd_read (P : Prog) (hP : SchemaOK P) (f i : Nat) (sd : StructDef) (bs : Bytes) (fs : List GoVal) (ws : List (Nat × WVal))
    (hsd : P.structs[i]? = some sd) (hk : sd.kind = 1 → ws.length = 1)
    (hr : readTy P.structs (f + 1) (.struct i) bs = some (.strct fs, [])) (hw : toWFields P sd.fields fs = .ok ws) :
    hopStd P f i bs = some (encFields ws ++ [0]) := by
  have hk' : sd.kind = 1 → countSet sd.fields fs = 1 := fun h1 =>
    (countSet_written P sd.fields fs ws hw ((hP i sd hsd).2.2.2 h1)).symm.trans (hk h1)
  simp only [hopStd, hr, write_struct P i sd fs ws hsd hk' hw]

theorem writeStructKU_nil (P : Prog) (i : Nat) (sd : StructDef) (fs : List GoVal) (hsd : P.structs[i]? = some sd) :
    writeStructKU P sd fs [] = Std.write P i (.strct fs) := by
  have : P.struct? i = some sd := hsd
  simp only [writeStructKU, Std.write, toW, this, carrying, List.isEmpty_nil, Bool.not_true, Bool.and_false, Bool.not_false, Bool.and_true]
  split
  · rfl
  · cases toWFields P sd.fields fs <;> simp [writeFieldsKU, write, writeR, writeLoop] <;> rfl

section
variable {P : Prog} {iOld iNew : Nat} {sdOld sdNew : StructDef} {mask : List Bool} {vs : List GoVal}
  {wsN : List (Nat × WVal)} {f : Nat}

theorem Evo.hopStd_perm (E : Evo P iOld iNew sdOld sdNew mask vs wsN f) :
    ∃ fs'', toWFields P sdNew.fields fs'' = .ok wsN ∧ ∀ ms : List (Nat × WVal), ms.Perm wsN →
      (∀ r', readTy P.structs (f + 1) (.struct iNew) (encFields ms ++ 0 :: r') = some (.strct fs'', r')) ∧
      hopStd P f iNew (encFields ms ++ [0]) = some (encFields wsN ++ [0]) := by
  obtain ⟨fs'', htw, hrd⟩ := struct_read_perm P E.hP E.hv iNew sdNew vs wsN f E.hN E.hwt E.hw E.hd
  exact ⟨fs'', htw, fun ms hp => ⟨fun r' => hrd ms r' hp,
    hopStd_read P E.hP f iNew sdNew _ fs'' wsN E.hN (fun h => E.hcount (Or.inr h)) (hrd ms [] hp) htw⟩⟩

theorem Evo.hopKU_perm (E : Evo P iOld iNew sdOld sdNew mask vs wsN f) :
    ∃ wsO, toWFields P sdOld.fields (proj mask vs) = .ok wsO ∧
      toWFields P (added mask sdNew.fields) (added mask vs) = .ok (unk sdOld.fields wsN) ∧
      (wsO ++ unk sdOld.fields wsN).Perm wsN ∧ unk sdOld.fields (wsO ++ unk sdOld.fields wsN) = unk sdOld.fields wsN ∧
      ∀ ms : List (Nat × WVal), ms.Perm wsN → hopKU P f sdOld (encFields ms ++ [0]) =
        some (encFields (wsO ++ unk sdOld.fields ms) ++ [0], !(unk sdOld.fields ms).isEmpty) := by
  obtain ⟨wsO, hwO, hwA, hm⟩ := new_fields_split P sdOld.fields mask sdNew.fields vs wsN E.hl E.hw E.hwt
    (fun g hg => List.mem_map_of_mem (E.hproj ▸ hg)) E.hfresh E.hsh
  rw [E.hproj] at hwO
  have hkn := toWFields_ids P _ _ _ hwO
  obtain ⟨hperm, hfacts⟩ := mixed_perm_unk sdOld.fields wsO wsN hm hkn
  obtain ⟨fs', seen', htw, hro, hrun⟩ := struct_run P E.hP E.hv iOld sdOld (proj mask vs) wsO f E.hO
    (E.hproj ▸ WTFields_proj P.structs mask sdNew.fields vs E.hl E.hwt) hwO
    (Nat.le_trans (Mixed_depth sdOld.fields wsO wsN hm) E.hd)
  refine ⟨wsO, hwO, hwA, hperm, by rw [unk_append, unk_known hkn, unk_unk, List.nil_append], fun ms hp => ?_⟩
  have hpu := unk_perm sdOld.fields hp
  refine hopKU_of_run P E.hP iOld sdOld E.hO f
    ((hrun wsN hm).perm hp.symm ((toWFields_sublist P _ _ _ E.hw).nodup (E.hP iNew sdNew E.hN).1)) hro htw
    (WFFields_of_mem _ fun x hx => hfacts x (hpu.mem_iff.1 hx)) fun h1 => ?_
  -- a union: the new code wrote one member, which the old schema either knows or carries
  have hl := ((hpu.append_left wsO).trans hperm).length_eq.trans (E.hcount (Or.inl h1))
  rw [List.length_append] at hl
  cases hu : unk sdOld.fields ms with
  | nil => rw [hu] at hl; exact .inl hl
  | cons a r => rw [hu, List.length_cons] at hl; exact .inr ⟨by omega, List.cons_ne_nil a r⟩

/-- a hop of a chain: through the old code with keep_unknown_fields, or through the new code -/
inductive Hop | oldKeep | new
  deriving DecidableEq, Repr

def runHop (P : Prog) (f : Nat) (sdOld : StructDef) (iNew : Nat) : Hop → Bytes → Option Bytes
  | .oldKeep, b => (hopKU P f sdOld b).map (·.1)
  | .new, b => hopStd P f iNew b

def runChain (P : Prog) (f : Nat) (sdOld : StructDef) (iNew : Nat) : List Hop → Bytes → Option Bytes
  | [], b => some b
  | h :: hs, b => (runHop P f sdOld iNew h b).bind (runChain P f sdOld iNew hs)

/-- `b0`: what the new code writes; `b1`: what the old code writes, the common fields followed by the added ones -/
def afterHop (b0 b1 : Bytes) : Hop → Bytes
  | .oldKeep => b1
  | .new => b0

def endOf (b0 b1 : Bytes) : Bytes → List Hop → Bytes
  | b, [] => b
  | _, h :: hs => endOf b0 b1 (afterHop b0 b1 h) hs

theorem endOf_last (b0 b1 : Bytes) : ∀ (hs : List Hop) (b : Bytes) (h : Hop), endOf b0 b1 b (hs ++ [h]) = afterHop b0 b1 h
  | [], _, _ => rfl
  | _ :: hs, _, h => endOf_last b0 b1 hs _ h

theorem runChain_endOf {sdOld : StructDef} {iNew : Nat} {b0 b1 : Bytes}
    (hstep : ∀ (h : Hop) (b : Bytes), b = b0 ∨ b = b1 → runHop P f sdOld iNew h b = some (afterHop b0 b1 h)) :
    ∀ (hops : List Hop) (b : Bytes), b = b0 ∨ b = b1 → runChain P f sdOld iNew hops b = some (endOf b0 b1 b hops)
  | [], _, _ => rfl
  | h :: hs, b, hb => by
    simp only [runChain, hstep h b hb, Option.bind_some, endOf]
    exact runChain_endOf hstep hs _ (by cases h <;> simp [afterHop])

end

end Gen.Unknown
