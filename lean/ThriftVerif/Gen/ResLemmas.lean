import ThriftVerif.Gen.Schema
/-
  The monad `Gen.Res` of the generated-code models (`ok`, `err`, `panic`): the bind equations and inversions through which the
  lemma files of Std, Fast, Mask and Defaults read a `do` block without opening `bind`.
-/
namespace Gen

theorem Res.ok_bind {α β} (a : α) (f : α → Res β) : (Res.ok a >>= f) = f a := rfl
theorem Res.bind_eq_ok {α β} (x : Res α) (f : α → Res β) (b : β) :
    (x >>= f) = .ok b ↔ ∃ a, x = .ok a ∧ f a = .ok b := by
  cases x <;> simp [bind]
theorem Res.pure_eq_ok {α} (a b : α) : (pure a : Res α) = .ok b ↔ a = b := by
  simp [pure]
theorem Res.ofOption_eq_ok {α} (o : Option α) (a : α) : Res.ofOption o = .ok a ↔ o = some a := by
  cases o <;> simp [Res.ofOption]

theorem Res.bind_assoc {α β γ} (x : Res α) (f : α → Res β) (g : β → Res γ) :
    (x >>= f >>= g) = x >>= fun a => f a >>= g := by
  cases x <;> rfl

theorem Res.bind_congr {α β} {x : Res α} {f g : α → Res β} (h : ∀ a, x = .ok a → f a = g a) :
    (x >>= f) = x >>= g := by
  cases x with
  | ok a => exact h a rfl
  | err => rfl
  | panic => rfl

end Gen
