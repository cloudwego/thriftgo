import ThriftVerif.Gen.FastLemmas
/- helper lemmas about Gen.Fast for Props/C10:
   (1) FastRead never panics when the runtime's Skip is bounds-respecting;
   (2) gopkg's Skip accepts whatever the strict untyped decoder `Wire.decW` accepts, consuming the same bytes;
   (3) the suggested two-line repair of gopkg's Skip (`Gopkg.skipTypeF`) satisfies the bounds hypothesis of (1);
   (4) so does gopkg's own Skip behind the generator's `recover` and length guards (`guardedSkip_bounded`). -/
namespace Gen.Fast
open Wire Gen

def NoPanic {α} : FRes α → Prop
  | .panic _ => False
  | _ => True

/-- what the generated code assumes of the runtime's `Skip` -/
def SkipBounded (skip : Nat → Bytes → FRes Nat) : Prop :=
  ∀ t bs, match skip t bs with
    | .ok l => l ≤ bs.length
    | .err => True
    | .panic _ => False

theorem NoPanic.bind {α β} (x : FRes α) (f : α → FRes β) (hx : NoPanic x) (hf : ∀ a, x = .ok a → NoPanic (f a)) :
    NoPanic (x >>= f) := by
  cases x with
  | ok a => exact hf a rfl
  | err => trivial
  | panic w => exact hx

theorem NoPanic.ite {α} {c : Prop} [Decidable c] {a b : FRes α} (ha : c → NoPanic a) (hb : ¬ c → NoPanic b) :
    NoPanic (if c then a else b) := by
  by_cases h : c
  · rw [if_pos h]; exact ha h
  · rw [if_neg h]; exact hb h

def Bounded (r : FRes Nat) (bs : Bytes) : Prop :=
  match r with
  | .ok l => l ≤ bs.length
  | .err => True
  | .panic _ => False

theorem Bounded.noPanic {r : FRes Nat} {bs : Bytes} (h : Bounded r bs) : NoPanic r := by
  cases r <;> first | trivial | exact h

theorem Bounded.le {r : FRes Nat} {bs : Bytes} {k : Nat} (h : Bounded r bs) (hk : r = .ok k) : k ≤ bs.length := by
  subst hk; exact h

theorem Bounded.ite {c : Prop} [Decidable c] {a b : FRes Nat} {bs : Bytes}
    (ha : c → Bounded a bs) (hb : ¬ c → Bounded b bs) : Bounded (if c then a else b) bs := by
  by_cases h : c
  · rw [if_pos h]; exact ha h
  · rw [if_neg h]; exact hb h

/-- every checked answer of `skipType` has this shape: `if p+n > e { return errBufferTooShort }; return n` -/
theorem Bounded.checked (n : Nat) (bs : Bytes) : Bounded (if n > bs.length then .err else .ok n) bs :=
  Bounded.ite (fun _ => trivial) Nat.le_of_not_gt

theorem Bounded.bind {α} {x : FRes α} {f : α → FRes Nat} {bs : Bytes} (hx : NoPanic x)
    (hf : ∀ a, x = .ok a → Bounded (f a) bs) : Bounded (x >>= f) bs := by
  cases x with
  | ok a => exact hf a rfl
  | err => trivial
  | panic w => exact hx.elim

theorem advance_ok (rest : Bytes) (l : Nat) (h : l ≤ rest.length) : advance rest l = .ok (rest.drop l) :=
  if_pos h

theorem readFixed_le (n : Nat) (bs : Bytes) (x l : Nat) (h : Gopkg.readFixed n bs = some (x, l)) : l ≤ bs.length := by
  revert h
  fun_cases Gopkg.readFixed n bs
  case case1 => nofun
  case case2 hn =>
    intro h
    cases h
    exact Nat.le_of_not_lt hn

theorem advance_np {α} (rest : Bytes) (l : Nat) (k : Bytes → FRes α) (hl : l ≤ rest.length) (hk : ∀ r, NoPanic (k r)) :
    NoPanic (advance rest l >>= k) := by
  rw [advance_ok rest l hl]; exact hk _

theorem readFixedVal_np (n : Nat) (mk : Nat → GoVal) (rest : Bytes) : NoPanic (readFixedVal n mk rest) := by
  fun_cases readFixedVal n mk rest
  case case1 => trivial
  case case2 x l h => exact advance_np rest l _ (readFixed_le n rest x l h) fun _ => trivial

theorem readBin_le (bs b : Bytes) (l : Nat) (h : Gopkg.readBin bs = some (b, l)) : l ≤ bs.length := by
  revert h
  fun_cases Gopkg.readBin bs
  -- cases of readBin: no length; negative length; too short; read
  case case4 hl =>
    intro h
    cases h
    exact Nat.le_of_not_lt hl
  all_goals nofun

theorem readListBegin_le (bs : Bytes) (sz l : Nat) (h : Gopkg.readListBegin bs = some (sz, l)) : l ≤ bs.length := by
  simp only [Gopkg.readListBegin, Option.ite_none_left_eq_some, Option.some.injEq, Prod.mk.injEq] at h
  obtain ⟨_, _, _, rfl⟩ := h
  omega

theorem readMapBegin_le (bs : Bytes) (sz l : Nat) (h : Gopkg.readMapBegin bs = some (sz, l)) : l ≤ bs.length := by
  simp only [Gopkg.readMapBegin, Option.ite_none_left_eq_some, Option.some.injEq, Prod.mk.injEq] at h
  obtain ⟨_, _, _, rfl⟩ := h
  omega

theorem readFieldBegin_le (bs : Bytes) (t id l : Nat) (h : Gopkg.readFieldBegin bs = some (t, id, l)) : l ≤ bs.length := by
  revert h
  fun_cases Gopkg.readFieldBegin bs
  -- cases of readFieldBegin: no input; STOP; type and id; too short for an id
  case case2 =>
    intro h
    cases h
    exact Nat.le_add_left 1 _
  case case3 =>
    intro h
    cases h
    exact Nat.le_add_left 3 _
  all_goals nofun

theorem readElems_np (d : Bytes → FRes (GoVal × Bytes)) (hd : ∀ bs, NoPanic (d bs)) :
    ∀ n bs, NoPanic (readElems d n bs) := by
  intro n
  induction n with
  | zero => intro bs; trivial
  | succ n ih => intro bs; exact NoPanic.bind _ _ (hd bs) fun p _ => NoPanic.bind _ _ (ih p.2) fun _ _ => trivial

theorem readPairs_np (dk dv : Bytes → FRes (GoVal × Bytes)) (hk : ∀ bs, NoPanic (dk bs)) (hv : ∀ bs, NoPanic (dv bs)) :
    ∀ n bs, NoPanic (readPairs dk dv n bs) := by
  intro n
  induction n with
  | zero => intro bs; trivial
  | succ n ih =>
    intro bs
    exact NoPanic.bind _ _ (hk bs) fun p _ => NoPanic.bind _ _ (hv p.2) fun q _ => NoPanic.bind _ _ (ih q.2) fun _ _ => trivial

theorem fastFields_np (skip : Nat → Bytes → FRes Nat) (hs : SkipBounded skip) (P : Prog)
    (rd : Ty → Bytes → FRes (GoVal × Bytes)) (hrd : ∀ ty bs, NoPanic (rd ty bs)) (defs : List FieldDef)
    (g : Nat) (rest : Bytes) (cur : List GoVal) (seen : List Bool) : NoPanic (fastFieldsWith skip P rd defs g rest cur seen) := by
  fun_induction fastFieldsWith skip P rd defs g rest cur seen
  -- no gas (1), no field header (2), a header was read (3)
  case case3 g rest cur seen ftyp fid l h ihKnown ihSkip =>
    refine advance_np rest l _ (readFieldBegin_le rest ftyp fid l h) fun rest => NoPanic.ite (fun _ => ?_) fun _ => ?_
    · exact NoPanic.ite (fun _ => trivial) fun _ => trivial
    · cases hc : findCase P defs (switchKey fid ftyp) with
      | some q => exact NoPanic.bind _ _ (hrd q.2.ty _) fun p _ => ihKnown _ _ _
      | none =>
        have hb : Bounded (skip ftyp rest) rest := hs ftyp rest
        exact NoPanic.bind _ _ hb.noPanic fun k hk => advance_np rest k _ (hb.le hk) fun _ => ihSkip _
  all_goals trivial

theorem fastReadTy_np (skip : Nat → Bytes → FRes Nat) (hs : SkipBounded skip) (P : Prog) :
    ∀ f ty bs, NoPanic (fastReadTyWith skip P f ty bs) := by
  intro f
  induction f with
  | zero => intro ty bs; trivial
  | succ f ih =>
    intro ty bs
    -- `fun_cases` needs a variable for the fuel; `hf` turns it back into `f + 1` in every case
    generalize hf : f + 1 = f'
    fun_cases fastReadTyWith skip P f' ty bs
    case case1 => cases hf
    all_goals obtain rfl := Nat.succ.inj hf
    -- cases of fastReadTyWith (f + 1): 2–8 the fixed-size types; then failure / success of the header for string (9, 10),
    -- binary (11, 12), list (13, 14), set (15, 16), map (17, 18); struct: unknown (19), known (20), `newX` no struct (21)
    case case2 | case3 | case4 | case5 | case6 | case7 | case8 => exact readFixedVal_np _ _ _
    case case10 b l h | case12 b l h => exact advance_np bs l _ (readBin_le bs b l h) fun _ => trivial
    case case14 e n l h | case16 e n l h =>
      exact advance_np bs l _ (readListBegin_le bs n l h) fun _ => NoPanic.bind _ _ (readElems_np _ (ih e) n _) fun _ _ => trivial
    case case18 k w n l h =>
      exact advance_np bs l _ (readMapBegin_le bs n l h) fun _ => NoPanic.bind _ _ (readPairs_np _ _ (ih k) (ih w) n _) fun _ _ => trivial
    case case20 sd _ init _ => exact NoPanic.bind _ _ (fastFields_np skip hs P _ ih sd.fields _ _ _ _) fun _ _ => trivial
    all_goals trivial

/-- fixed wire size of an untyped wire type, as gopkg's `typeToSize` has it -/
def tsize (t : TType) : Nat := ((fixW t).map (·.1)).getD 0

theorem typeToSize_code (t : TType) : Gopkg.typeToSize t.code = .ok (tsize t) := by
  cases t <;> rfl

def SkipsTo (res : FRes Nat) (bs r : Bytes) : Prop := ∃ k, res = .ok k ∧ k ≤ bs.length ∧ bs.drop k = r

theorem lt_of_drop_ne_nil {bs : Bytes} {i : Nat} (h : bs.drop i ≠ []) : i < bs.length :=
  Nat.lt_of_not_le fun hle => h (List.drop_eq_nil_of_le hle)

theorem drop_cons_getD {bs : Bytes} {i c : Nat} {rest : Bytes} (h : bs.drop i = c :: rest) :
    i < bs.length ∧ bs.getD i 0 = c ∧ bs.drop (i + 1) = rest := by
  have hi : i < bs.length := lt_of_drop_ne_nil (by rw [h]; exact List.cons_ne_nil _ _)
  rw [List.drop_eq_getElem_cons hi] at h
  injection h with h1 h2
  refine ⟨hi, ?_, h2⟩
  simp [List.getD_eq_getElem?_getD, List.getElem?_eq_getElem hi, h1]

theorem SkipsTo.shift {res : FRes Nat} {bs r : Bytes} {i : Nat} (h : SkipsTo res (bs.drop i) r) (hi : i ≤ bs.length) :
    ∃ k, res = .ok k ∧ i + k ≤ bs.length ∧ bs.drop (i + k) = r := by
  obtain ⟨k, hk, hle, hdr⟩ := h
  rw [List.length_drop] at hle
  rw [List.drop_drop] at hdr
  exact ⟨k, hk, by omega, hdr⟩

theorem decW_fixed (d : Nat) (t : TType) (hz : 0 < tsize t) :
    ∀ bs w r, decW d t bs = some (w, r) → tsize t ≤ bs.length ∧ r = bs.drop (tsize t) := by
  intro bs w r h
  cases t
  case bool | i8 | dbl | i16 | i32 | i64 =>
    obtain ⟨x, hr, -⟩ := decW_fix_some rfl h
    exact ⟨(readN_some hr).1, (readN_some hr).2.2⟩
  all_goals exact absurd hz (Nat.lt_irrefl 0)

/-- what a loop of `skipType` needs of its element: `dec` accepts no empty input (the loops test `p+i >= e` before
every element) and `elem` skips what `dec` decodes -/
def Tracks (elem : Bytes → FRes Nat) (dec : Bytes → Option (WVal × Bytes)) : Prop :=
  ∀ bs x r, dec bs = some (x, r) → bs ≠ [] ∧ SkipsTo (elem bs) bs r

theorem Tracks.step {elem : Bytes → FRes Nat} {dec : Bytes → Option (WVal × Bytes)} (h : Tracks elem dec) {bs : Bytes} {i : Nat}
    {x : WVal} {r : Bytes} (hi : i ≤ bs.length) (hd : dec (bs.drop i) = some (x, r)) :
    ¬ i ≥ bs.length ∧ ∃ k, elem (bs.drop i) = .ok k ∧ i + k ≤ bs.length ∧ bs.drop (i + k) = r :=
  have ⟨hne, hs⟩ := h _ _ _ hd
  ⟨Nat.not_le_of_gt (lt_of_drop_ne_nil hne), hs.shift hi⟩

theorem listLoop_of {elem : Bytes → FRes Nat} {dec : Bytes → Option (WVal × Bytes)} (h : Tracks elem dec) :
    ∀ (n : Nat) (bs : Bytes) (i : Nat) (xs : List WVal) (r : Bytes), i ≤ bs.length →
      decListWith dec n (bs.drop i) = some (xs, r) → SkipsTo (Gopkg.listLoop elem n i bs) bs r := by
  intro n
  induction n with
  | zero =>
    intro bs i xs r hi hdec
    simp only [decListWith] at hdec
    cases hdec
    exact ⟨i, rfl, hi, rfl⟩
  | succ n ih =>
    intro bs i xs r hi hdec
    obtain ⟨x, r1, xs', hd, hrec, _⟩ := decListWith_succ hdec
    obtain ⟨hlt, k1, hk1, hle1, rfl⟩ := h.step hi hd
    rw [Gopkg.listLoop, if_neg hlt, hk1]
    exact ih bs (i + k1) xs' r hle1 hrec

theorem mapLoop_of {ke ve : Bytes → FRes Nat} {dk dv : Bytes → Option (WVal × Bytes)} (hk : Tracks ke dk) (hv : Tracks ve dv) :
    ∀ (n : Nat) (bs : Bytes) (i : Nat) (kvs : List (WVal × WVal)) (r : Bytes), i ≤ bs.length →
      decPairsWith dk dv n (bs.drop i) = some (kvs, r) → SkipsTo (Gopkg.mapLoop ke ve n i bs) bs r := by
  intro n
  induction n with
  | zero =>
    intro bs i kvs r hi hdec
    simp only [decPairsWith] at hdec
    cases hdec
    exact ⟨i, rfl, hi, rfl⟩
  | succ n ih =>
    intro bs i kvs r hi hdec
    obtain ⟨x, r1, y, r2, kvs', hdk, hdv, hrec, _⟩ := decPairsWith_succ hdec
    obtain ⟨n1, k1, hk1, hle1, rfl⟩ := hk.step hi hdk
    obtain ⟨n2, k2, hk2, hle2, rfl⟩ := hv.step hle1 hdv
    simp only [Gopkg.mapLoop, if_neg n1, hk1, bind, if_neg n2, hk2]
    exact ih bs (i + k1 + k2) kvs' r hle2 hrec

theorem listLoop_const (s : Nat) (n i : Nat) (bs : Bytes) : ∀ (k : Nat),
    Gopkg.listLoop (fun _ => .ok s) n i bs = .ok k → k = i + n * s := by
  fun_induction Gopkg.listLoop (fun _ => .ok s) n i bs
  -- cases of listLoop: count 0; past the end; one element
  case case1 =>
    intro k h
    cases h
    omega
  case case2 => nofun
  case case3 ih =>
    intro k h
    rw [ih s k h, Nat.succ_mul]
    omega

theorem mapLoop_const (a b : Nat) (n i : Nat) (bs : Bytes) : ∀ (k : Nat),
    Gopkg.mapLoop (fun _ => .ok a) (fun _ => .ok b) n i bs = .ok k → k = i + n * (a + b) := by
  fun_induction Gopkg.mapLoop (fun _ => .ok a) (fun _ => .ok b) n i bs
  -- cases of mapLoop: count 0; past the end before the key; one pair
  case case1 =>
    intro k h
    cases h
    omega
  case case2 => nofun
  case case3 ih =>
    intro k h
    simp only [bind] at h
    split at h
    · cases h
    · rw [ih a b k h, Nat.succ_mul]
      omega

theorem skipElem_fixed (rec : Nat → Bytes → FRes Nat) {sz : Nat} (hz : 0 < sz) (t : Nat) :
    Gopkg.skipElem rec sz t = fun _ => .ok sz := funext fun _ => if_pos hz

theorem skipType_fixed (d : Nat) (t : TType) (bs : Bytes) (hz : 0 < tsize t) :
    Gopkg.skipType (d + 1) t.code bs = if tsize t > bs.length then .err else .ok (tsize t) := by
  unfold Gopkg.skipType
  rw [typeToSize_code]
  simp only [bind, hz, if_true]

theorem skipType_str (d : Nat) (bs : Bytes) : Gopkg.skipType (d + 1) 11 bs = FRes.ofOption (Gopkg.skipstr bs) := rfl

theorem skipElem_of {d : Nat} {t : TType} (h : Tracks (Gopkg.skipType d t.code) (decW d t)) :
    Tracks (Gopkg.skipElem (Gopkg.skipType d) (tsize t) t.code) (decW d t) := by
  intro bs x r hdec
  obtain ⟨hne, h⟩ := h bs x r hdec
  refine ⟨hne, ?_⟩
  fun_cases Gopkg.skipElem (Gopkg.skipType d) (tsize t) t.code bs
  -- cases of skipElem: fixed size; string; anything else
  case case1 hz =>
    -- the code does not test the length here; the decoder took exactly these bytes
    obtain ⟨hle, hr⟩ := decW_fixed d t hz bs x r hdec
    exact ⟨_, rfl, hle, hr.symm⟩
  case case2 h11 =>
    obtain ⟨d, rfl⟩ := Nat.exists_eq_succ_of_ne_zero (Nat.ne_of_gt (decW_fuel_pos d t bs x r hdec))
    rw [h11, skipType_str] at h
    exact h
  case case3 => exact h

theorem structLoop_of {d : Nat} (ih : ∀ t, Tracks (Gopkg.skipType d t.code) (decW d t))
    (g : Nat) (bs : Bytes) (i : Nat) (fs : List (Nat × WVal)) (r : Bytes) : i ≤ bs.length →
      decFieldsWith (decW d) g (bs.drop i) = some (fs, r) → SkipsTo (Gopkg.structLoop (Gopkg.skipType d) g i bs) bs r := by
  generalize hb : bs.drop i = b
  fun_induction decFieldsWith (decW d) g b generalizing i fs
  -- cases of decFieldsWith as in `Wire.decFieldsWith_append`
  case case3 =>
    intro hi hdec
    cases hdec
    obtain ⟨hlt, hget, rfl⟩ := drop_cons_getD hb
    exact ⟨i + 1, by simp only [Gopkg.structLoop, Nat.not_le_of_gt hlt, if_false, hget, if_true], hlt, rfl⟩
  case case8 g c rest hc t ht id r1 hr v r2 hv fs' _ hrec ihg =>
    intro hi hdec
    cases hdec
    obtain ⟨hlt, hget, rfl⟩ := drop_cons_getD hb
    obtain rfl := TType.code_of_ofCode ht
    obtain ⟨h2le, _, rfl⟩ := readN_some hr
    rw [List.length_drop] at h2le
    rw [List.drop_drop] at hv
    obtain ⟨n3, k1, hk1, hle1, rfl⟩ := (skipElem_of (ih t)).step (by omega) hv
    simp only [Gopkg.structLoop, Nat.not_le_of_gt hlt, if_false, hget, hc, n3, typeToSize_code, bind, hk1]
    exact ihg _ _ rfl hle1 hrec
  all_goals exact fun _ h => nomatch h

theorem count_at (k : Nat) {bs r' : Bytes} {n : Nat} (h : readN 4 (bs.drop k) = some (n, r')) :
    k + 4 ≤ bs.length ∧ Gopkg.u32 (bs.drop k) = n ∧ bs.drop (k + 4) = r' := by
  obtain ⟨hle, hn, hr⟩ := readN_some h
  rw [List.length_drop] at hle
  rw [List.drop_drop] at hr
  exact ⟨by omega, hn.symm, hr.symm⟩

theorem skip_list_case {d : Nat} (ih : ∀ t, Tracks (Gopkg.skipType d t.code) (decW d t))
    (code : Nat) (hcode : code = 14 ∨ code = 15) (ec : Nat) (r0 : Bytes) (et : TType) (het : TType.ofCode ec = some et)
    (n : Nat) (r' : Bytes) (h4 : readN 4 r0 = some (n, r')) (hn : ¬ n ≥ maxSize) (xs : List WVal) (r : Bytes)
    (hl : decListWith (decW d et) n r' = some (xs, r)) :
    SkipsTo (Gopkg.skipType (d + 1) code (ec :: r0)) (ec :: r0) r := by
  obtain rfl := TType.code_of_ofCode het
  obtain ⟨hlen, hu, hd5⟩ := count_at 1 (bs := et.code :: r0) h4
  have hts : Gopkg.typeToSize code = .ok 0 := by rcases hcode with h | h <;> subst h <;> rfl
  have c1 : ¬ code = 11 := by rcases hcode with rfl | rfl <;> decide
  have c2 : ¬ code = 13 := by rcases hcode with rfl | rfl <;> decide
  have hloop := listLoop_of (skipElem_of (ih et)) n (et.code :: r0) 5 xs r hlen (by rw [hd5]; exact hl)
  unfold Gopkg.skipType
  rw [hts]
  simp only [bind, Nat.lt_irrefl, if_false, c1, c2, hcode, if_true, Nat.not_lt_of_ge hlen, List.getD_cons_zero, hu, hn,
    typeToSize_code]
  by_cases hz : 0 < tsize et
  · -- the fast path answers what the loop answers on elements of a fixed size
    rw [skipElem_fixed _ hz] at hloop
    obtain ⟨k, hk, hle, hdr⟩ := hloop
    obtain rfl := listLoop_const _ _ _ _ _ hk
    rw [if_pos hz, if_neg (Nat.not_lt_of_ge hle)]
    exact ⟨_, rfl, hle, hdr⟩
  · rw [if_neg hz]
    exact hloop

theorem skip_map_case {d : Nat} (ih : ∀ t, Tracks (Gopkg.skipType d t.code) (decW d t))
    (kc vc : Nat) (r0 : Bytes) (kt vt : TType) (hkt : TType.ofCode kc = some kt) (hvt : TType.ofCode vc = some vt)
    (n : Nat) (r' : Bytes) (h4 : readN 4 r0 = some (n, r')) (hn : ¬ n ≥ maxSize) (kvs : List (WVal × WVal)) (r : Bytes)
    (hl : decPairsWith (decW d kt) (decW d vt) n r' = some (kvs, r)) :
    SkipsTo (Gopkg.skipType (d + 1) 13 (kc :: vc :: r0)) (kc :: vc :: r0) r := by
  obtain rfl := TType.code_of_ofCode hkt
  obtain rfl := TType.code_of_ofCode hvt
  obtain ⟨hlen, hu, hd6⟩ := count_at 2 (bs := kt.code :: vt.code :: r0) h4
  have hts : Gopkg.typeToSize 13 = .ok 0 := rfl
  have hloop := mapLoop_of (skipElem_of (ih kt)) (skipElem_of (ih vt)) n (kt.code :: vt.code :: r0) 6 kvs r hlen (by rw [hd6]; exact hl)
  unfold Gopkg.skipType
  rw [hts]
  simp only [bind, Nat.lt_irrefl, if_false, if_true, Nat.not_lt_of_ge hlen, List.getD_cons_zero, List.getD_cons_succ, hu, hn,
    show ¬ (13 : Nat) = 11 by decide, typeToSize_code]
  by_cases hz : (decide (0 < tsize kt) && decide (0 < tsize vt)) = true
  · rw [if_pos hz]
    rw [Bool.and_eq_true, decide_eq_true_iff, decide_eq_true_iff] at hz
    rw [skipElem_fixed _ hz.1, skipElem_fixed _ hz.2] at hloop
    obtain ⟨k, hk, hle, hdr⟩ := hloop
    obtain rfl := mapLoop_const _ _ _ _ _ _ hk
    rw [if_neg (Nat.not_lt_of_ge hle)]
    exact ⟨_, rfl, hle, hdr⟩
  · rw [if_neg hz]
    exact hloop

theorem skipType_refines : ∀ d t, Tracks (Gopkg.skipType d t.code) (decW d t) := by
  intro d
  induction d with
  | zero => intro t bs w r h; simp [decW] at h
  | succ d ih =>
    intro t bs w r h
    refine ⟨decW_ne_nil _ t bs w r h, ?_⟩
    by_cases hz : 0 < tsize t
    · obtain ⟨hle, hr⟩ := decW_fixed (d + 1) t hz bs w r h
      exact ⟨tsize t, by rw [skipType_fixed d t bs hz, if_neg (Nat.not_lt_of_ge hle)], hle, hr.symm⟩
    · cases t <;> simp [tsize, fixW] at hz
      case str =>
        obtain ⟨n, r1, b, h4, hn, hb, -⟩ := decW_str_some h
        obtain ⟨h4le, hu, rfl⟩ := readN_some h4
        obtain ⟨hnle, _, hr'⟩ := readBytes_some hb
        rw [List.length_drop] at hnle
        rw [List.drop_drop] at hr'
        have h2 : 4 + n ≤ bs.length := by omega
        refine ⟨4 + n, ?_, h2, hr'.symm⟩
        rw [show TType.str.code = 11 from rfl, skipType_str]
        unfold Gopkg.skipstr Gopkg.u32
        rw [if_pos h4le, ← hu]
        simp only [if_neg hn, if_pos h2]
        rfl
      case struct =>
        obtain ⟨fs, hf, -⟩ := decW_struct_some h
        exact structLoop_of ih (bs.length + 1) bs 0 fs r (Nat.zero_le _) hf
      case map =>
        obtain ⟨kc, vc, r0, kt, vt, n, r', kvs, rfl, hkt, hvt, h4, hn, hl, -⟩ := decW_map_some h
        exact skip_map_case ih kc vc r0 kt vt hkt hvt n r' h4 hn kvs r hl
      case set | list =>
        obtain ⟨ec, r0, et, n, r', xs, rfl, het, h4, hn, hl, -⟩ := decW_seq_some (by decide) h
        exact skip_list_case ih _ (by decide) ec r0 et het n r' h4 hn xs r hl

namespace Gopkg

/-- `typeToSize[uint8(t)]`: no negative index; bytes ≥ 0x80 have size 0 and end in "unknown data type" -/
def typeToSizeF (t : Nat) : Nat :=
  if t = 2 ∨ t = 3 then 1 else if t = 6 then 2 else if t = 8 then 4 else if t = 4 ∨ t = 10 then 8 else 0

def structLoopF (rec : Nat → Bytes → FRes Nat) : Nat → Nat → Bytes → FRes Nat
  | 0, _, _ => .err
  | g+1, i, bs =>
    if i ≥ bs.length then .err else
    let ft := bs.getD i 0
    let i := i + 1
    if ft = 0 then .ok i else
    let i := i + 2
    if i ≥ bs.length then .err else do
    let fi ← skipElem rec (typeToSizeF ft) ft (bs.drop i)
    structLoopF rec g (i + fi) bs

/-- `skipType` with (a) `typeToSize[uint8(t)]` and (b) `if p+i > e { return errBufferTooShort }` before the
`return i, nil` of the MAP loop -/
def skipTypeF : Nat → Nat → Bytes → FRes Nat
  | 0, _, _ => .err
  | d+1, t, bs =>
    let n := typeToSizeF t
    if 0 < n then (if n > bs.length then .err else .ok n)
    else if t = 11 then FRes.ofOption (skipstr bs)
    else if t = 13 then
      if 6 > bs.length then .err else
      let kt := bs.getD 0 0
      let vt := bs.getD 1 0
      let sz := u32 (bs.drop 2)
      if sz ≥ maxSize then .err else
      let ksz := typeToSizeF kt
      let vsz := typeToSizeF vt
      if 0 < ksz && 0 < vsz then
        (if 6 + sz * (ksz + vsz) > bs.length then .err else .ok (6 + sz * (ksz + vsz)))
      else do
        let i ← mapLoop (skipElem (skipTypeF d) ksz kt) (skipElem (skipTypeF d) vsz vt) sz 6 bs
        if i > bs.length then .err else .ok i
    else if t = 14 ∨ t = 15 then
      if 5 > bs.length then .err else
      let vt := bs.getD 0 0
      let sz := u32 (bs.drop 1)
      if sz ≥ maxSize then .err else
      let vsz := typeToSizeF vt
      if 0 < vsz then (if 5 + sz * vsz > bs.length then .err else .ok (5 + sz * vsz))
      else listLoop (skipElem (skipTypeF d) vsz vt) sz 5 bs
    else if t = 12 then structLoopF (skipTypeF d) (bs.length + 1) 0 bs
    else .err

def skipF (t : Nat) (bs : Bytes) : FRes Nat :=
  if bs.length = 0 then .err else skipTypeF 64 t bs

end Gopkg

theorem skipstr_bounded (bs : Bytes) : Bounded (FRes.ofOption (Gopkg.skipstr bs)) bs := by
  fun_cases Gopkg.skipstr bs
  -- cases of skipstr: negative length; the string fits; it does not; no length
  case case2 hle => exact hle
  all_goals trivial

theorem listLoop_bounded (elem : Bytes → FRes Nat) (he : ∀ bs, Bounded (elem bs) bs) (n i : Nat) (bs : Bytes) :
    i ≤ bs.length → Bounded (Gopkg.listLoop elem n i bs) bs := by
  fun_induction Gopkg.listLoop elem n i bs
  case case1 => exact id
  case case2 => exact fun _ => trivial
  case case3 n i bs _ ih =>
    refine fun hi => Bounded.bind (he _).noPanic fun k hk => ih k ?_
    have := (he _).le hk
    rw [List.length_drop] at this
    omega

theorem mapLoop_np (ke ve : Bytes → FRes Nat) (hk : ∀ bs, NoPanic (ke bs)) (hv : ∀ bs, NoPanic (ve bs)) (n i : Nat) (bs : Bytes) :
    NoPanic (Gopkg.mapLoop ke ve n i bs) := by
  fun_induction Gopkg.mapLoop ke ve n i bs
  case case3 ih =>
    exact NoPanic.bind _ _ (hk _) fun a _ => NoPanic.ite (fun _ => trivial) fun _ => NoPanic.bind _ _ (hv _) fun b _ => ih a b
  all_goals trivial

theorem skipElem_np (rec : Nat → Bytes → FRes Nat) (hr : ∀ t bs, NoPanic (rec t bs)) (sz t : Nat) (bs : Bytes) :
    NoPanic (Gopkg.skipElem rec sz t bs) := by
  fun_cases Gopkg.skipElem rec sz t bs
  · trivial
  · exact (skipstr_bounded bs).noPanic
  · exact hr t bs

theorem skipElem_bounded (rec : Nat → Bytes → FRes Nat) (hr : ∀ t bs, Bounded (rec t bs) bs) {sz : Nat} (hz : ¬ 0 < sz)
    (t : Nat) (bs : Bytes) : Bounded (Gopkg.skipElem rec sz t bs) bs := by
  unfold Gopkg.skipElem
  exact Bounded.ite (fun h => absurd h hz) fun _ => Bounded.ite (fun _ => skipstr_bounded bs) fun _ => hr t bs

/-- the STRUCT loop adds unchecked element sizes to `i`, but compares `i` with the end of the buffer before every
read and before answering -/
theorem structLoopF_bounded (rec : Nat → Bytes → FRes Nat) (hr : ∀ t bs, NoPanic (rec t bs)) (g i : Nat) (bs : Bytes) :
    Bounded (Gopkg.structLoopF rec g i bs) bs := by
  fun_induction Gopkg.structLoopF rec g i bs
  -- cases of structLoopF: no gas; past the end; STOP; past the end after the header; one field
  case case3 hi _ _ _ => exact Nat.lt_of_not_le hi
  case case5 ih => exact Bounded.bind (skipElem_np rec hr _ _ _) fun _ _ => ih _
  all_goals trivial

theorem skipTypeF_bounded : ∀ (d t : Nat) (bs : Bytes), Bounded (Gopkg.skipTypeF d t bs) bs := by
  intro d
  induction d with
  | zero => intro t bs; trivial
  | succ d ih =>
    intro t bs
    have ihn : ∀ t bs, NoPanic (Gopkg.skipTypeF d t bs) := fun t bs => (ih t bs).noPanic
    generalize hd : d + 1 = d'
    fun_cases Gopkg.skipTypeF d' t bs
    case case1 => cases hd
    all_goals obtain rfl := Nat.succ.inj hd
    -- cases of skipTypeF (d + 1): fixed size, 2 too short, 3 answered; 4 string; MAP: 5 no header, 6 negative count,
    -- 7 and 8 the fast path, 9 the loop; LIST, SET: 10 no header, 11 negative count, 12 and 13 the fast path, 14 the loop;
    -- 15 STRUCT; 16 unknown type
    case case3 h | case8 h | case13 h => exact Nat.le_of_not_gt h
    case case4 => exact skipstr_bounded bs
    case case9 =>
      exact Bounded.bind (mapLoop_np _ _ (skipElem_np _ ihn _ _) (skipElem_np _ ihn _ _) _ _ _) fun i _ => Bounded.checked i bs
    case case14 hlen _ _ _ _ hz => exact listLoop_bounded _ (skipElem_bounded _ ih hz _) _ 5 bs (Nat.le_of_not_gt hlen)
    case case15 => exact structLoopF_bounded _ ihn _ 0 bs
    all_goals trivial

theorem skipF_bounded : SkipBounded Gopkg.skipF := by
  intro t bs
  show Bounded (Gopkg.skipF t bs) bs
  unfold Gopkg.skipF
  exact Bounded.ite (fun _ => trivial) fun _ => skipTypeF_bounded 64 t bs

theorem guardedSkip_bounded (n : Bool) : SkipBounded (guardedSkip n true true) := by
  intro t bs
  show Bounded (guardedSkip n true true t bs) bs
  unfold guardedSkip
  refine Bounded.ite (fun _ => trivial) fun _ => ?_
  cases Gopkg.skip t bs with
  | panic w => trivial
  | err => trivial
  | ok l => exact Bounded.ite (fun _ => trivial) fun h => show l ≤ bs.length by simpa using h

theorem guardedSkip_none : guardedSkip false false false = Gopkg.skip := by
  funext t bs
  unfold guardedSkip
  cases Gopkg.skip t bs <;> simp

end Gen.Fast
