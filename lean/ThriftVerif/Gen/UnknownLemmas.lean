import ThriftVerif.Gen.Unknown
import ThriftVerif.Gen.StdLemmas
/-
  Gen/UnknownLemmas: `unknown.read` (model `rd`) against the strict untyped decoder of Core/Wire: wherever `decW` succeeds
  at some fuel, `rd f t.code` consumes the same bytes, reports no error and appends `encW` of the decoded value, for every
  protocol scratch state, provided the value nests no deeper than `f`, and reports an error otherwise (`Sim`, `rd_sim`).
-/
namespace Gen.Unknown
open Wire Gen

theorem cons_of_readN_one {bs : Bytes} {x : Nat} {r : Bytes} (h : readN 1 bs = some (x, r)) : bs = x :: r := by
  obtain ⟨hl, hx, hr⟩ := readN_some h
  cases bs with
  | nil => simp at hl
  | cons b bs' => simp [hx, hr, unbe]

theorem rFix_of_readN {n : Nat} {bs s : Bytes} {x : Nat} {r : Bytes} (h : readN n bs = some (x, r)) :
    rFix n ⟨bs, s⟩ = (x, ⟨r, bs.take n ++ s.drop n⟩, false) := by
  obtain ⟨hl, hx, hr⟩ := readN_some h
  have hk : min n bs.length = n := Nat.min_eq_left hl
  have ht : (bs.take n ++ s.drop n).take n = bs.take n := by
    rw [List.take_append_of_le_length (by simp [hk])]
    simp [List.take_take]
  simp only [rFix, hk, ht, hx, hr]
  simp; omega

theorem rd_bool (f b : Nat) (r s out : Bytes) :
    rd (f + 1) 2 ⟨b :: r, s⟩ out = ⟨⟨r, s⟩, out ++ [if b = 1 then 1 else 0], false⟩ := rfl

/-- i8, double, i16, i32, i64: `n` bytes, the wider ones through the scratch buffer -/
theorem rd_fix {t n : Nat} (h : (t, n) ∈ [(3, 1), (4, 8), (6, 2), (8, 4), (10, 8)]) (f : Nat) {bs : Bytes} {x : Nat} {r : Bytes}
    (hr : readN n bs = some (x, r)) (s out : Bytes) :
    ∃ s', rd (f + 1) t ⟨bs, s⟩ out = ⟨⟨r, s'⟩, out ++ be n x, false⟩ := by
  have e1 := rFix_of_readN (s := s) hr
  simp only [List.mem_cons, Prod.mk.injEq, List.not_mem_nil, or_false] at h
  rcases h with ⟨rfl, rfl⟩ | ⟨rfl, rfl⟩ | ⟨rfl, rfl⟩ | ⟨rfl, rfl⟩ | ⟨rfl, rfl⟩
  · cases cons_of_readN_one hr
    exact ⟨s, rfl⟩
  all_goals
    apply Exists.intro
    simp only [rd, e1, Nat.reduceEqDiff, if_false, if_true, Bool.false_eq_true]
    rfl

theorem rd_str (f : Nat) {bs : Bytes} {n : Nat} {r b r' : Bytes} (h1 : readN 4 bs = some (n, r)) (h2 : n < maxSize)
    (h3 : readBytes n r = some (b, r')) (s out : Bytes) :
    ∃ s', rd (f + 1) 11 ⟨bs, s⟩ out = ⟨⟨r', s'⟩, out ++ (be 4 b.length ++ b), false⟩ := by
  have e1 := rFix_of_readN (s := s) h1
  revert h3
  fun_cases readBytes n r
  case case1 => nofun
  case case2 hl =>
    intro h3
    cases h3
    have hl' : n ≤ r.length := Nat.le_of_not_lt hl
    exact ⟨_, by
      simp only [rd, rStr, e1, (size_ok h2).2, hl', Nat.reduceEqDiff, if_false, if_true, Bool.false_eq_true,
        List.length_take, Nat.min_eq_left hl', List.append_assoc]
      rfl⟩

theorem rd_list (f t ec n : Nat) (r0 r1 s out : Bytes) (ht : t = 14 ∨ t = 15)
    (h : readN 4 r0 = some (n, r1)) (hn : n < maxSize) :
    rd (f + 1) t ⟨ec :: r0, s⟩ out = listWith (rd f ec) n ⟨r1, r0.take 4 ++ s.drop 4⟩ (out ++ [ec] ++ be 4 n) := by
  have e1 := rFix_of_readN (s := s) h
  rcases ht with rfl | rfl <;>
    simp only [rd, rListBegin, rByte, e1, (size_ok hn).2, if_false, Bool.false_eq_true, Nat.reduceEqDiff, true_or,
      or_true, if_true]

theorem rd_map (f kc vc n : Nat) (r0 r1 s out : Bytes) (h : readN 4 r0 = some (n, r1)) (hn : n < maxSize) :
    rd (f + 1) 13 ⟨kc :: vc :: r0, s⟩ out =
      pairsWith (rd f kc) (rd f vc) n ⟨r1, r0.take 4 ++ s.drop 4⟩ (out ++ [kc, vc] ++ be 4 n) := by
  simp only [rd, rMapBegin, rByte, rFix_of_readN (s := s) h, (size_ok hn).2, if_false, Bool.false_eq_true,
    Nat.reduceEqDiff, or_self, if_true]

theorem rd_struct (f : Nat) (st : St) (out : Bytes) :
    rd (f + 1) 12 st out = fieldsWith (rd f) (st.inp.length + 1) st out := rfl

def Agrees (f : Nat) : Prop :=
  ∀ (t : TType) (bs : Bytes) (w : WVal) (r : Bytes), decW f t bs = some (w, r) →
    ∀ (s out : Bytes), ∃ s', rd f t.code ⟨bs, s⟩ out = ⟨⟨r, s'⟩, out ++ encW w, false⟩

theorem err_of_err {d : R} {k : St → Bytes → R} (h : d.err = true) :
    (match d with
      | ⟨st', out', true⟩ => (⟨st', out', true⟩ : R)
      | ⟨st', out', false⟩ => k st' out').err = true := by
  obtain ⟨_, _, e⟩ := d
  cases h
  rfl

/-- `run f` is a reader with nesting budget `f`; `bs` are bytes that the strict decoder, at fuel `f'`, turns into a value of
depth `dep` with canonical encoding `enc`, leaving `r` -/
structure Sim (f' : Nat) (run : Nat → St → Bytes → R) (bs r enc : Bytes) (dep : Nat) : Prop where
  le : dep ≤ f'
  ok : ∀ f s out, dep ≤ f → ∃ s', run f ⟨bs, s⟩ out = ⟨⟨r, s'⟩, out ++ enc, false⟩
  deep : ∀ f s out, f < dep → (run f ⟨bs, s⟩ out).err = true

section
variable {f' : Nat} {run run' e k : Nat → St → Bytes → R} {bs r1 r enc enc1 enc2 hdr : Bytes} {dep d1 d2 : Nat}

theorem Sim.seq (h1 : Sim f' e bs r1 enc1 d1) (h2 : Sim f' k r1 r enc2 d2)
    (hrun : ∀ f st out, run f st out = match e f st out with
      | ⟨st', out', true⟩ => ⟨st', out', true⟩
      | ⟨st', out', false⟩ => k f st' out') :
    Sim f' run bs r (enc1 ++ enc2) (max d1 d2) where
  le := Nat.max_le.2 ⟨h1.le, h2.le⟩
  ok f s out hd := by
    obtain ⟨s1, e1⟩ := h1.ok f s out (by omega)
    obtain ⟨s2, e2⟩ := h2.ok f s1 (out ++ enc1) (by omega)
    exact ⟨s2, by rw [hrun, e1, ← List.append_assoc]; exact e2⟩
  deep f s out hd := by
    rw [hrun]
    by_cases hx : f < d1
    · exact err_of_err (h1.deep f s out hx)
    · obtain ⟨s1, e1⟩ := h1.ok f s out (by omega)
      rw [e1]
      exact h2.deep f s1 _ (by omega)

theorem Sim.header (σ : Bytes → Bytes) (h : Sim f' run' r1 r enc dep)
    (hrun : ∀ f s out, run f ⟨bs, s⟩ out = run' f ⟨r1, σ s⟩ (out ++ hdr)) : Sim f' run bs r (hdr ++ enc) dep where
  le := h.le
  ok f s out hd := by
    obtain ⟨s', e⟩ := h.ok f (σ s) (out ++ hdr) hd
    exact ⟨s', by rw [hrun, e, List.append_assoc]⟩
  deep f s out hd := by rw [hrun]; exact h.deep f _ _ hd

theorem Sim.level (h : Sim f' run' bs r enc dep) (h0 : ∀ st out, (run 0 st out).err = true)
    (hrun : ∀ f s out, run (f + 1) ⟨bs, s⟩ out = run' f ⟨bs, s⟩ out) : Sim (f' + 1) run bs r enc (dep + 1) where
  le := Nat.succ_le_succ h.le
  ok f s out hd := by
    obtain ⟨g, rfl⟩ : ∃ g, f = g + 1 := ⟨f - 1, by omega⟩
    rw [hrun]; exact h.ok g s out (by omega)
  deep f s out hd := by
    cases f with
    | zero => exact h0 _ _
    | succ g => rw [hrun]; exact h.deep g s out (by omega)

theorem Sim.leaf (h0 : ∀ st out, (run 0 st out).err = true)
    (h : ∀ f s out, ∃ s', run (f + 1) ⟨bs, s⟩ out = ⟨⟨r, s'⟩, out ++ enc, false⟩) : Sim (f' + 1) run bs r enc 1 where
  le := Nat.succ_le_succ (Nat.zero_le _)
  ok f s out hd := by
    obtain ⟨g, rfl⟩ : ∃ g, f = g + 1 := ⟨f - 1, by omega⟩
    exact h g s out
  deep f s out hd := by
    obtain rfl : f = 0 := by omega
    exact h0 _ _

theorem listWith_sim (d : Bytes → Option (WVal × Bytes)) (e : Nat → St → Bytes → R)
    (h : ∀ bs w r, d bs = some (w, r) → Sim f' e bs r (encW w) w.depth)
    (n : Nat) (bs : Bytes) (xs : List WVal) (r : Bytes) (hd : decListWith d n bs = some (xs, r)) :
    xs.length = n ∧ Sim f' (fun f => listWith (e f) n) bs r (encList xs) (depthList xs) := by
  -- cases of decListWith: count 0; element fails; rest fails; element and rest decoded
  fun_induction decListWith d n bs generalizing xs r with
  | case1 bs =>
    cases hd
    exact ⟨rfl, ⟨Nat.zero_le _, fun f s out _ => ⟨s, by simp [listWith, encList]⟩, fun f s out hd => by simp [depthList] at hd⟩⟩
  | case2 | case3 => cases hd
  | case4 n bs x r1 h1 ys r2 h2 ih =>
    cases hd
    obtain ⟨hl, hrest⟩ := ih ys r2 h2
    rw [encList, depthList]
    exact ⟨congrArg (· + 1) hl, (h bs x r1 h1).seq hrest fun _ _ _ => rfl⟩

theorem pairsWith_sim (dk dv : Bytes → Option (WVal × Bytes)) (ek ev : Nat → St → Bytes → R)
    (hk : ∀ bs w r, dk bs = some (w, r) → Sim f' ek bs r (encW w) w.depth)
    (hv : ∀ bs w r, dv bs = some (w, r) → Sim f' ev bs r (encW w) w.depth)
    (n : Nat) (bs : Bytes) (xs : List (WVal × WVal)) (r : Bytes) (hd : decPairsWith dk dv n bs = some (xs, r)) :
    xs.length = n ∧ Sim f' (fun f => pairsWith (ek f) (ev f) n) bs r (encPairs xs) (depthPairs xs) := by
  -- cases of decPairsWith: count 0; key fails; value fails; rest fails; pair and rest decoded
  fun_induction decPairsWith dk dv n bs generalizing xs r with
  | case1 bs =>
    cases hd
    exact ⟨rfl, ⟨Nat.zero_le _, fun f s out _ => ⟨s, by simp [pairsWith, encPairs]⟩, fun f s out hd => by simp [depthPairs] at hd⟩⟩
  | case2 | case3 | case4 => cases hd
  | case5 n bs k r1 h1 v r1' h1' ys r2 h2 ih =>
    cases hd
    obtain ⟨hl, hrest⟩ := ih ys r2 h2
    rw [encPairs, depthPairs, List.append_assoc, Nat.max_assoc]
    exact ⟨congrArg (· + 1) hl, (hk bs k r1 h1).seq ((hv r1 v r1' h1').seq hrest fun _ _ _ => rfl) fun _ _ _ => rfl⟩

theorem fieldsWith_sim (d : TType → Bytes → Option (WVal × Bytes)) (e : Nat → Nat → St → Bytes → R)
    (h : ∀ t bs w r, d t bs = some (w, r) → w.ttype = t ∧ Sim f' (fun f => e f t.code) bs r (encW w) w.depth)
    (g : Nat) (bs : Bytes) (fs : List (Nat × WVal)) (r : Bytes) (hd : decFieldsWith d g bs = some (fs, r)) :
    Sim f' (fun f => fieldsWith (e f) g) bs r (encFields fs ++ [0]) (depthFields fs) := by
  -- cases of decFieldsWith: no gas; no input; STOP; no such type; no id; value fails; rest fails; field and rest decoded
  fun_induction decFieldsWith d g bs generalizing fs r with
  | case1 | case2 | case4 | case5 | case6 | case7 => cases hd
  | case3 g bs =>
    cases hd
    exact ⟨Nat.zero_le _, fun f s out _ => ⟨s, by simp [fieldsWith, rByte, encFields]⟩,
      fun f s out hd => by simp [depthFields] at hd⟩
  | case8 g c bs hc t ht id r1 hi v r2 hv fs' r3 hrest ih =>
    cases hd
    obtain ⟨htt, hv'⟩ := h t r1 v r2 hv
    have hcode : t.code = c := TType.code_of_ofCode ht
    have := ((hv'.seq (ih fs' r3 hrest) fun _ _ _ => rfl).header (hdr := [c] ++ be 2 id)
      (run := fun f => fieldsWith (e f) (g + 1)) (bs := c :: bs) (fun s => bs.take 2 ++ s.drop 2) fun f s out => by
        simp only [fieldsWith, rByte, hc, if_false, Bool.false_eq_true, rFix_of_readN hi, hcode, List.append_assoc]
        rfl)
    simpa [encFields, depthFields, htt, hcode] using this

end

theorem rd_sim : ∀ (f' : Nat) (t : TType) (bs : Bytes) (w : WVal) (r : Bytes), decW f' t bs = some (w, r) →
    w.ttype = t ∧ Sim f' (fun f => rd f t.code) bs r (encW w) w.depth := by
  intro f'
  induction f' with
  | zero => intro t bs w r h; simp [decW] at h
  | succ f' ih =>
    intro t bs w r h
    have h0 : ∀ c st out, (rd 0 c st out).err = true := fun _ _ _ => rfl
    cases t with
    | bool =>
      obtain ⟨x, h1, rfl⟩ := decW_fix_some rfl h
      cases cons_of_readN_one h1
      refine ⟨rfl, .leaf (h0 _) fun f s out => ⟨s, ?_⟩⟩
      rw [show TType.bool.code = 2 from rfl, rd_bool]
      by_cases hb : x = 1 <;> simp [hb, encW]
    | i8 | dbl | i16 | i32 | i64 =>
      obtain ⟨x, h1, rfl⟩ := decW_fix_some rfl h
      exact ⟨rfl, .leaf (h0 _) fun f s out => rd_fix (by decide) f h1 s out⟩
    | str =>
      obtain ⟨n, r1, b, h1, hn, h2, rfl⟩ := decW_str_some h
      exact ⟨rfl, .leaf (h0 _) fun f s out => rd_str f h1 (by omega) h2 s out⟩
    | struct =>
      obtain ⟨fs, h1, rfl⟩ := decW_struct_some h
      exact ⟨rfl, (fieldsWith_sim (decW f') rd ih (bs.length + 1) bs fs _ h1).level (h0 _) fun _ _ _ => rfl⟩
    | set | list =>
      obtain ⟨ec, r0, et, n, r1, xs, rfl, ht, h1, hn, h2, rfl⟩ := decW_seq_some (by decide) h
      obtain ⟨rfl, hxs⟩ := listWith_sim (decW f' et) (fun f => rd f et.code) (fun bs w r h => (ih et bs w r h).2) n r1 xs _ h2
      cases TType.code_of_ofCode ht
      refine ⟨rfl, ?_⟩
      simp only [reduceCtorEq, ↓reduceIte, encW, WVal.depth]
      exact (hxs.header (run := fun f => rd (f + 1) _) (fun s => r0.take 4 ++ s.drop 4) fun f s out =>
        (rd_list f _ _ _ r0 r1 s out (by decide) h1 (by omega)).trans (by rw [List.append_assoc])).level (h0 _)
          fun _ _ _ => rfl
    | map =>
      obtain ⟨kc, vc, r0, kt, vt, n, r1, xs, rfl, hkt, hvt, h1, hn, h2, rfl⟩ := decW_map_some h
      obtain ⟨rfl, hxs⟩ := pairsWith_sim (decW f' kt) (decW f' vt) (fun f => rd f kt.code) (fun f => rd f vt.code)
        (fun bs w r h => (ih kt bs w r h).2) (fun bs w r h => (ih vt bs w r h).2) n r1 xs _ h2
      cases TType.code_of_ofCode hkt
      cases TType.code_of_ofCode hvt
      refine ⟨rfl, ?_⟩
      simp only [encW, WVal.depth]
      exact (hxs.header (run := fun f => rd (f + 1) 13) (fun s => r0.take 4 ++ s.drop 4) fun f s out =>
        (rd_map f _ _ _ r0 r1 s out h1 (by omega)).trans (by rw [List.append_assoc])).level (h0 _) fun _ _ _ => rfl

theorem decW_ttype (f : Nat) (t : TType) (bs : Bytes) (w : WVal) (r : Bytes) (h : decW f t bs = some (w, r)) :
    w.ttype = t :=
  (rd_sim f t bs w r h).1

theorem agrees : ∀ f, Agrees f :=
  fun f t bs w r h s out => (rd_sim f t bs w r h).2.ok f s out (rd_sim f t bs w r h).2.le

theorem append_of_dec (acc : Fields) (t : TType) (id : Nat) (bs s : Bytes) (w : WVal) (r : Bytes)
    (h : decW 64 t bs = some (w, r)) :
    ∃ s', append acc t.code id ⟨bs, s⟩ = ⟨⟨r, s'⟩, acc ++ [t.code] ++ be 2 id ++ encW w, false⟩ := by
  rw [append, Nat.mod_eq_of_lt (TType.code_lt t)]
  exact agrees 64 t bs w r h s _

theorem appendB_of_dec (acc : Fields) (t : TType) (id : Nat) (bs : Bytes) (w : WVal) (r : Bytes)
    (h : decW 64 t bs = some (w, r)) :
    appendB acc t.code id bs = some (acc ++ [t.code] ++ be 2 id ++ encW w, r) := by
  obtain ⟨s', e⟩ := append_of_dec acc t id bs (zeros 64) w r h
  simp only [appendB, St.fresh, e]

theorem appendB_enc (acc : Fields) (id : Nat) (u : WVal) (r : Bytes) (hwf : WF u) (hd : u.depth ≤ 64) :
    appendB acc u.ttype.code id (encW u ++ r) = some (acc ++ [u.ttype.code] ++ be 2 id ++ encW u, r) :=
  appendB_of_dec acc u.ttype id _ u r (decW_encW u 64 r hwf hd)

theorem rd_enc (w : WVal) (r : Bytes) (hwf : WF w) :
    Sim w.depth (fun f => rd f w.ttype.code) (encW w ++ r) r (encW w) w.depth :=
  (rd_sim _ _ _ w r (decW_encW w _ r hwf (Nat.le_refl _))).2

theorem appendLoop_enc : ∀ (us : List (Nat × WVal)), WFFields us → (∀ x ∈ us, x.2.depth ≤ 64) →
    ∀ (g : Nat) (rest s : Bytes) (acc : Fields), us.length < g →
      ∃ s', appendLoop g ⟨encFields us ++ 0 :: rest, s⟩ acc = ⟨⟨rest, s'⟩, acc ++ encFields us, false⟩
  | [], _, _, g + 1, rest, s, acc, _ => ⟨s, by simp [appendLoop, rByte, encFields]⟩
  | (id, v) :: us, ⟨hid, hwv, hwr⟩, hd, g + 1, rest, s, acc, hg => by
    obtain ⟨s2, e2⟩ := append_of_dec acc v.ttype id _ _ v _
      (decW_encW v 64 (encFields us ++ 0 :: rest) hwv (hd _ List.mem_cons_self))
    obtain ⟨s3, e3⟩ := appendLoop_enc us hwr (fun x hx => hd x (List.mem_cons_of_mem _ hx)) g rest s2
      (acc ++ [v.ttype.code] ++ be 2 id ++ encW v) (Nat.lt_of_succ_lt_succ hg)
    refine ⟨s3, ?_⟩
    simp only [encFields, List.append_assoc, List.cons_append, List.nil_append, appendLoop, rByte, Std.code_ne_zero,
      if_false, Bool.false_eq_true, rFix_of_readN (readN_be 2 id _ hid)]
    rw [e2]
    simpa using e3

theorem rd_deep (f : Nat) (w : WVal) (r s out : Bytes) (hwf : WF w) (hd : f < w.depth) :
    (rd f w.ttype.code ⟨encW w ++ r, s⟩ out).err = true :=
  (rd_enc w r hwf).deep f s out hd

theorem list_deep (xs : List WVal) : ∀ (f : Nat) (et : TType) (r s out : Bytes), WFList et xs → f < depthList xs →
    (listWith (rd f et.code) xs.length ⟨encList xs ++ r, s⟩ out).err = true :=
  fun f et r s out hwf hd =>
    (listWith_sim (decW _ et) (fun f => rd f et.code) (fun bs w r h => (rd_sim _ et bs w r h).2) _ _ xs r
      (decList_enc xs _ et r hwf (Nat.le_refl _))).2.deep f s out hd

theorem pairs_deep (xs : List (WVal × WVal)) : ∀ (f : Nat) (kt vt : TType) (r s out : Bytes), WFPairs kt vt xs → f < depthPairs xs →
    (pairsWith (rd f kt.code) (rd f vt.code) xs.length ⟨encPairs xs ++ r, s⟩ out).err = true :=
  fun f kt vt r s out hwf hd =>
    (pairsWith_sim (decW _ kt) (decW _ vt) (fun f => rd f kt.code) (fun f => rd f vt.code)
      (fun bs w r h => (rd_sim _ kt bs w r h).2) (fun bs w r h => (rd_sim _ vt bs w r h).2) _ _ xs r
      (decPairs_enc xs _ kt vt r hwf (Nat.le_refl _))).2.deep f s out hd

theorem fieldsWith_gas (d : Nat → St → Bytes → R) (g : Nat) (st : St) (out : Bytes)
    (h : (fieldsWith d g st out).err = false) (k : Nat) : fieldsWith d (g + k) st out = fieldsWith d g st out := by
  -- 1 no gas, 2 no type byte, 3 STOP, 4 no id, 5 the value fails, 6 the loop goes on
  fun_induction fieldsWith d g st out with
  | case1 | case2 | case4 | case5 => cases h
  | case3 _ _ _ _ _ he hb =>
    rw [Nat.succ_add]
    simp only [fieldsWith, hb, he, Bool.false_eq_true, if_true, if_false]
  | case6 _ _ _ _ _ _ hb he ht _ _ _ hi he' _ _ hd ih =>
    rw [Nat.succ_add]
    simp only [fieldsWith, hb, he, ht, hi, he', hd, Bool.false_eq_true, if_false]
    exact ih h

/- The statement allows any gas, also too little to reach the deep field (the loop then fails for lack of gas):
with enough gas for the strict decoder the loop fails by `fieldsWith_sim`, and less gas cannot turn a failure into a success. -/
theorem fields_deep (fs : List (Nat × WVal)) : ∀ (f : Nat) (r s out : Bytes) (g : Nat), WFFields fs → f < depthFields fs →
    (fieldsWith (rd f) g ⟨encFields fs ++ 0 :: r, s⟩ out).err = true := by
  intro f r s out g hwf hd
  have h := (fieldsWith_sim (decW _) rd (rd_sim _) (g + (fs.length + 1)) _ fs r
    (decFields_enc fs _ _ r hwf (Nat.le_refl _) (by omega))).deep f s out hd
  cases he : (fieldsWith (rd f) g ⟨encFields fs ++ 0 :: r, s⟩ out).err with
  | true => rfl
  | false => rw [fieldsWith_gas (rd f) g _ _ he, he] at h; exact h

theorem append_deep (acc : Fields) (id : Nat) (u : WVal) (r s : Bytes) (hwf : WF u) (hd : 64 < u.depth) :
    (append acc u.ttype.code id ⟨encW u ++ r, s⟩).err = true :=
  rd_deep 64 u r s _ hwf hd

theorem appendB_deep (acc : Fields) (id : Nat) (u : WVal) (r : Bytes) (hwf : WF u) (hd : 64 < u.depth) :
    appendB acc u.ttype.code id (encW u ++ r) = none := by
  have := append_deep acc id u r (zeros 64) hwf hd
  unfold appendB
  split
  · rename_i h; simp only [St.fresh] at h; rw [h] at this; simp at this
  · rfl

end Gen.Unknown
