import ThriftVerif.Gen.Defaults
import ThriftVerif.Gen.ResLemmas
import ThriftVerif.Core.Assoc
/-
  The proofs behind Props/C06.  Identifiers: what the IDL side means by one is held by the Go name `getID` finds for it.  String
  literals: Go's scanner on the text `quoteLiteral` emits simulates the IDL reading of the literal (`Sim`).  Soundness of the emitted
  expressions (`rc_sound`) and exact acceptance (`rc_isOk`): one lemma per category class (scalars, list/set, map, struct-like) over
  all initializers, tied together by structural recursion over the initializer.
-/
open Gen

namespace Gen.Defaults

structure EnvAgree (E : Env) (ρG ρI : ConstEnv) : Prop where
  val : ∀ f n v, ρI f n = some v → ρG f n = some v
  dom : ∀ f n v, ρI f n = some v → E.hasGlobal f n = true

theorem scope_ast {E : Env} {g i k : Nat} (h : E.scopeInclude g i = some k) : E.astInclude g i = some k := by
  unfold Env.scopeInclude at h
  unfold Env.astInclude
  split at h
  · cases h
  next f hf =>
    split at h
    next k' hi =>
      cases h
      simp [hi]
    next => cases h

theorem getID_not_err {E : Env} {g : Nat} {x : Option Extra} : getID E g x ≠ .err := by
  cases x with
  | none => nofun
  | some x =>
    simp only [getID, getIDValue]
    split
    · nofun
    · fun_cases idInner
      all_goals nofun

theorem getID_cases (E : Env) (g : Nat) (x : Option Extra) :
    (∃ r, getID E g x = .ok (some r)) ∨ getID E g x = .ok none ∨ getID E g x = .panic := by
  cases h : getID E g x with
  | ok o => cases o with
    | none => exact Or.inr (Or.inl rfl)
    | some r => exact Or.inl ⟨r, rfl⟩
  | err => exact absurd h getID_not_err
  | panic => exact Or.inr (Or.inr rfl)

/-- an identifier as initializer: the Go name it resolves to, else `fallback` (`.err` at scalar and struct-like
    types, the empty literal at container types) -/
def identOr (E : Env) (g : Nat) (x : Option Extra) (fallback : Res GoExpr) : Res GoExpr :=
  match getID E g x with
  | .ok (some r) => .ok (.ident r)
  | .ok none => fallback
  | .err => fallback
  | .panic => .panic

section identifiers
variable {E : Env} {ρG ρI : ConstEnv} (ha : EnvAgree E ρG ρI) {g : Nat} {val : GoVal}
include ha

theorem idInner_ref {f : Nat} {x : Extra} (hv : refInner E ρI f x = some val) :
    ∃ r, idInner E f x = .ok (some r) ∧ evalGo E ρG (.ident r) = some val := by
  unfold refInner at hv
  unfold idInner
  cases he : x.isEnum with
  | true =>
    simp only [he, if_true, enumLookup] at hv ⊢
    cases hen : E.findEnum f x.sel with
    | none => simp [hen] at hv
    | some en =>
      simp only [hen] at hv ⊢
      cases hvv : en.value? x.name with
      | none => simp [hvv] at hv
      | some n => exact ⟨_, rfl, by simp only [evalGo, enumLookup, hen]; exact hv⟩
  | false =>
    simp only [he, Bool.false_eq_true, if_false] at hv ⊢
    exact ⟨_, if_pos (ha.dom _ _ _ hv), ha.val _ _ _ hv⟩

/-- the scope `getID` looks in is the file the IDL side looks in, unless it is a scope that does not have the include (a crash) -/
theorem getID_ref {x : Option Extra} (hv : refValue E ρI g x = some val) :
    getID E g x = .panic ∨ ∃ r, getID E g x = .ok (some r) ∧ evalGo E ρG (.ident r) = some val := by
  cases x with
  | none => cases hv
  | some x =>
    simp only [refValue] at hv
    simp only [getID, getIDValue]
    cases hi : x.index with
    | none =>
      simp only [hi] at hv ⊢
      cases E.file? g with
      | none => exact Or.inl rfl
      | some fe => exact Or.inr (idInner_ref ha hv)
    | some i =>
      simp only [hi] at hv ⊢
      cases hs : E.scopeInclude g i with
      | none => exact Or.inl rfl
      | some g' =>
        simp only [scope_ast hs] at hv
        exact Or.inr (idInner_ref ha hv)

theorem identOr_sound {x : Option Extra} {fallback : Res GoExpr} {e : GoExpr} (h : identOr E g x fallback = .ok e)
    (hv : refValue E ρI g x = some val) : evalGo E ρG e = some val := by
  unfold identOr at h
  rcases getID_ref ha hv with hid | ⟨r, hid, hr⟩
  · rw [hid] at h
    cases h
  · rw [hid] at h
    cases h
    exact hr

end identifiers

theorem resOk_identOr (E : Env) (g : Nat) (x : Option Extra) (fb : Res GoExpr) :
    resOk (identOr E g x fb) = if resOk fb then !idPanics E g x else idResolves E g x := by
  unfold identOr idPanics idResolves
  rcases getID_cases E g x with ⟨r, h⟩ | h | h <;> simp only [h] <;> cases resOk fb <;> rfl

theorem resOk_identOr_err (E : Env) (g : Nat) (x : Option Extra) : resOk (identOr E g x .err) = idResolves E g x :=
  (resOk_identOr E g x .err).trans (if_neg Bool.false_ne_true)

theorem quoteBody_bslash_squote (r : Bytes) : quoteBody (92 :: 39 :: r) = 39 :: quoteBody r := by
  rw [quoteBody.eq_def]; rfl

theorem quoteBody_bslash {d : Nat} (r : Bytes) (h : d ≠ 39) : quoteBody (92 :: d :: r) = 92 :: d :: quoteBody r := by
  rw [quoteBody.eq_def]; simp only [if_true, if_neg h]; rfl

theorem quoteBody_dquote (r : Bytes) : quoteBody (34 :: r) = 92 :: 34 :: quoteBody r := by
  rw [quoteBody.eq_def]; rfl

theorem quoteBody_lf (r : Bytes) : quoteBody (10 :: r) = 92 :: 110 :: quoteBody r := by
  rw [quoteBody.eq_def]; rfl

theorem quoteBody_cr (r : Bytes) : quoteBody (13 :: r) = 92 :: 114 :: quoteBody r := by
  rw [quoteBody.eq_def]; rfl

theorem quoteBody_other {c : Nat} (r : Bytes) (h92 : c ≠ 92) (h34 : c ≠ 34) (h10 : c ≠ 10) (h13 : c ≠ 13) :
    quoteBody (c :: r) = c :: quoteBody r := by
  rw [quoteBody.eq_def]; simp only [if_neg h92, if_neg h34, if_neg h10, if_neg h13]

/-- no digit among the characters `quoteLiteral` rewrites, nor in what it writes for them -/
theorem hexDigit_none {c : Nat} (hc : c < 48 ∨ c = 92) : hexDigit? c = none := by
  unfold hexDigit?
  rw [if_neg (by omega), if_neg (by omega), if_neg (by omega)]

theorem octDigit_none {c : Nat} (hc : c < 48 ∨ c = 92) : octDigit? c = none := by
  unfold octDigit?
  rw [if_neg (by omega)]

theorem lexStep_num_none {b r a : Nat} {u : Bool} {c : Nat} (hc : c < 48 ∨ c = 92) : lexStep (.num b r a u) c = none := by
  simp only [lexStep, hexDigit_none hc, octDigit_none hc, ite_self]

theorem escLookup_get : Assoc.IsGet escLookup := ⟨fun _ => rfl, fun _ _ _ => if_pos rfl, fun _ _ => (if_neg ·.symm)⟩

theorem escTable_not_esc : ∀ p ∈ escTable, p.2.1 ≠ .esc := by decide

theorem lexStep_not_esc {st st' : LexSt} {c : Nat} {out : Bytes} (h : lexStep st c = some (st', out))
    (hc : st = .esc ∨ c ≠ 92) : st' ≠ .esc := by
  rintro rfl
  revert h
  -- the clauses of `lexStep` in order: the first is `norm` at a backslash, the third a hit in the escape table, every other
  -- one yields `norm`, a `num` state or nothing
  fun_cases lexStep st c
  all_goals intro h
  case case1 => simp at hc
  case case3 r hl =>
    cases h
    exact escTable_not_esc _ (escLookup_get.mem hl) rfl
  all_goals cases h

theorem unqFrom_cons {st : LexSt} {c : Nat} (r : Bytes) (h34 : ¬(st = .norm ∧ c = 34)) (h10 : ¬(st = .norm ∧ c = 10)) :
    unqFrom st (c :: r) = (lexStep st c).bind fun p => (unqFrom p.1 r).map (p.2 ++ ·) := by
  simp only [unqFrom, if_neg h34, if_neg h10]
  cases lexStep st c <;> rfl

theorem interpFrom_cons (st : LexSt) (c : Nat) (r : Bytes) :
    interpFrom st (c :: r) = (idlStep st c).bind fun p => (interpFrom p.1 r).map (p.2 ++ ·) := by
  rw [interpFrom]
  cases idlStep st c <;> rfl

theorem idlStep_ne {st : LexSt} {c : Nat} (h : ¬(st = .esc ∧ c = 39)) : idlStep st c = lexStep st c :=
  if_neg h

theorem norm_bslash : lexStep .norm 92 = some (.esc, []) := by simp [lexStep]

theorem unqFrom_bslash (q : Bytes) : unqFrom .norm (92 :: q) = unqFrom .esc q := by
  rw [unqFrom_cons q (by simp) (by simp), norm_bslash]
  simp

theorem interpFrom_bslash (s : Bytes) : interpFrom .norm (92 :: s) = interpFrom .esc s := by
  rw [interpFrom_cons, idlStep_ne (by simp), norm_bslash]
  simp

/-- the emitted text `q` stands for the rest `s` of the literal, from every scanner state but `esc`: `quoteBody` consumes a
    backslash together with the character after it, so a cut between `q` and `s` never falls just after a backslash; the
    states inside a numeric escape are needed, the induction of `unq_quote` passes through them -/
def Sim (q s : Bytes) : Prop := ∀ st, st ≠ .esc → unqFrom st q = interpFrom st s

theorem Sim.same {q s : Bytes} (ih : Sim q s) {st : LexSt} {c : Nat} (h34 : ¬(st = .norm ∧ c = 34))
    (h10 : ¬(st = .norm ∧ c = 10)) (h39 : ¬(st = .esc ∧ c = 39)) (hc : st = .esc ∨ c ≠ 92) :
    unqFrom st (c :: q) = interpFrom st (c :: s) := by
  rw [unqFrom_cons q h34 h10, interpFrom_cons, idlStep_ne h39]
  exact Option.bind_congr fun p hl => congrArg _ (ih p.1 (lexStep_not_esc hl hc))

/-- where both texts go on with a character that is no digit, both scanners are stuck inside a numeric escape: only the
    state between characters is left to compare -/
theorem Sim.of_norm {x c : Nat} {q s : Bytes} (hx : x < 48 ∨ x = 92) (hc : c < 48 ∨ c = 92)
    (h : unqFrom .norm (x :: q) = interpFrom .norm (c :: s)) : Sim (x :: q) (c :: s) := by
  intro st hst
  cases st with
  | norm => exact h
  | esc => exact absurd rfl hst
  | num b k a u =>
    rw [unqFrom_cons q (by simp) (by simp), lexStep_num_none hx, interpFrom_cons, idlStep_ne (by simp), lexStep_num_none hc]
    rfl

theorem Sim.escaped {q s : Bytes} (ih : Sim q s) {c x : Nat} (hx : lexStep .esc x = some (.norm, [c])) (hc : c < 48) :
    Sim (92 :: x :: q) (c :: s) := by
  have hn : idlStep .norm c = some (.norm, [c]) := by
    have : c ≠ 92 := by omega
    simp [idlStep, lexStep, this]
  refine Sim.of_norm (Or.inr rfl) (Or.inl hc) ?_
  rw [unqFrom_bslash, unqFrom_cons q (by simp) (by simp), hx, interpFrom_cons, hn, Option.bind_some, Option.bind_some,
    ih .norm (by simp)]

theorem unq_quote (s : Bytes) : Sim (quoteBody s ++ [34]) s := by
  induction s using quoteBody.induct with
  | case1 =>
    intro st hst
    cases st with
    | norm => rfl
    | esc => exact absurd rfl hst
    | num b k a u =>
      rw [quoteBody, List.nil_append, unqFrom_cons [] (by simp) (by simp), lexStep_num_none (Or.inl (by omega))]
      rfl
  | case2 d r ih =>
    by_cases h39 : d = 39
    · have hi : idlStep .esc 39 = some (.norm, [39]) := rfl
      have hg : lexStep .norm 39 = some (.norm, [39]) := rfl
      rw [h39, quoteBody_bslash_squote, List.cons_append]
      refine Sim.of_norm (Or.inl (by omega)) (Or.inr rfl) ?_
      rw [interpFrom_bslash, unqFrom_cons _ (by simp) (by simp), hg, interpFrom_cons, hi, Option.bind_some, Option.bind_some,
        ih .norm (by simp)]
    · rw [quoteBody_bslash r h39, List.cons_append, List.cons_append]
      refine Sim.of_norm (Or.inr rfl) (Or.inr rfl) ?_
      rw [interpFrom_bslash, unqFrom_bslash]
      exact ih.same (by simp) (by simp) (by simp [h39]) (Or.inl rfl)
  | case3 => exact Sim.of_norm (Or.inr rfl) (Or.inr rfl) rfl
  | case4 r _ ih => rw [quoteBody_dquote]; exact ih.escaped rfl (by omega)
  | case5 r _ _ ih => rw [quoteBody_lf]; exact ih.escaped rfl (by omega)
  | case6 r _ _ _ ih => rw [quoteBody_cr]; exact ih.escaped rfl (by omega)
  | case7 c r h92 h34 h10 h13 ih =>
    intro st hst
    rw [quoteBody_other r h92 h34 h10 h13]
    exact ih.same (by simp [h34]) (by simp [h10]) (by simp [hst]) (Or.inr h92)

theorem goUnquote_emit (s : Bytes) : goUnquote (emitStr s) = interp s :=
  unq_quote s .norm (by simp)

theorem hs'_ {gv : Nat} {x : Option Extra} : gv = gv ∨ x = none := Or.inl rfl

theorem idlStr_bytes {E : Env} {ρ : ConstEnv} {gv : Nat} {v : CV} {val : GoVal} (h : idlStr E ρ gv v = some val) :
    ∃ b, val = .bytes b := by
  unfold idlStr at h
  split at h
  next s =>
    obtain ⟨b, -, rfl⟩ := Option.map_eq_some_iff.mp h
    exact ⟨b, rfl⟩
  next s x =>
    split at h
    · cases h
    · split at h
      next b _ => exact ⟨b, (Option.some.inj h).symm⟩
      next => cases h
  next => cases h

theorem onBool_ident (E : Env) (g : Nat) (s : Bytes) (x : Option Extra) : onBool E g (.ident s x) =
    if s = bTrue then .ok (.boolLit true) else if s = bFalse then .ok (.boolLit false) else identOr E g x .err := rfl

theorem onDouble_ident (E : Env) (g : Nat) (s : Bytes) (x : Option Extra) : onDouble E g (.ident s x) =
    if s = bTrue then .ok (.floatOfInt 1) else if s = bFalse then .ok (.floatOfInt 0) else identOr E g x .err := rfl

theorem strBinCore_ident (E : Env) (g : Nat) (s : Bytes) (x : Option Extra) : strBinCore E g (.ident s x) =
    if s = bTrue || s = bFalse then .err else identOr E g x .err := rfl

theorem onEnum_ident (E : Env) (g : Nat) (s : Bytes) (x : Option Extra) : onEnum E g (.ident s x) = identOr E g x .err := rfl

section scalars
variable {E : Env} {ρG ρI : ConstEnv} (ha : EnvAgree E ρG ρI) {root g gv : Nat} {t : ATy} {v : CV} {e : GoExpr} {val : GoVal}
include ha

theorem onBool_sound (h : onBool E gv v = .ok e)
    (hI : idlBool E ρI gv v = some val) : evalGo E ρG e = some val := by
  cases v with
  | int n =>
    cases h
    simp only [idlBool] at hI
    by_cases h0 : n = 0
    · subst h0; cases hI; rfl
    · by_cases h1 : n = 1
      · subst h1; cases hI; rfl
      · simp [h0, h1] at hI
  | ident s x =>
    rw [onBool_ident] at h
    simp only [idlBool] at hI
    by_cases ht : s = bTrue
    · rw [if_pos ht] at h hI; cases h; cases hI; rfl
    · rw [if_neg ht] at h hI
      by_cases hf : s = bFalse
      · rw [if_pos hf] at h hI; cases h; cases hI; rfl
      · rw [if_neg hf] at h hI
        split at hI
        next b hr => cases hI; exact identOr_sound ha h hr
        next => cases hI
  | _ => cases hI

theorem onInt_sound {bits : Nat} (hb : t.cat.intBits.getD 64 = bits) (h : onInt E root g gv t v = .ok e)
    (hI : idlInt E ρI gv bits v = some val) : evalGo E ρG e = some val := by
  cases v with
  | int n =>
    cases h
    simp only [idlInt] at hI
    split at hI
    · exact hI
    · cases hI
  | ident s x =>
    simp only [onInt] at h
    simp only [idlInt] at hI
    by_cases ht : (s = bTrue || s = bFalse) = true
    · rw [if_pos ht] at hI; cases hI
    · rw [if_neg ht] at hI
      simp only [Bool.or_eq_true, decide_eq_true_eq, not_or] at ht
      rw [if_neg ht.1, if_neg ht.2] at h
      split at hI
      next n hr =>
        split at hI
        next hin =>
          cases hI
          rcases getID_ref ha hr with hid | ⟨r, hid, hgo⟩
          · simp [hid] at h
          · -- whatever `getTypeName` says of the type, the name is converted to `bits` bits
            simp only [hid, hb] at h
            have he : ∃ ty, e = .conv ty bits (.ident r) := by
              split at h
              next ty _ => exact ⟨ty, (Res.ok.inj h).symm⟩
              next => exact ⟨.bad, (Res.ok.inj h).symm⟩
              next => cases h
            obtain ⟨ty, rfl⟩ := he
            simp [evalGo, hgo, hin]
        next => cases hI
      next => cases hI
  | _ => cases hI

theorem onDouble_sound (h : onDouble E gv v = .ok e)
    (hI : idlDouble E ρI gv v = some val) : evalGo E ρG e = some val := by
  cases v with
  | int n => cases h; exact hI
  | dbl b tx => cases h; exact hI
  | ident s x =>
    rw [onDouble_ident] at h
    simp only [idlDouble] at hI
    by_cases ht : (s = bTrue || s = bFalse) = true
    · rw [if_pos ht] at hI; cases hI
    · rw [if_neg ht] at hI
      simp only [Bool.or_eq_true, decide_eq_true_eq, not_or] at ht
      rw [if_neg ht.1, if_neg ht.2] at h
      split at hI
      next b hr => cases hI; exact identOr_sound ha h hr
      next => cases hI
  | _ => cases hI

theorem onEnum_sound (h : onEnum E gv v = .ok e)
    (hI : idlEnum E ρI gv v = some val) : evalGo E ρG e = some val := by
  cases v with
  | int n => cases h; exact hI
  | ident s x =>
    rw [onEnum_ident] at h
    simp only [idlEnum] at hI
    split at hI
    next n hr => cases hI; exact identOr_sound ha h hr
    next => cases hI
  | _ => cases hI

theorem strBinCore_sound (h : strBinCore E gv v = .ok e)
    (hI : idlStr E ρI gv v = some val) : evalGo E ρG e = some val := by
  cases v with
  | lit s =>
    cases h
    simp only [evalGo, goUnquote_emit]
    exact hI
  | ident s x =>
    rw [strBinCore_ident] at h
    simp only [idlStr] at hI
    by_cases ht : (s = bTrue || s = bFalse) = true
    · rw [if_pos ht] at h; cases h
    · rw [if_neg ht] at h hI
      split at hI
      next b hr => cases hI; exact identOr_sound ha h hr
      next => cases hI
  | _ => cases hI

theorem onStrBin_sound (h : onStrBin E gv t v = .ok e)
    (hI : idlStr E ρI gv v = some val) : evalGo E ρG e = some val := by
  unfold onStrBin at h
  cases hc : strBinCore E gv v with
  | err => simp [hc] at h
  | panic => simp [hc] at h
  | ok e0 =>
    have he0 := strBinCore_sound ha hc hI
    obtain ⟨b, rfl⟩ := idlStr_bytes hI
    simp only [hc] at h
    split at h
    · cases h; simp [evalGo, he0]
    · cases h; exact he0

end scalars

theorem bFalse_ne_bTrue : bFalse ≠ bTrue := by decide

theorem resOk_tf_ident (E : Env) (g : Nat) (s : Bytes) (x : Option Extra) (a b : GoExpr) :
    resOk (if s = bTrue then .ok a else if s = bFalse then .ok b else identOr E g x .err) =
      (isTF s || idResolves E g x) := by
  unfold isTF
  by_cases h1 : s = bTrue
  · simp [h1, resOk]
  · by_cases h2 : s = bFalse
    · simp [h2, resOk, bFalse_ne_bTrue]
    · simp [h1, h2, resOk_identOr_err]

theorem onBool_isOk (E : Env) (g : Nat) (v : CV) : resOk (onBool E g v) = accBool E g v := by
  cases v with
  | ident s x => exact resOk_tf_ident E g s x _ _
  | _ => rfl

theorem onDouble_isOk (E : Env) (g : Nat) (v : CV) : resOk (onDouble E g v) = accDouble E g v := by
  cases v with
  | ident s x => exact resOk_tf_ident E g s x _ _
  | _ => rfl

theorem onInt_isOk (E : Env) (root g gv : Nat) (t : ATy) (v : CV) :
    resOk (onInt E root g gv t v) = accInt E root g gv t v := by
  cases v with
  | ident s x =>
    simp only [onInt, accInt, isTF, idResolves]
    by_cases h1 : s = bTrue
    · simp [h1, resOk]
    · by_cases h2 : s = bFalse
      · simp [h2, resOk, bFalse_ne_bTrue]
      · simp only [h1, h2, if_false]
        rcases getID_cases E gv x with ⟨r, h⟩ | h | h
        · cases htn : typeName E root g t <;> simp [h, resOk, noPanic]
        · simp [h, resOk]
        · simp [h, resOk]
  | _ => rfl

theorem onEnum_isOk (E : Env) (g : Nat) (v : CV) : resOk (onEnum E g v) = accEnum E g v := by
  cases v with
  | ident s x => exact resOk_identOr_err E g x
  | _ => rfl

theorem onStrBin_isOk (E : Env) (g : Nat) (t : ATy) (v : CV) : resOk (onStrBin E g t v) = accStr E g v := by
  have core : resOk (strBinCore E g v) = accStr E g v := by
    cases v with
    | ident s x =>
      rw [strBinCore_ident, accStr, isTF, ← resOk_identOr_err]
      by_cases hb : (s = bTrue || s = bFalse) = true
      · rw [if_pos hb, hb]; rfl
      · rw [if_neg hb]; simp only [Bool.not_eq_true] at hb; rw [hb]; rfl
    | _ => rfl
  rw [← core]
  unfold onStrBin
  cases strBinCore E g v with
  | ok e => by_cases hc : (t.cat == Cat.bin) = true <;> simp [hc, resOk]
  | err => rfl
  | panic => rfl

theorem structOf_find {E : Env} {g : Nat} {t : ATy} {file : Nat} {st : AStruct}
    (h : structOf E g t = .ok (file, st)) : E.findStruct file st.name = some st := by
  unfold structOf at h
  split at h
  next g' c r nm _ =>
    split at h
    next st' hf =>
      cases h
      have hn : st.name = nm := by
        unfold Env.findStruct at hf
        split at hf
        · have hp := List.find?_some hf
          exact beq_iff_eq.mp hp
        · cases hf
      rw [hn]
      exact hf
    next => cases h
  next => cases h
  next => cases h

/-- `derefContainer` returns what `semantic.Deref` reaches: an inline container type is its own target -/
theorem derefC_deref {E : Env} {g g' : Nat} {t t' : ATy} (hd : derefC E g t = .ok (g', t')) :
    deref E E.derefFuel g t = some (g', t') := by
  unfold derefC at hd
  split at hd
  next x hel =>
    cases hd
    cases t with
    | base c => cases hel
    | named c r n => cases hel
    | _ => rfl
  next =>
    split at hd
    next g2 t2 hdr =>
      split at hd
      · cases hd
        exact hdr
      · cases hd
    next => cases hd

theorem derefC_elemTy {E : Env} {g g' g2 : Nat} {t t' e : ATy}
    (hd : derefC E g t = .ok (g', t')) (he : elemTy E g t = some (g2, e)) : g2 = g' ∧ t'.elem? = some e := by
  simp only [elemTy, derefC_deref hd] at he
  split at he
  next h =>
    cases h
    cases he
    exact ⟨rfl, rfl⟩
  next h =>
    cases h
    cases he
    exact ⟨rfl, rfl⟩
  next => cases he

theorem derefC_mapTy {E : Env} {g g' g2 : Nat} {t t' k w : ATy}
    (hd : derefC E g t = .ok (g', t')) (he : mapTy E g t = some (g2, k, w)) :
    g2 = g' ∧ t'.key? = some k ∧ t'.elem? = some w := by
  simp only [mapTy, derefC_deref hd] at he
  split at he
  next h =>
    cases h
    cases he
    exact ⟨rfl, rfl, rfl⟩
  next => cases he

theorem evalIDL_bin2str (E : Env) (ρ : ConstEnv) (gt gv : Nat) (k : ATy) (v : CV) :
    evalIDL E ρ gt gv (bin2str k) v = evalIDL E ρ gt gv k v := by
  unfold bin2str
  split
  · rw [evalIDL.eq_def, evalIDL.eq_def]; rfl
  · rw [evalIDL.eq_def, evalIDL.eq_def]; rfl
  · rfl

theorem evalIDL_bin_bytes {E : Env} {ρ : ConstEnv} {gt gv : Nat} {k : ATy} {v : CV} {w : GoVal}
    (hc : k.cat = .bin) (h : evalIDL E ρ gt gv k v = some w) : ∃ b, w = .bytes b := by
  rw [evalIDL.eq_def] at h
  simp only [hc] at h
  exact idlStr_bytes h

theorem evalGo_elemValue (E : Env) (ρ : ConstEnv) (t : ATy) (e : GoExpr) :
    evalGo E ρ (elemValue E t e) = evalGo E ρ e := by
  unfold elemValue
  split
  · split <;> simp [evalGo]
  · rfl

theorem evalGo_keyValue {E : Env} {ρ : ConstEnv} {kt : ATy} {k : CV} {e : GoExpr} {w : GoVal}
    (he : evalGo E ρ e = some w) (hb : kt.cat = .bin → ∃ b, w = .bytes b) :
    evalGo E ρ (keyValue kt k e) = some w := by
  unfold keyValue
  split
  next hc =>
    simp only [Bool.and_eq_true, beq_iff_eq] at hc
    obtain ⟨b, hw⟩ := hb hc.1
    subst hw
    simp [evalGo, he]
  · exact he

/-! ### the clauses of `resolveConst` for composite types and of its three loops, in `>>=` form

Read with `Res.bind_eq_ok` they say what a successful call gives, with `resOk_bind` when a call succeeds. -/

section equations
variable {E : Env} {root gv g : Nat} {t : ATy} {v : CV}

theorem resOk_bind {α β} (r : Res α) (f : α → Res β) {b : Bool} (h : ∀ a, resOk (f a) = b) :
    resOk (r >>= f) = (resOk r && b) := by
  cases r with
  | ok a => exact h a
  | err => rfl
  | panic => rfl

theorem resOk_bind_ok {α β} (r : Res α) (f : α → β) : resOk (r >>= fun a => .ok (f a)) = resOk r := by
  cases r <;> rfl

theorem identOr_eq (x : Option Extra) (fb : Res GoExpr) :
    (match getID E gv x with
      | .ok (some r) => .ok (.ident r)
      | .panic => .panic
      | _ => fb) = identOr E gv x fb := by
  unfold identOr
  cases getID E gv x with
  | ok o => cases o <;> rfl
  | _ => rfl

theorem rc_seq (hc : t.cat = .list ∨ t.cat = .set) : resolveConst E root gv g t v =
    (typeName E root g t >>= fun ty => derefC E g t >>= fun p =>
      match v with
      | .list xs => resolveList E root gv p.1 p.2.elem? xs >>= fun es => .ok (.sliceLit ty es)
      | .ident _ x => identOr E gv x (.ok (.sliceLit ty []))
      | _ => .ok (.sliceLit ty [])) := by
  rw [resolveConst.eq_def]
  rcases hc with hc | hc
  all_goals
    simp only [hc]
    cases typeName E root g t with
    | ok ty =>
      cases derefC E g t with
      | ok p =>
        obtain ⟨g', t'⟩ := p
        cases v with
        | list xs => dsimp only [Res.ok_bind]; cases resolveList E root gv g' t'.elem? xs <;> rfl
        | ident s x => exact identOr_eq x _
        | _ => rfl
      | _ => rfl
    | _ => rfl

theorem rc_map (hc : t.cat = .map) : resolveConst E root gv g t v =
    (typeName E root g t >>= fun ty => derefC E g t >>= fun p =>
      match v with
      | .map kvs => resolvePairs E root gv p.1 p.2.key? p.2.elem? kvs >>= fun es => .ok (.mapLit ty es)
      | .ident _ x => identOr E gv x (.ok (.mapLit ty []))
      | _ => .ok (.mapLit ty [])) := by
  rw [resolveConst.eq_def]
  simp only [hc]
  cases typeName E root g t with
  | ok ty =>
    cases derefC E g t with
    | ok p =>
      obtain ⟨g', t'⟩ := p
      cases v with
      | map kvs => dsimp only [Res.ok_bind]; cases resolvePairs E root gv g' t'.key? t'.elem? kvs <;> rfl
      | ident s x => exact identOr_eq x _
      | _ => rfl
    | _ => rfl
  | _ => rfl

theorem rc_strct (hc : t.cat = .strct) : resolveConst E root gv g t v =
    (typeName E root g t >>= fun ty =>
      match v with
      | .ident _ x => identOr E gv x .err
      | .map kvs => structOf E g t >>= fun p => resolveMembers E root gv p.1 p.2 kvs >>= fun ents =>
          .ok (.structLit ty p.1 p.2.name ents)
      | _ => .err) := by
  rw [resolveConst.eq_def]
  simp only [hc]
  cases typeName E root g t with
  | ok ty =>
    cases v with
    | map kvs =>
      cases structOf E g t with
      | ok p =>
        obtain ⟨file, st⟩ := p
        dsimp only [Res.ok_bind]
        cases resolveMembers E root gv file st kvs <;> rfl
      | _ => rfl
    | ident s x => exact identOr_eq x _
    | _ => rfl
  | _ => rfl

theorem resolveList_cons (e : ATy) (x : CV) (xs : List CV) :
    resolveList E root gv g (some e) (x :: xs) =
      (resolveConst E root gv g e x >>= fun a => resolveList E root gv g (some e) xs >>= fun r =>
        .ok (elemValue E e a :: r)) := by
  rw [resolveList]
  cases resolveConst E root gv g e x with
  | ok a => cases resolveList E root gv g (some e) xs <;> rfl
  | _ => rfl

theorem resolvePairs_cons (kt vt : ATy) (k v : CV) (r : List (CV × CV)) :
    resolvePairs E root gv g (some kt) (some vt) ((k, v) :: r) =
      (resolveConst E root gv g (bin2str kt) k >>= fun a => resolveConst E root gv g vt v >>= fun b =>
        resolvePairs E root gv g (some kt) (some vt) r >>= fun rest =>
        .ok ((keyValue kt k a, elemValue E vt b) :: rest)) := by
  rw [resolvePairs]
  cases resolveConst E root gv g (bin2str kt) k with
  | ok a =>
    cases resolveConst E root gv g vt v with
    | ok b => cases resolvePairs E root gv g (some kt) (some vt) r <;> rfl
    | _ => rfl
  | _ => rfl

theorem resolveMembers_lit (file : Nat) (st : AStruct) (n : Bytes) (v : CV) (r : List (CV × CV)) :
    resolveMembers E root gv file st ((.lit n, v) :: r) =
      (Res.ofOption (findField st.fields n) >>= fun p => typeName E root file p.2.ty >>= fun typ =>
        resolveConst E root gv file p.2.ty v >>= fun e => resolveMembers E root gv file st r >>= fun rest =>
        .ok ((p.1, redirect p.2 typ e) :: rest)) := by
  rw [resolveMembers]
  cases findField st.fields n with
  | none => rfl
  | some p =>
    obtain ⟨idx, f⟩ := p
    dsimp only [Res.ofOption, Res.ok_bind]
    cases typeName E root file f.ty with
    | ok typ =>
      cases resolveConst E root gv file f.ty v with
      | ok e => cases resolveMembers E root gv file st r <;> rfl
      | _ => rfl
    | _ => rfl

end equations

theorem redirect_sound {E : Env} {ρG : ConstEnv} {f : AField} {typ : GoTy} {v : CV} {e : GoExpr} {x : GoVal}
    {root gv file : Nat} (hr : resolveConst E root gv file f.ty v = .ok e) (hok : addrOK f v = true)
    (he : evalGo E ρG e = some x) : evalGo E ρG (redirect f typ e) = some x := by
  unfold redirect
  cases hn : needRedirect f with
  | false => simpa using he
  | true =>
    simp only [if_true]
    cases hb : (f.ty.cat.isBase || f.ty.cat == .enum) with
    | true => simp [GoExpr.startsAmp, evalGo, he]
    | false =>
      simp only [Bool.false_eq_true, if_false]
      have hc : f.ty.cat = .strct := by
        by_cases h1 : f.ty.cat = .strct
        · exact h1
        · simp [needRedirect, h1, hb] at hn
      have hm : isMapLit v = true := by
        simp only [addrOK, hc, bne_self_eq_false, Bool.false_or] at hok
        exact hok
      cases v with
      | map kvs =>
        simp only [rc_strct hc, Res.bind_eq_ok, Res.ok.injEq] at hr
        obtain ⟨ty, -, p, -, ents, -, rfl⟩ := hr
        simpa [GoExpr.startsAmp] using he
      | _ => cases hm

/-! `Sound`, `SoundL`, `SoundP`, `SoundM` quantify over every type and scope, so that `rc_sound` and its three loops recurse on the
initializer alone. -/

def Sound (E : Env) (ρG ρI : ConstEnv) (root gv : Nat) (v : CV) : Prop :=
  ∀ (g : Nat) (t : ATy) (e : GoExpr) (val : GoVal), resolveConst E root gv g t v = .ok e → good E g t v = true →
    evalIDL E ρI g gv t v = some val → evalGo E ρG e = some val

def SoundL (E : Env) (ρG ρI : ConstEnv) (root gv : Nat) (xs : List CV) : Prop :=
  ∀ (g : Nat) (et : ATy) (es : List GoExpr) (vals : List GoVal), resolveList E root gv g (some et) xs = .ok es →
    goodL E g et xs = true → evalIDLList E ρI g gv et xs = some vals → evalGoList E ρG es = some vals

def SoundP (E : Env) (ρG ρI : ConstEnv) (root gv : Nat) (kvs : List (CV × CV)) : Prop :=
  ∀ (g : Nat) (kt vt : ATy) (es : List (GoExpr × GoExpr)) (vals : List (GoVal × GoVal)),
    resolvePairs E root gv g (some kt) (some vt) kvs = .ok es → goodP E g (bin2str kt) vt kvs = true →
    evalIDLPairs E ρI g gv kt vt kvs = some vals → evalGoPairs E ρG es = some vals

def SoundM (E : Env) (ρG ρI : ConstEnv) (root gv : Nat) (kvs : List (CV × CV)) : Prop :=
  ∀ (file : Nat) (st : AStruct) (ents : List (Nat × GoExpr)) (vals : List (Nat × GoVal)),
    resolveMembers E root gv file st kvs = .ok ents → goodM E file st kvs = true →
    evalIDLMembers E ρI file gv st kvs = some vals → evalGoEnts E ρG ents = some vals

section steps
variable {E : Env} {ρG ρI : ConstEnv} {root gv : Nat}

theorem SoundL.nil : SoundL E ρG ρI root gv [] := by
  intro g et es vals h _ hI
  cases h
  cases hI
  rfl

theorem SoundL.cons {x : CV} {r : List CV} (hx : Sound E ρG ρI root gv x) (hr : SoundL E ρG ρI root gv r) :
    SoundL E ρG ρI root gv (x :: r) := by
  intro g et es vals h hg hI
  simp only [resolveList_cons, Res.bind_eq_ok, Res.ok.injEq] at h
  obtain ⟨a, h1, rest, h2, rfl⟩ := h
  simp only [goodL, Bool.and_eq_true] at hg
  simp only [evalIDLList] at hI
  split at hI
  next w hw =>
    obtain ⟨ws, hws, rfl⟩ := Option.map_eq_some_iff.mp hI
    simp [evalGoList, evalGo_elemValue, hx g et a w h1 hg.1 hw, hr g et rest ws h2 hg.2 hws]
  next => cases hI

theorem SoundP.nil : SoundP E ρG ρI root gv [] := by
  intro g kt vt es vals h _ hI
  cases h
  cases hI
  rfl

theorem SoundP.cons {k v : CV} {r : List (CV × CV)} (hk : Sound E ρG ρI root gv k) (hv : Sound E ρG ρI root gv v)
    (hr : SoundP E ρG ρI root gv r) : SoundP E ρG ρI root gv ((k, v) :: r) := by
  intro g kt vt es vals h hg hI
  simp only [resolvePairs_cons, Res.bind_eq_ok, Res.ok.injEq] at h
  obtain ⟨a, h1, b, h2, rest, h3, rfl⟩ := h
  simp only [goodP, Bool.and_eq_true] at hg
  simp only [evalIDLPairs] at hI
  split at hI
  next wk hwk =>
    split at hI
    next wv hwv =>
      obtain ⟨ws, hws, rfl⟩ := Option.map_eq_some_iff.mp hI
      -- the key was resolved at `bin2str kt`, where the IDL side gives it the same value; at a binary type that is a byte string
      have e1 := hk g (bin2str kt) a wk h1 hg.1.1 (by rw [evalIDL_bin2str]; exact hwk)
      have e1' := evalGo_keyValue (kt := kt) (k := k) e1 (fun hb => evalIDL_bin_bytes hb hwk)
      simp [evalGoPairs, evalGo_elemValue, e1', hv g vt b wv h2 hg.1.2 hwv, hr g kt vt rest ws h3 hg.2 hws]
    next => cases hI
  next => cases hI

theorem SoundM.nil : SoundM E ρG ρI root gv [] := by
  intro file st ents vals h _ hI
  cases h
  cases hI
  rfl

theorem SoundM.cons {k v : CV} {r : List (CV × CV)} (hv : Sound E ρG ρI root gv v) (hr : SoundM E ρG ρI root gv r) :
    SoundM E ρG ρI root gv ((k, v) :: r) := by
  intro file st ents vals h hg hI
  cases k with
  | lit n =>
    simp only [resolveMembers_lit, Res.bind_eq_ok, Res.ofOption_eq_ok, Res.ok.injEq] at h
    obtain ⟨⟨idx, f⟩, hf, typ, -, e, h1, rest, h2, rfl⟩ := h
    simp only [goodM, hf, Bool.and_eq_true] at hg
    simp only [evalIDLMembers, hf] at hI
    split at hI
    next w hw =>
      obtain ⟨ws, hws, rfl⟩ := Option.map_eq_some_iff.mp hI
      have e1 := redirect_sound (typ := typ) h1 hg.1.1 (hv file f.ty e w h1 hg.1.2 hw)
      simp [evalGoEnts, e1, hr file st rest ws h2 hg.2 hws]
    next => cases hI
  | _ => simp [resolveMembers] at h

end steps

section main
variable {E : Env} {ρG ρI : ConstEnv} (ha : EnvAgree E ρG ρI) (root gv : Nat)
include ha

theorem seq_sound {v : CV} {g : Nat} {t : ATy} {e : GoExpr} {val : GoVal} (hc : t.cat = .list ∨ t.cat = .set)
    (ih : ∀ xs, v = .list xs → SoundL E ρG ρI root gv xs)
    (h : resolveConst E root gv g t v = .ok e) (hg : good E g t v = true)
    (hI : evalIDL E ρI g gv t v = some val) : evalGo E ρG e = some val := by
  simp only [rc_seq hc, Res.bind_eq_ok] at h
  obtain ⟨ty, -, ⟨g', t'⟩, hd, h⟩ := h
  rw [evalIDL.eq_def] at hI
  rw [good.eq_def] at hg
  rcases hc with hc | hc
  all_goals
    cases v <;> simp only [hc, hd] at h hI hg
    case list xs =>
      simp only [Res.bind_eq_ok, Res.ok.injEq] at h
      obtain ⟨es, hrl, rfl⟩ := h
      split at hI
      next g2 et het =>
        obtain ⟨rfl, hel⟩ := derefC_elemTy hd het
        rw [hel] at hrl
        simp only [hel] at hg
        obtain ⟨vals, hl, rfl⟩ := Option.map_eq_some_iff.mp hI
        simp [evalGo, ih xs rfl g2 et es vals hrl hg hl]
      next => cases hI
    case map kvs =>
      -- `{}` written for a list or set (and, on the Go side, any other map literal: fault tolerance)
      cases h
      split at hI
      · cases hI; rfl
      · cases hI
    case ident s x =>
      split at hI
      next l hr => cases hI; exact identOr_sound ha h hr
      next => cases hI
    all_goals cases hI

theorem map_sound {v : CV} {g : Nat} {t : ATy} {e : GoExpr} {val : GoVal} (hc : t.cat = .map)
    (ih : ∀ kvs, v = .map kvs → SoundP E ρG ρI root gv kvs)
    (h : resolveConst E root gv g t v = .ok e) (hg : good E g t v = true)
    (hI : evalIDL E ρI g gv t v = some val) : evalGo E ρG e = some val := by
  simp only [rc_map hc, Res.bind_eq_ok] at h
  obtain ⟨ty, -, ⟨g', t'⟩, hd, h⟩ := h
  rw [evalIDL.eq_def] at hI
  rw [good.eq_def] at hg
  cases v <;> simp only [hc, hd] at h hI hg
  case map kvs =>
    simp only [Res.bind_eq_ok, Res.ok.injEq] at h
    obtain ⟨es, hrl, rfl⟩ := h
    split at hI
    next g2 kt vt het =>
      obtain ⟨rfl, hk, hel⟩ := derefC_mapTy hd het
      rw [hk, hel] at hrl
      simp only [hk, hel] at hg
      obtain ⟨vals, hl, rfl⟩ := Option.map_eq_some_iff.mp hI
      simp [evalGo, ih kvs rfl g2 kt vt es vals hrl hg hl]
    next => cases hI
  case list xs =>
    cases h
    split at hI
    · cases hI; rfl
    · cases hI
  case ident s x =>
    split at hI
    next m hr => cases hI; exact identOr_sound ha h hr
    next => cases hI
  all_goals cases hI

theorem strct_sound {v : CV} {g : Nat} {t : ATy} {e : GoExpr} {val : GoVal} (hc : t.cat = .strct)
    (ih : ∀ kvs, v = .map kvs → SoundM E ρG ρI root gv kvs)
    (h : resolveConst E root gv g t v = .ok e) (hg : good E g t v = true)
    (hI : evalIDL E ρI g gv t v = some val) : evalGo E ρG e = some val := by
  simp only [rc_strct hc, Res.bind_eq_ok] at h
  obtain ⟨ty, -, h⟩ := h
  rw [evalIDL.eq_def] at hI
  rw [good.eq_def] at hg
  cases v <;> simp only [hc] at hI hg h
  case map kvs =>
    simp only [Res.bind_eq_ok, Res.ok.injEq] at h
    obtain ⟨⟨file, st⟩, hso, ents, hrm, rfl⟩ := h
    simp only [hso] at hI hg
    obtain ⟨vals, hl, rfl⟩ := Option.map_eq_some_iff.mp hI
    simp [evalGo, structOf_find hso, ih kvs rfl file st ents vals hrm hg hl]
  case ident s x =>
    split at hI
    next fs hr => cases hI; exact identOr_sound ha h hr
    next => cases hI
  all_goals cases hI

/-- the hypotheses have the shape `v = .list xs → …` so that the structural recursion of `rc_sound` can discharge them from
    sub-terms only -/
theorem rc_sound_of {v : CV} (ihL : ∀ xs, v = .list xs → SoundL E ρG ρI root gv xs)
    (ihP : ∀ kvs, v = .map kvs → SoundP E ρG ρI root gv kvs) (ihM : ∀ kvs, v = .map kvs → SoundM E ρG ρI root gv kvs) :
    Sound E ρG ρI root gv v := by
  intro g t e val h hg hI
  cases hc : t.cat
  case list => exact seq_sound ha root gv (Or.inl hc) ihL h hg hI
  case set => exact seq_sound ha root gv (Or.inr hc) ihL h hg hI
  case map => exact map_sound ha root gv hc ihP h hg hI
  case strct => exact strct_sound ha root gv hc ihM h hg hI
  all_goals
    rw [resolveConst.eq_def] at h
    rw [evalIDL.eq_def] at hI
    simp only [hc] at h hI
  case bool => exact onBool_sound ha h hI
  case i8 | i16 | i32 | i64 => exact onInt_sound ha (by rw [hc]; rfl) h hI
  case dbl => exact onDouble_sound ha h hI
  case str | bin => exact onStrBin_sound ha h hI
  case enum => exact onEnum_sound ha h hI

-- `ha` reaches the three loops only through their calls of `rc_sound`, which the linter does not count as a use
set_option linter.unusedSectionVars false
mutual
theorem rc_sound : ∀ (v : CV), Sound E ρG ρI root gv v
  | .int _ | .dbl _ _ | .lit _ | .ident _ _ => rc_sound_of ha root gv nofun nofun nofun
  | .list xs => rc_sound_of ha root gv (fun _ h => by cases h; exact rl_sound xs) nofun nofun
  | .map kvs =>
      rc_sound_of ha root gv nofun (fun _ h => by cases h; exact rp_sound kvs) (fun _ h => by cases h; exact rm_sound kvs)
termination_by structural x => x
theorem rl_sound : ∀ (xs : List CV) (g : Nat) (et : ATy) (es : List GoExpr) (vals : List GoVal),
    resolveList E root gv g (some et) xs = .ok es → goodL E g et xs = true →
    evalIDLList E ρI g gv et xs = some vals → evalGoList E ρG es = some vals
  | [] => SoundL.nil
  | x :: r => SoundL.cons (rc_sound x) (rl_sound r)
termination_by structural x => x
theorem rp_sound : ∀ (kvs : List (CV × CV)) (g : Nat) (kt vt : ATy) (es : List (GoExpr × GoExpr)) (vals : List (GoVal × GoVal)),
    resolvePairs E root gv g (some kt) (some vt) kvs = .ok es →
    goodP E g (bin2str kt) vt kvs = true →
    evalIDLPairs E ρI g gv kt vt kvs = some vals → evalGoPairs E ρG es = some vals
  | [] => SoundP.nil
  | (k, v) :: r => SoundP.cons (rc_sound k) (rc_sound v) (rp_sound r)
termination_by structural x => x
theorem rm_sound : ∀ (kvs : List (CV × CV)) (file : Nat) (st : AStruct) (ents : List (Nat × GoExpr)) (vals : List (Nat × GoVal)),
    resolveMembers E root gv file st kvs = .ok ents → goodM E file st kvs = true →
    evalIDLMembers E ρI file gv st kvs = some vals → evalGoEnts E ρG ents = some vals
  | [] => SoundM.nil
  | (_, v) :: r => SoundM.cons (rc_sound v) (rm_sound r)
termination_by structural x => x
end

end main

theorem findConst_hasGlobal {E : Env} {f : Nat} {n : Name} {c : AConst} (h : E.findConst f n = some c) :
    E.hasGlobal f n = true := by
  unfold Env.findConst at h
  unfold Env.hasGlobal
  split at h
  next fe hf =>
    have : fe.consts.any (·.name == n) = true :=
      List.any_eq_true.mpr ⟨c, List.mem_of_find?_eq_some h, (List.find?_some h :)⟩
    simp [FileEnv.hasGlobal, this]
  next => cases h

theorem envAgree (E : Env) (hacc : Accepted E) (hgood : EnvGood E) :
    ∀ fuel, EnvAgree E (goEnvOf E fuel) (idlEnvOf E fuel)
  | 0 => ⟨nofun, nofun⟩
  | fuel + 1 => by
    have ih := envAgree E hacc hgood fuel
    constructor
    · intro f n v h
      simp only [idlEnvOf] at h
      simp only [goEnvOf]
      split at h
      next c hc =>
        obtain ⟨e, he⟩ := hacc f n c hc
        simp only [he]
        exact rc_sound ih f f c.val f c.ty e v he (hgood f n c hc) h
      next => cases h
    · intro f n v h
      simp only [idlEnvOf] at h
      split at h
      next c hc => exact findConst_hasGlobal hc
      next => cases h

theorem accepts_scalar (E : Env) (root gv g : Nat) (t : ATy) (v : CV)
    (hsc : t.cat ≠ .list ∧ t.cat ≠ .set ∧ t.cat ≠ .map ∧ t.cat ≠ .strct) :
    accepts E root gv g t v = accScalar E root gv g t v := by
  rw [accepts.eq_def]
  cases hc : t.cat <;> simp_all

section acc
variable (E : Env) (root gv : Nat)

theorem seq_isOk {g : Nat} {t : ATy} {v : CV} (hc : t.cat = .list ∨ t.cat = .set)
    (ih : ∀ xs, v = .list xs → ∀ g et, resOk (resolveList E root gv g et xs) = acceptsL E root gv g et xs) :
    resOk (resolveConst E root gv g t v) = accepts E root gv g t v := by
  rw [rc_seq hc, accepts.eq_def]
  rcases hc with hc | hc
  all_goals
    simp only [hc]
    refine resOk_bind _ _ fun ty => ?_
    cases derefC E g t with
    | ok p =>
      cases v with
      | list xs => exact (resOk_bind_ok _ _).trans (ih xs rfl _ _)
      | ident s x => exact resOk_identOr E gv x _
      | _ => rfl
    | _ => rfl

theorem map_isOk {g : Nat} {t : ATy} {v : CV} (hc : t.cat = .map)
    (ih : ∀ kvs, v = .map kvs → ∀ g kt vt, resOk (resolvePairs E root gv g kt vt kvs) = acceptsP E root gv g kt vt kvs) :
    resOk (resolveConst E root gv g t v) = accepts E root gv g t v := by
  rw [rc_map hc, accepts.eq_def]
  simp only [hc]
  refine resOk_bind _ _ fun ty => ?_
  cases derefC E g t with
  | ok p =>
    cases v with
    | map kvs => exact (resOk_bind_ok _ _).trans (ih kvs rfl _ _ _)
    | ident s x => exact resOk_identOr E gv x _
    | _ => rfl
  | _ => rfl

theorem strct_isOk {g : Nat} {t : ATy} {v : CV} (hc : t.cat = .strct)
    (ih : ∀ kvs, v = .map kvs → ∀ file st, resOk (resolveMembers E root gv file st kvs) = acceptsM E root gv file st kvs) :
    resOk (resolveConst E root gv g t v) = accepts E root gv g t v := by
  rw [rc_strct hc, accepts.eq_def]
  simp only [hc]
  refine resOk_bind _ _ fun ty => ?_
  cases v with
  | map kvs =>
    cases structOf E g t with
    | ok p => exact (resOk_bind_ok _ _).trans (ih kvs rfl _ _)
    | _ => rfl
  | ident s x => exact resOk_identOr E gv x _
  | _ => rfl

theorem rc_isOk_of {v : CV}
    (ihL : ∀ xs, v = .list xs → ∀ g et, resOk (resolveList E root gv g et xs) = acceptsL E root gv g et xs)
    (ihP : ∀ kvs, v = .map kvs → ∀ g kt vt, resOk (resolvePairs E root gv g kt vt kvs) = acceptsP E root gv g kt vt kvs)
    (ihM : ∀ kvs, v = .map kvs → ∀ file st, resOk (resolveMembers E root gv file st kvs) = acceptsM E root gv file st kvs)
    (g : Nat) (t : ATy) : resOk (resolveConst E root gv g t v) = accepts E root gv g t v := by
  cases hc : t.cat
  case list => exact seq_isOk E root gv (Or.inl hc) ihL
  case set => exact seq_isOk E root gv (Or.inr hc) ihL
  case map => exact map_isOk E root gv hc ihP
  case strct => exact strct_isOk E root gv hc ihM
  all_goals
    rw [resolveConst.eq_def, accepts.eq_def]
    simp only [hc, accScalar]
  case bool => exact onBool_isOk E gv v
  case i8 | i16 | i32 | i64 => exact onInt_isOk E root g gv t v
  case dbl => exact onDouble_isOk E gv v
  case str | bin => exact onStrBin_isOk E gv t v
  case enum => exact onEnum_isOk E gv v

mutual
theorem rc_isOk : ∀ (v : CV) (g : Nat) (t : ATy), resOk (resolveConst E root gv g t v) = accepts E root gv g t v
  | .int _ | .dbl _ _ | .lit _ | .ident _ _ => rc_isOk_of E root gv nofun nofun nofun
  | .list xs => rc_isOk_of E root gv (fun _ h => by cases h; exact rl_isOk xs) nofun nofun
  | .map kvs =>
      rc_isOk_of E root gv nofun (fun _ h => by cases h; exact rp_isOk kvs) (fun _ h => by cases h; exact rm_isOk kvs)
termination_by structural x => x
theorem rl_isOk : ∀ (xs : List CV) (g : Nat) (et : Option ATy), resOk (resolveList E root gv g et xs) = acceptsL E root gv g et xs
  | [], g, et => rfl
  | x :: r, g, none => rfl
  | x :: r, g, some e => by
      rw [resolveList_cons, acceptsL, ← rc_isOk x g e, ← rl_isOk r g (some e)]
      exact resOk_bind _ _ fun _ => resOk_bind_ok _ _
termination_by structural x => x
theorem rp_isOk : ∀ (kvs : List (CV × CV)) (g : Nat) (kt vt : Option ATy),
    resOk (resolvePairs E root gv g kt vt kvs) = acceptsP E root gv g kt vt kvs
  | [], g, kt, vt => rfl
  | (k, v) :: r, g, some kt, some vt => by
      rw [resolvePairs_cons, acceptsP, ← rc_isOk k g (bin2str kt), ← rc_isOk v g vt, ← rp_isOk r g (some kt) (some vt),
        Bool.and_assoc]
      exact resOk_bind _ _ fun _ => resOk_bind _ _ fun _ => resOk_bind_ok _ _
  | (k, v) :: r, g, none, vt => rfl
  | (k, v) :: r, g, some kt, none => rfl
termination_by structural x => x
theorem rm_isOk : ∀ (kvs : List (CV × CV)) (file : Nat) (st : AStruct),
    resOk (resolveMembers E root gv file st kvs) = acceptsM E root gv file st kvs
  | [], file, st => rfl
  | (k, v) :: r, file, st => by
      cases k with
      | lit n =>
        rw [resolveMembers_lit, acceptsM, ← rm_isOk r file st]
        cases findField st.fields n with
        | none => rfl
        | some p =>
          obtain ⟨idx, f⟩ := p
          dsimp only [Res.ofOption, Res.ok_bind]
          rw [← rc_isOk v file f.ty, Bool.and_assoc]
          exact resOk_bind _ _ fun _ => resOk_bind _ _ fun _ => resOk_bind_ok _ _
      | _ => rfl
termination_by structural x => x
end
end acc

end Gen.Defaults
