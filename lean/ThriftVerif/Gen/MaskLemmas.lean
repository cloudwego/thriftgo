import ThriftVerif.Gen.Mask
import ThriftVerif.Gen.StdLemmas
/-
  What is proved about `Gen.Mask`: under a nil mask `toM` is `embed ∘ toW` and `readTyM` is `readTy`; under `Good` masks the repaired
  templates announce exact counts, and a tree with exact counts encodes as the wire value it denotes.
  A statement about `toM` and its three loops is ONE conjunction proved through the induction principle of the function whose
  recursion it follows (`Std.toW` where `toM` copies it, `toM` itself where the mask matters). The conjuncts stand in the order of
  the principle's motives; `case n` counts the branches of the function in the order of its text, then those of each loop, the loops
  in an order that is neither the motives' nor the model file's: the legend at each theorem gives it.
-/
namespace Gen.Mask
open Wire Gen Gen.Std
open FieldMask (MaskOpt Sites)

def cnt (p : Nat → Bool) : Nat → Nat → Nat
  | _, 0 => 0
  | i, k + 1 => (if p i then 1 else 0) + cnt p (i + 1) k

theorem cnt_range' (p : Nat → Bool) (i k : Nat) : ((List.range' i k).filter p).length = cnt p i k := by
  fun_induction cnt p i k with
  | case1 => rfl
  | case2 i k ih =>
    rw [List.range'_succ, List.filter_cons, ← ih]
    split
    · rw [List.length_cons, Nat.add_comm]
    · rw [Nat.zero_add]

theorem cnt_range (p : Nat → Bool) (n : Nat) : ((List.range n).filter p).length = cnt p 0 n := by
  rw [List.range_eq_range']; exact cnt_range' p 0 n

theorem cnt_le (p : Nat → Bool) : ∀ k i, cnt p i k ≤ k := by
  intro k i
  rw [← cnt_range']
  exact Nat.le_trans (List.length_filter_le _ _) (Nat.le_of_eq List.length_range')

theorem cnt_succ_le (p : Nat → Bool) : ∀ k i, cnt p i (k + 1) ≤ cnt p i k + 1 := by
  intro k i
  rw [← cnt_range', ← cnt_range', List.range'_concat, List.filter_append, List.length_append]
  exact Nat.add_le_add_left (List.length_filter_le _ _) _

theorem cnt_all (p : Nat → Bool) : ∀ k i, (∀ j, j < i + k → p j = true) → cnt p i k = k := by
  intro k i h
  rw [← cnt_range', List.filter_eq_self.mpr, List.length_range']
  intro j hj
  exact h j (List.mem_range'_1.mp hj).2

/-- both repaired loops take one off the bound per rejected key -/
theorem foldl_count {α} (ex : α → Bool) : ∀ (ks : List α) (l : Nat),
    ks.foldl (fun l k => if ex k then l else l - 1) (ks.length + l) = (ks.filter ex).length + l
  | [], _ => rfl
  | k :: r, l => by
    rw [List.foldl_cons, List.filter_cons, List.length_cons]
    split
    · rw [List.length_cons, Nat.succ_add_eq_add_succ, Nat.succ_add_eq_add_succ]
      exact foldl_count ex r (l + 1)
    · rw [Nat.succ_add]
      -- `n + 1 - 1` computes to `n`
      exact foldl_count ex r l

/-- FieldWriteMap's count: the bound is not touched, every key is visited once -/
theorem precountKeys_eq {α} (ex : α → Bool) (keys : List α) : precountKeys ex keys = (keys.filter ex).length :=
  foldl_count ex keys 0

theorem precountFix_foldl (ex : Nat → Bool) (rem i l : Nat) :
    precountFix ex rem i l = (List.range' i rem).foldl (fun l k => if ex k then l else l - 1) l := by
  fun_induction precountFix ex rem i l with
  | case1 => rfl
  | case2 rem i l ih => rw [List.range'_succ, List.foldl_cons, ih]

theorem precountFix_count (ex : Nat → Bool) (n : Nat) : precountFix ex n 0 n = cnt ex 0 n := by
  rw [precountFix_foldl, ← cnt_range']
  simpa using foldl_count ex (List.range' 0 n) 0

theorem precountMut_done (ex : Nat → Bool) (fuel i l : Nat) (h : l ≤ i) : precountMut ex fuel i l = l := by
  cases fuel with
  | zero => rfl
  | succ fuel => simp only [precountMut, if_neg (Nat.not_lt.mpr h)]

/-- the loop as coded never announces fewer elements than are selected below its current bound `i + d`:
it only decrements at unselected indices it visits, and a decrement hides at most one selected index -/
theorem precountMut_ge (ex : Nat → Bool) : ∀ fuel i d, i + cnt ex i d ≤ precountMut ex fuel i (i + d) := by
  intro fuel
  induction fuel with
  | zero => intro i d; have := cnt_le ex d i; simp only [precountMut]; omega
  | succ fuel ih =>
    intro i d
    cases d with
    | zero => rw [precountMut_done ex _ i (i + 0) (Nat.le_refl _)]; exact Nat.le_refl _
    | succ d =>
      simp only [precountMut, cnt, show i < i + (d + 1) by omega, if_true]
      cases ex i with
      | true =>
        have := ih (i + 1) d
        simp only [↓reduceIte]
        rw [show i + (d + 1) = i + 1 + d by omega]; omega
      | false =>
        simp only [Bool.false_eq_true, ↓reduceIte]
        cases d with
        | zero => rw [precountMut_done ex fuel (i + 1) _ (by omega)]; simp only [cnt]; omega
        | succ d =>
          have := ih (i + 1) d
          have := cnt_succ_le ex d (i + 1)
          rw [show i + (d + 1 + 1) - 1 = i + 1 + d by omega]; omega

theorem precountMut_all (ex : Nat → Bool) (n : Nat) (h : ∀ j, j < n → ex j = true) (fuel i : Nat) : precountMut ex fuel i n = n := by
  fun_induction precountMut ex fuel i n with
  | case1 => rfl
  | case2 fuel i l hlt ih =>
    rw [h i hlt, if_pos rfl] at ih ⊢
    exact ih h
  | case3 => rfl

@[simp] theorem qField_none (cfg : Sites) (id : Int) : qField cfg .none id = .ok (.none, true) := rfl
@[simp] theorem qInt_none (cfg : Sites) (i : Int) : qInt cfg .none i = (.none, true) := rfl
@[simp] theorem qStr_none (cfg : Sites) (s : Bytes) : qStr cfg .none s = (.none, true) := rfl
theorem keyQ_ind {cfg : Sites} {fm : MaskOpt} {p : MaskOpt × Bool → Prop} (hi : ∀ i, p (qInt cfg fm i)) (hs : ∀ s, p (qStr cfg fm s))
    (k : Ty) (a : GoVal) : p (keyQ cfg k fm a) := by
  unfold keyQ
  split
  · exact hi _
  · split
    · exact hs _
    · exact hi _
@[simp] theorem keyQ_none (cfg : Sites) (k : Ty) (a : GoVal) : keyQ cfg k .none a = (.none, true) :=
  keyQ_ind (p := (· = (.none, true))) (fun _ => rfl) (fun _ => rfl) k a
@[simp] theorem allQ_none : (MaskOpt.none).allQ = true := rfl
@[simp] theorem lenShortcut_none (T : Tpl) : lenShortcut T .none = true := by simp [lenShortcut, isBlackQ]
@[simp] theorem reqMask_none (T : Tpl) (b : Bool) : reqMask T (.none, b) = .none := by unfold reqMask; split <;> rfl
@[simp] theorem childMask_noOwn (O : Opts) (fm : MaskOpt) : childMask O none fm = fm := by
  unfold childMask; split <;> rfl
@[simp] theorem Env.get_nil (j : Nat) : Env.get [] j = none := rfl

def Res.map {α β} (f : α → β) : Res α → Res β
  | .ok a => .ok (f a)
  | .err => .err
  | .panic => .panic

theorem Res.map_ok {α β} (f : α → β) (a : α) : Res.map f (.ok a) = .ok (f a) := rfl

theorem Res.map_bind {α β γ} (x : Res α) (f : α → Res β) (g : β → γ) :
    Res.map g (x >>= f) = x >>= fun a => Res.map g (f a) := by
  cases x <;> rfl

theorem Res.bind_map {α β γ} (x : Res α) (f : α → β) (g : β → Res γ) :
    (Res.map f x >>= g) = x >>= fun a => g (f a) := by
  cases x <;> rfl

@[simp] theorem embed_ttype (w : WVal) : (embed w).ttype = w.ttype := by
  cases w <;> rfl

mutual
theorem encM_embed (w : WVal) : encM (embed w) = encW w := by
  cases w with
  | struct fs => simp [embed, encM, encW, encMFields_embed fs]
  | map kt vt kvs => simp [embed, encM, encW, encMPairs_embed kvs]
  | set et xs | list et xs => simp [embed, encM, encW, encMList_embed xs]
  | _ => simp [embed, encM]
theorem encMFields_embed (fs : List (Nat × WVal)) : encMFields (embedFields fs) = encFields fs := by
  cases fs with
  | nil => simp [embedFields, encMFields, encFields]
  | cons a r => obtain ⟨i, v⟩ := a; simp [embedFields, encMFields, encFields, encM_embed v, encMFields_embed r]
theorem encMPairs_embed (kvs : List (WVal × WVal)) : encMPairs (embedPairs kvs) = encPairs kvs := by
  cases kvs with
  | nil => simp [embedPairs, encMPairs, encPairs]
  | cons a r => obtain ⟨k, v⟩ := a; simp [embedPairs, encMPairs, encPairs, encM_embed k, encM_embed v, encMPairs_embed r]
theorem encMList_embed (xs : List WVal) : encMList (embedList xs) = encList xs := by
  cases xs with
  | nil => simp [embedList, encMList, encList]
  | cons x r => simp [embedList, encMList, encList, encM_embed x, encMList_embed r]
theorem embedPairs_length (kvs : List (WVal × WVal)) : (embedPairs kvs).length = kvs.length := by
  cases kvs with
  | nil => simp [embedPairs]
  | cons a r => obtain ⟨k, v⟩ := a; simp [embedPairs, embedPairs_length r]
theorem embedList_length (xs : List WVal) : (embedList xs).length = xs.length := by
  cases xs with
  | nil => simp [embedList]
  | cons x r => simp [embedList, embedList_length r]
end

/-- The induction follows `MW.toW?` (cases 1–8: leaf, struct, then map, set and list, each once with the announced count already
replaced by the length, so that the headers agree, and once with another count, where nothing is denoted), `toWFields?` (9–11: end,
head and rest denote, one of them does not), `toWPairs?` (12–14), `toWList?` (15–17). -/
theorem encM_toW_all :
    (∀ m w, m.toW? = some w → encM m = encW w ∧ m.ttype = w.ttype) ∧
    (∀ xs ws, toWList? xs = some ws → encMList xs = encList ws ∧ xs.length = ws.length) ∧
    (∀ kvs ws, toWPairs? kvs = some ws → encMPairs kvs = encPairs ws ∧ kvs.length = ws.length) ∧
    (∀ fs ws, toWFields? fs = some ws → encMFields fs = encFields ws) := by
  apply MW.toW?.mutual_induct_unfolding
    (fun m r => ∀ w, r = some w → encM m = encW w ∧ m.ttype = w.ttype)
    (fun xs r => ∀ ws, r = some ws → encMList xs = encList ws ∧ xs.length = ws.length)
    (fun kvs r => ∀ ws, r = some ws → encMPairs kvs = encPairs ws ∧ kvs.length = ws.length)
    (fun fs r => ∀ ws, r = some ws → encMFields fs = encFields ws)
  case case2 =>
    intro fs ih w h
    obtain ⟨ws, hf, rfl⟩ := Option.map_eq_some_iff.mp h
    exact ⟨by simp [encM, encW, ih ws hf], rfl⟩
  case case3 | case5 | case7 =>
    intros
    rename_i ih w h
    obtain ⟨ws, hf, rfl⟩ := Option.map_eq_some_iff.mp h
    obtain ⟨he, hl⟩ := ih ws hf
    exact ⟨by simp [encM, encW, he, hl], rfl⟩
  case case10 =>
    intro id v r w ws hr hv ih1 ih2 _ h
    cases h
    obtain ⟨he, ht⟩ := ih1 w hv
    simp [encMFields, encFields, he, ht, ih2 ws hr]
  case case13 =>
    intro k v r a b ws hr hv hk ih1 ih2 ih3 _ h
    cases h
    obtain ⟨he, hl⟩ := ih3 ws hr
    simp [encMPairs, encPairs, (ih1 a hk).1, (ih2 b hv).1, he, hl]
  case case16 =>
    intro x r w ws hr hx ih1 ih2 _ h
    cases h
    obtain ⟨he, hl⟩ := ih2 ws hr
    simp [encMList, encList, (ih1 w hx).1, he, hl]
  all_goals intros
  all_goals rename_i h
  all_goals cases h
  case case9 => rfl
  all_goals exact ⟨rfl, rfl⟩

theorem encM_toW (m : MW) : ∀ w, m.toW? = some w → encM m = encW w ∧ m.ttype = w.ttype :=
  encM_toW_all.1 m

theorem encMFields_toW (fs : List (Nat × MW)) : ∀ ws, toWFields? fs = some ws → encMFields fs = encFields ws :=
  encM_toW_all.2.2.2 fs

theorem encMPairs_toW (kvs : List (MW × MW)) : ∀ ws, toWPairs? kvs = some ws → encMPairs kvs = encPairs ws ∧ kvs.length = ws.length :=
  encM_toW_all.2.2.1 kvs

theorem encMList_toW (xs : List MW) : ∀ ws, toWList? xs = some ws → encMList xs = encList ws ∧ xs.length = ws.length :=
  encM_toW_all.2.1 xs

theorem scalar_nil (ty : Ty) (v : GoVal) :
    (Res.ofOption (scalarW ty v) >>= fun w => Res.ok (MW.leaf w)) = Res.map embed (Res.ofOption (scalarW ty v)) := by
  unfold scalarW
  split <;> rfl

theorem toWList_length (P : Prog) (e : Ty) : ∀ (xs : List GoVal) (ws : List WVal), toWList P e xs = .ok ws → ws.length = xs.length
  | [], _, h => by cases h; rfl
  | x :: r, _, h => by
    obtain ⟨w, _, ws', h2, rfl⟩ := toWList_cons_ok.mp h
    rw [List.length_cons, List.length_cons, toWList_length P e r ws' h2]

theorem toWPairs_length (P : Prog) (k v : Ty) : ∀ (kvs : List (GoVal × GoVal)) (ws : List (WVal × WVal)),
    toWPairs P k v kvs = .ok ws → ws.length = kvs.length
  | [], _, h => by cases h; rfl
  | (a, b) :: r, _, h => by
    obtain ⟨wa, _, wb, _, ws', h2, rfl⟩ := toWPairs_cons_ok.mp h
    rw [List.length_cons, List.length_cons, toWPairs_length P k v r ws' h2]

/-- Under a nil mask every query passes with a nil sub-mask, so `toM` is a second copy of `toW`: the induction follows `toW`
(cases 1–14), `toWFields` (15–18), `toWList` (19, 20), `toWPairs` (21, 22). The one thing to show is that the header's `len(x)` is the
number of converted elements `embed` announces. -/
theorem toM_nil_all (P : Prog) (T : Tpl) (O : Opts) (cfg : Sites) :
    (∀ ty v, toM P T O cfg [] .none ty v = Res.map embed (toW P ty v)) ∧
    (∀ defs vs j, toMFields P T O cfg .none [] j defs vs = Res.map embedFields (toWFields P defs vs)) ∧
    (∀ k v kvs, toMPairs P T O cfg .none k v kvs = Res.map embedPairs (toWPairs P k v kvs)) ∧
    (∀ e xs i, toMList P T O cfg .none e i xs = Res.map embedList (toWList P e xs)) := by
  apply toW.mutual_induct P
  case case2 =>
    intro e xs ih
    simp only [toM, toW, lenShortcut_none, if_true, ih, Res.bind_map, Res.map_bind]
    exact Res.bind_congr fun ws h => by rw [← toWList_length P e xs ws h]; rfl
  case case5 =>
    intro e xs hc ih
    simp only [toM, toW, lenShortcut_none, if_true, if_neg hc, ih, Res.bind_map, Res.map_bind]
    exact Res.bind_congr fun ws h => by rw [← toWList_length P e xs ws h]; rfl
  -- a map: `Int(0)` passes too, so a key type that is not pre-counted announces `len(m)` as well
  case case7 =>
    intro k v kvs ih
    simp only [toM, toW, lenShortcut_none, qInt_none, Bool.or_true, if_true, ite_self, ih, Res.bind_map, Res.map_bind]
    exact Res.bind_congr fun ws h => by rw [← toWPairs_length P k v kvs ws h]; rfl
  case case12 =>
    intro i fs sd hs hc ih
    simp only [toM, toW, hs, if_neg hc, ih, Res.bind_map, Res.map_bind]
    rfl
  case case14 =>
    intros
    simp only [toM, toW, scalar_nil, *]
  case case17 =>
    intro f fs v vs hc ih1 ih2 j
    simp only [toMFields, toWFields, if_neg hc, qField_none, Env.get_nil, childMask_noOwn, Res.ok_bind, reqMask_none, if_true, ite_self,
      ih1, ih2, Res.bind_map, Res.map_bind, Res.map_ok, embedFields]
  case case20 =>
    intro e x r ih1 ih2 i
    simp only [toMList, toWList, qInt_none, if_true, ih1, ih2, Res.bind_map, Res.map_bind, Res.map_ok, embedList]
  case case22 =>
    intro k v a b r ih1 ih2 ih3
    simp only [toMPairs, toWPairs, keyQ_none, if_true, ih1, ih2, ih3, Res.bind_map, Res.map_bind, Res.map_ok, embedPairs]
  all_goals intros
  all_goals simp only [toM, toW, toMFields, toWFields, toMList, toWList, toMPairs, toWPairs, *, if_true, if_false]
  all_goals rfl

theorem toMList_nil (P : Prog) (T : Tpl) (O : Opts) (cfg : Sites) (xs : List GoVal) :
    ∀ e i, toMList P T O cfg .none e i xs = Res.map embedList (toWList P e xs) :=
  fun e => (toM_nil_all P T O cfg).2.2.2 e xs

theorem toMPairs_nil (P : Prog) (T : Tpl) (O : Opts) (cfg : Sites) (kvs : List (GoVal × GoVal)) :
    ∀ k v, toMPairs P T O cfg .none k v kvs = Res.map embedPairs (toWPairs P k v kvs) :=
  fun k v => (toM_nil_all P T O cfg).2.2.1 k v kvs

theorem toMFields_nil (P : Prog) (T : Tpl) (O : Opts) (cfg : Sites) (vs : List GoVal) :
    ∀ defs j, toMFields P T O cfg .none [] j defs vs = Res.map embedFields (toWFields P defs vs) :=
  fun defs => (toM_nil_all P T O cfg).2.1 defs vs

@[simp] theorem liftO_none {α} : (liftO (none : Option α)) = .err := rfl
@[simp] theorem liftO_some {α} (a : α) : liftO (some a) = .ok a := rfl

theorem liftO_map {α β} (o : Option α) (g : α → β) : liftO (o.map g) = liftO o >>= fun a => .ok (g a) := by
  cases o <;> rfl

/- The induction follows the PLAIN loop, whose cases say what the element readers returned. -/

theorem readListM_nil {d : MaskOpt → Bytes → Res (GoVal × Bytes)} {d' : Bytes → Option (GoVal × Bytes)}
    {skip : Bytes → Option Bytes} {q : Nat → MaskOpt × Bool}
    (hd : ∀ bs, d .none bs = liftO (d' bs)) (hq : ∀ i, q i = (.none, true)) (n : Nat) (bs : Bytes) :
    ∀ i, readListM d skip q n i bs = liftO (readListWith d' n bs) := by
  fun_induction readListWith d' n bs
  all_goals intro i
  all_goals simp only [readListM, if_true, liftO_some, Res.ok_bind, *]
  all_goals rfl

theorem readPairsM_nil {dk : Bytes → Res (GoVal × Bytes)} {dv : MaskOpt → Bytes → Res (GoVal × Bytes)}
    {dk' dv' : Bytes → Option (GoVal × Bytes)} {skip : Bytes → Option Bytes} {q : GoVal → MaskOpt × Bool}
    (hk : ∀ bs, dk bs = liftO (dk' bs)) (hv : ∀ bs, dv .none bs = liftO (dv' bs)) (hq : ∀ k, q k = (.none, true))
    (n : Nat) (bs : Bytes) : readPairsM dk dv skip q n bs = liftO (readPairsWith dk' dv' n bs) := by
  fun_induction readPairsWith dk' dv' n bs
  all_goals simp only [readPairsM, if_true, liftO_some, Res.ok_bind, *]
  all_goals rfl

theorem readFieldsM_nil {cfg : Sites} {rd : MaskOpt → Ty → Bytes → Res (GoVal × Bytes)} {rd' : Ty → Bytes → Option (GoVal × Bytes)}
    (hrd : ∀ ty bs, rd .none ty bs = liftO (rd' ty bs)) (defs : List FieldDef) (g : Nat) (bs : Bytes) (cur : List GoVal)
    (seen : List Bool) : readFieldsM cfg rd .none defs g bs cur seen = liftO (readFieldsWith rd' defs g bs cur seen) := by
  fun_induction readFieldsWith rd' defs g bs cur seen
  all_goals simp only [readFieldsM, qField_none, if_true, liftO_some, Res.ok_bind, *]
  all_goals rfl

theorem readTyM_nil (S : List StructDef) (cfg : Sites) (f : Nat) (ty : Ty) (bs : Bytes) :
    readTyM S cfg f .none ty bs = liftO (readTy S f ty bs) := by
  induction f using Nat.strongRecOn generalizing ty bs with | ind f ih => ?_
  fun_cases readTy S f ty bs
  case case1 => rfl
  all_goals have ih := ih _ (Nat.lt_succ_self _)
  all_goals simp only [readTyM, readListM_nil (d := fun m => readTyM S cfg _ m _) (ih _) fun i => qInt_none cfg (Int.ofNat i),
    readPairsM_nil (dv := fun m => readTyM S cfg _ m _) (ih _) (ih _) (keyQ_none cfg _), readFieldsM_nil ih,
    liftO_map, if_true, if_false, *]
  all_goals rfl

theorem read_nil (P : Prog) (cfg : Sites) (sidx : Nat) (bs : Bytes) :
    read P cfg .none sidx bs = liftO (Gen.Std.read P sidx bs) := by
  unfold read Gen.Std.read
  rw [readTyM_nil, liftO_map]

theorem readTyM_base (S : List StructDef) (cfg : Sites) (f : Nat) (m : MaskOpt) (ty : Ty) (bs : Bytes) (hb : ty.isBase = true) :
    readTyM S cfg (f + 1) m ty bs = liftO (readScalar ty bs) := by
  cases ty with
  | list _ | set _ | map _ _ | struct _ => cases hb
  | _ => simp only [readTyM]

theorem readListM_base (S : List StructDef) (cfg : Sites) (f : Nat) (e : Ty) (hb : e.isBase = true) (q : Nat → MaskOpt × Bool)
    (n : Nat) (bs : Bytes) : ∀ (i : Nat) (r : Bytes) (xs : List GoVal), readListWith (readScalar e) n bs = some (xs, r) →
      readListM (fun m => readTyM S cfg (f + 1) m e) (skipW e.ttype.code) q n i bs =
        .ok ((xs.zipIdx i).filterMap (fun p => if (q p.2).2 then some p.1 else none), r) := by
  fun_induction readListWith (readScalar e) n bs
  all_goals intro i r xs h
  all_goals cases h
  · rfl
  · rename_i hx _ _ hl ih
    simp only [readListM, List.zipIdx_cons, List.filterMap_cons]
    split
    · simp only [readTyM_base S cfg f _ e _ hb, hx, liftO_some, Res.ok_bind, ih (i + 1) _ _ hl]
    · simp only [skipW_base e hb, hx, Option.map_some, ih (i + 1) _ _ hl]

/-- the sub-masks generated code can get hold of, starting from `fm` -/
inductive Reach (cfg : Sites) : MaskOpt → MaskOpt → Prop
  | refl (m : MaskOpt) : Reach cfg m m
  | int {m m' : MaskOpt} (i : Int) : Reach cfg m m' → Reach cfg m (qInt cfg m' i).1
  | str {m m' : MaskOpt} (s : Bytes) : Reach cfg m m' → Reach cfg m (qStr cfg m' s).1
  | field {m m' m'' : MaskOpt} (id : Int) (b : Bool) : Reach cfg m m' → qField cfg m' id = .ok (m'', b) → Reach cfg m m''

/-- `All()` is honest: when it answers true, every index and key passes -/
def Coh (cfg : Sites) (m : MaskOpt) : Prop :=
  m.allQ = true → (∀ i, (qInt cfg m i).2 = true) ∧ (∀ s, (qStr cfg m s).2 = true)

def Good (cfg : Sites) (fm : MaskOpt) : Prop := ∀ m, Reach cfg fm m → Coh cfg m

theorem Reach.trans {cfg : Sites} {a b c : MaskOpt} (h1 : Reach cfg a b) (h2 : Reach cfg b c) : Reach cfg a c := by
  induction h2 with
  | refl => exact h1
  | int i _ ih => exact .int i ih
  | str s _ ih => exact .str s ih
  | field id b _ hq ih => exact .field id b ih hq

theorem Good.sub {cfg : Sites} {fm m : MaskOpt} (h : Good cfg fm) (hr : Reach cfg fm m) : Good cfg m :=
  fun m' hr' => h m' (hr.trans hr')

theorem Good.coh {cfg : Sites} {fm : MaskOpt} (h : Good cfg fm) : Coh cfg fm := h fm (.refl fm)

theorem Good.field {cfg : Sites} {fm m : MaskOpt} {b : Bool} (h : Good cfg fm) (id : Int) (hq : qField cfg fm id = .ok (m, b)) : Good cfg m :=
  h.sub (.field id b (.refl fm) hq)
theorem Good.key {cfg : Sites} {fm : MaskOpt} (h : Good cfg fm) : ∀ k a, Good cfg (keyQ cfg k fm a).1 :=
  keyQ_ind (p := fun q => Good cfg q.1) (fun i => h.sub (.int i (.refl fm))) (fun s => h.sub (.str s (.refl fm)))

theorem Coh.key {cfg : Sites} {fm : MaskOpt} (h : Coh cfg fm) (ha : fm.allQ = true) : ∀ k a, (keyQ cfg k fm a).2 = true :=
  keyQ_ind (p := fun q => q.2 = true) (h ha).1 (h ha).2

theorem reach_none {cfg : Sites} {m : MaskOpt} (h : Reach cfg .none m) : m = .none := by
  induction h with
  | refl => rfl
  | int i _ ih => rw [ih]; rfl
  | str s _ ih => rw [ih]; rfl
  | field id b _ hq ih => rw [ih] at hq; cases hq; rfl

theorem good_none (cfg : Sites) : Good cfg .none := by
  intro m h
  rw [reach_none h]
  intro _
  exact ⟨fun i => rfl, fun s => rfl⟩

/-- every map key type is one the templates pre-count for (integer or string key) -/
def tyKeysOk : Ty → Bool
  | .list e => tyKeysOk e
  | .set e => tyKeysOk e
  | .map k v => (isIntKey k || isStrKey k) && tyKeysOk v
  | _ => true

def KeysOk (P : Prog) : Prop := ∀ i sd, P.struct? i = some sd → ∀ f, f ∈ sd.fields → tyKeysOk f.ty = true

theorem zeroM_toW (ty : Ty) : ∃ w, (zeroM ty).toW? = some w := by
  cases ty <;> exact ⟨_, rfl⟩

theorem allQ_of_lenShortcut {T : Tpl} {fm : MaskOpt} (h : lenShortcut T fm = true) : fm.allQ = true := by
  simp only [lenShortcut, Bool.and_eq_true] at h; exact h.1

theorem count_ok (T : Tpl) (cfg : Sites) (fm : MaskOpt) (n : Nat) (hT : T.preMut = false) (hc : Coh cfg fm) :
    (if lenShortcut T fm then n else precountList T (fun i => (qInt cfg fm (Int.ofNat i)).2) n) =
      cnt (fun i => (qInt cfg fm (Int.ofNat i)).2) 0 n := by
  split
  · rename_i ha
    exact (cnt_all _ n 0 fun j _ => (hc (allQ_of_lenShortcut ha)).1 _).symm
  · simp only [precountList, hT, Bool.false_eq_true, if_false, precountFix_count]

theorem countKeys_ok (T : Tpl) (cfg : Sites) (fm : MaskOpt) (k : Ty) (kvs : List (GoVal × GoVal))
    (hk : (isIntKey k || isStrKey k) = true) (hc : Coh cfg fm) :
    (if (isIntKey k || isStrKey k) = true then
        (if lenShortcut T fm = true then kvs.length else precountKeys (fun a => (keyQ cfg k fm a).2) (kvs.map Prod.fst))
      else if (T.blackAll || (qInt cfg fm 0).2) = true then kvs.length else 0) =
      (kvs.filter fun q => (keyQ cfg k fm q.1).2).length := by
  rw [if_pos hk]
  split
  · rename_i ha
    rw [List.filter_eq_self.mpr (fun q _ => hc.key (allQ_of_lenShortcut ha) k q.1)]
  · rw [precountKeys_eq, List.filter_map, List.length_map]; rfl

theorem tyKeysOk_of_key (k : Ty) (h : (isIntKey k || isStrKey k) = true) : tyKeysOk k = true := by
  cases k with
  | list _ | set _ | map _ _ => cases h
  | _ => rfl

theorem Good.reqMask {cfg : Sites} {sm : MaskOpt} (hg : Good cfg sm) (T : Tpl) {b : Bool} {id : Int} {q : MaskOpt × Bool}
    (hq : (if b then .ok (.none, true) else qField cfg sm id) = Res.ok q) : Good cfg (reqMask T q) := by
  unfold Mask.reqMask
  split
  · split at hq
    · cases hq; exact good_none cfg
    · exact hg.field id (b := q.2) hq
  · exact good_none cfg

theorem toWFields?_cons {id : Nat} {w : MW} {ws : List (Nat × MW)} (hw : ∃ w0, w.toW? = some w0) (hws : ∃ wl, toWFields? ws = some wl) :
    ∃ wl, toWFields? ((id, w) :: ws) = some wl := by
  obtain ⟨w0, hw0⟩ := hw
  obtain ⟨wl, hwl⟩ := hws
  exact ⟨(id, w0) :: wl, by simp only [toWFields?, hw0, hwl]⟩

/-- The induction follows `toM` (cases 1–14), `toMFields` (15–19), `toMList` (20–22), `toMPairs` (23–25): the mask changes at every
step and stays `Good`; a container's announced count is the number of selected indices or keys (`count_ok`, `countKeys_ok`), which is
what the loop wrote. `env.get j = none`: no mask was set on a child beforehand. -/
theorem toM_wf_all (P : Prog) (T : Tpl) (O : Opts) (cfg : Sites) (hT : T.preMut = false) (hP : KeysOk P) :
    (∀ env fm ty v m, (∀ j, env.get j = none) → Good cfg fm → tyKeysOk ty = true → toM P T O cfg env fm ty v = .ok m →
      ∃ w, m.toW? = some w) ∧
    (∀ sm env j defs vs ws, (∀ j, env.get j = none) → Good cfg sm → (∀ f, f ∈ defs → tyKeysOk f.ty = true) →
      toMFields P T O cfg sm env j defs vs = .ok ws → ∃ wl, toWFields? ws = some wl) ∧
    (∀ fm k v kvs ws, Good cfg fm → tyKeysOk k = true → tyKeysOk v = true → toMPairs P T O cfg fm k v kvs = .ok ws →
      (∃ wl, toWPairs? ws = some wl) ∧ ws.length = (kvs.filter fun q => (keyQ cfg k fm q.1).2).length) ∧
    (∀ fm e i xs ws, Good cfg fm → tyKeysOk e = true → toMList P T O cfg fm e i xs = .ok ws →
      (∃ wl, toWList? ws = some wl) ∧ ws.length = cnt (fun j => (qInt cfg fm (Int.ofNat j)).2) i xs.length) := by
  apply toM.mutual_induct P T O cfg
  case case2 =>
    intro env fm e xs ih m _ hg hk h
    simp only [toM, Res.bind_eq_ok, Res.ok.injEq] at h
    obtain ⟨ws, h1, rfl⟩ := h
    obtain ⟨⟨wl, hwl⟩, hlen⟩ := ih ws hg hk h1
    exact ⟨.list e.ttype wl, by simp only [MW.toW?, count_ok T cfg fm xs.length hT hg.coh, hlen, if_true, hwl, Option.map]⟩
  case case5 =>
    intro env fm e xs hc ih m _ hg hk h
    simp only [toM, if_neg hc, Res.bind_eq_ok, Res.ok.injEq] at h
    obtain ⟨ws, h1, rfl⟩ := h
    obtain ⟨⟨wl, hwl⟩, hlen⟩ := ih ws hg hk h1
    exact ⟨.set e.ttype wl, by simp only [MW.toW?, count_ok T cfg fm xs.length hT hg.coh, hlen, if_true, hwl, Option.map]⟩
  case case7 =>
    intro env fm k v kvs ih m _ hg hk h
    simp only [tyKeysOk, Bool.and_eq_true] at hk
    simp only [toM, Res.bind_eq_ok, Res.ok.injEq] at h
    obtain ⟨ws, h1, rfl⟩ := h
    obtain ⟨⟨wl, hwl⟩, hlen⟩ := ih ws hg (tyKeysOk_of_key k hk.1) hk.2 h1
    exact ⟨.map k.ttype v.ttype wl, by simp only [MW.toW?, countKeys_ok T cfg fm k kvs hk.1 hg.coh, hlen, if_true, hwl, Option.map]⟩
  case case12 =>
    intro env fm i fs sd hs hc ih m he hg _ h
    simp only [toM, hs, if_neg hc, Res.bind_eq_ok, Res.ok.injEq] at h
    obtain ⟨ws, h1, rfl⟩ := h
    obtain ⟨wl, hwl⟩ := ih ws he hg (hP i sd hs) h1
    exact ⟨.struct wl, by simp only [MW.toW?, hwl, Option.map]⟩
  case case14 =>
    intros
    rename_i h
    simp only [toM, *, Res.bind_eq_ok, Res.ok.injEq] at h
    obtain ⟨w, _, rfl⟩ := h
    exact ⟨w, rfl⟩
  case case16 =>
    intro sm env j f fs v vs hc ih ws he hg hk h
    rw [toMFields, if_pos hc] at h
    exact ih ws he hg (List.forall_mem_cons.mp hk).2 h
  case case17 =>
    intro sm env j f fs v vs c1 c2 ih1 ih2 ws he hg hk h
    obtain ⟨hkf, hkr⟩ := List.forall_mem_cons.mp hk
    rw [toMFields, if_neg c1, if_pos c2] at h
    simp only [Res.bind_eq_ok, Res.ok.injEq] at h
    obtain ⟨q, hq, w, h1, ws', h2, rfl⟩ := h
    specialize ih1 q w
    simp only [he j, childMask_noOwn, ite_self] at h1 ih1
    exact toWFields?_cons (ih1 (fun _ => rfl) (hg.reqMask T hq) hkf h1) (ih2 ws' he hg hkr h2)
  case case18 =>
    intro sm env j f fs v vs c1 c2 ih1 ih2 ws he hg hk h
    obtain ⟨hkf, hkr⟩ := List.forall_mem_cons.mp hk
    rw [toMFields, if_neg c1, if_neg c2] at h
    obtain ⟨q, hq, h⟩ := (Res.bind_eq_ok _ _ _).mp h
    have hr := fun ws => ih2 ws he hg hkr
    by_cases hq2 : q.2 = true
    · rw [if_pos hq2] at h
      simp only [Res.bind_eq_ok, Res.ok.injEq] at h
      obtain ⟨w, h1, ws', h2, rfl⟩ := h
      specialize ih1 q w
      simp only [he j, childMask_noOwn, ite_self] at h1 ih1
      exact toWFields?_cons (ih1 (fun _ => rfl) (hg.field f.id (b := q.2) hq) hkf h1) (hr ws' h2)
    rw [if_neg hq2] at h
    split at h
    · simp only [Res.bind_eq_ok, Res.ok.injEq] at h
      obtain ⟨ws', h2, rfl⟩ := h
      exact toWFields?_cons (zeroM_toW f.ty) (hr ws' h2)
    · exact hr ws h
  case case21 =>
    intro fm e i x r hp ih1 ih2 ws hg hk h
    simp only [toMList, if_pos hp, Res.bind_eq_ok, Res.ok.injEq] at h
    obtain ⟨w, h1, ws', h2, rfl⟩ := h
    obtain ⟨w0, hw0⟩ := ih1 w (fun _ => rfl) (hg.sub (.int _ (.refl fm))) hk h1
    obtain ⟨⟨wl, hwl⟩, hlen⟩ := ih2 ws' hg hk h2
    refine ⟨⟨w0 :: wl, by simp only [toWList?, hw0, hwl]⟩, ?_⟩
    rw [List.length_cons, List.length_cons, cnt, if_pos hp, hlen, Nat.add_comm]
  case case22 =>
    intro fm e i x r hp ih ws hg hk h
    simp only [toMList, if_neg hp] at h
    obtain ⟨hw, hlen⟩ := ih ws hg hk h
    refine ⟨hw, ?_⟩
    rw [hlen, List.length_cons, cnt, if_neg hp, Nat.zero_add]
  case case24 =>
    intro fm k v a b r hp ih1 ih2 ih3 ws hg hkk hkv h
    simp only [toMPairs, if_pos hp, Res.bind_eq_ok, Res.ok.injEq] at h
    obtain ⟨wa, h1, wb, h2, ws', h3, rfl⟩ := h
    obtain ⟨a0, ha0⟩ := ih1 wa (fun _ => rfl) (good_none cfg) hkk h1
    obtain ⟨b0, hb0⟩ := ih2 wb (fun _ => rfl) (hg.key k a) hkv h2
    obtain ⟨⟨wl, hwl⟩, hlen⟩ := ih3 ws' hg hkk hkv h3
    exact ⟨⟨(a0, b0) :: wl, by simp only [toWPairs?, ha0, hb0, hwl]⟩, by simp [hp, hlen]⟩
  case case25 =>
    intro fm k v a b r hp ih ws hg hkk hkv h
    simp only [toMPairs, if_neg hp] at h
    obtain ⟨hw, hlen⟩ := ih ws hg hkk hkv h
    exact ⟨hw, by simp [hp, hlen]⟩
  all_goals intros
  all_goals rename_i h
  all_goals simp only [toM, toMFields, toMList, toMPairs, *, if_true, if_false] at h
  all_goals cases h
  case case20 | case23 => exact ⟨⟨[], rfl⟩, rfl⟩
  all_goals exact ⟨_, rfl⟩

theorem toMList_wf (P : Prog) (T : Tpl) (O : Opts) (cfg : Sites) (hT : T.preMut = false) (hP : KeysOk P) (xs : List GoVal) :
    ∀ fm e i ws, Good cfg fm → tyKeysOk e = true → toMList P T O cfg fm e i xs = .ok ws →
      (∃ wl, toWList? ws = some wl) ∧ ws.length = cnt (fun j => (qInt cfg fm (Int.ofNat j)).2) i xs.length :=
  fun fm e i => (toM_wf_all P T O cfg hT hP).2.2.2 fm e i xs

theorem toMPairs_wf (P : Prog) (T : Tpl) (O : Opts) (cfg : Sites) (hT : T.preMut = false) (hP : KeysOk P) (kvs : List (GoVal × GoVal)) :
    ∀ fm k v ws, Good cfg fm → tyKeysOk k = true → tyKeysOk v = true → toMPairs P T O cfg fm k v kvs = .ok ws →
      (∃ wl, toWPairs? ws = some wl) ∧ ws.length = (kvs.filter fun q => (keyQ cfg k fm q.1).2).length :=
  fun fm k v => (toM_wf_all P T O cfg hT hP).2.2.1 fm k v kvs

theorem toMFields_wf (P : Prog) (T : Tpl) (O : Opts) (cfg : Sites) (hT : T.preMut = false) (hP : KeysOk P) (vs : List GoVal) :
    ∀ sm j defs ws, Good cfg sm → (∀ f, f ∈ defs → tyKeysOk f.ty = true) → toMFields P T O cfg sm [] j defs vs = .ok ws →
      ∃ wl, toWFields? ws = some wl :=
  fun sm j defs ws => (toM_wf_all P T O cfg hT hP).2.1 sm [] j defs vs ws fun _ => rfl

/-- the elements of a list/set the mask selects (positions counted from `i`), with the sub-mask each is written under -/
def selIdx (cfg : Sites) (fm : MaskOpt) (i : Nat) (xs : List GoVal) : List (GoVal × MaskOpt) :=
  (xs.zipIdx i).filterMap fun p =>
    if (qInt cfg fm (Int.ofNat p.2)).2 then some (p.1, (qInt cfg fm (Int.ofNat p.2)).1) else none

/-- the entries of a map the mask selects, with the sub-mask the value is written under -/
def selKeys (cfg : Sites) (k : Ty) (fm : MaskOpt) (kvs : List (GoVal × GoVal)) : List ((GoVal × GoVal) × MaskOpt) :=
  kvs.filterMap fun p => if (keyQ cfg k fm p.1).2 then some (p, (keyQ cfg k fm p.1).1) else none

def resMapM {α β} (f : α → Res β) : List α → Res (List β)
  | [] => .ok []
  | a :: r => do
    let b ← f a
    let bs ← resMapM f r
    .ok (b :: bs)

theorem selIdx_cons (cfg : Sites) (fm : MaskOpt) (i : Nat) (x : GoVal) (r : List GoVal) :
    selIdx cfg fm i (x :: r) =
      if (qInt cfg fm (Int.ofNat i)).2 then (x, (qInt cfg fm (Int.ofNat i)).1) :: selIdx cfg fm (i + 1) r
      else selIdx cfg fm (i + 1) r := by
  by_cases h : (qInt cfg fm (Int.ofNat i)).2 = true <;>
    simp only [selIdx, List.zipIdx_cons, List.filterMap_cons, h, Bool.false_eq_true, if_true, if_false]

theorem selKeys_cons (cfg : Sites) (k : Ty) (fm : MaskOpt) (p : GoVal × GoVal) (r : List (GoVal × GoVal)) :
    selKeys cfg k fm (p :: r) =
      if (keyQ cfg k fm p.1).2 then (p, (keyQ cfg k fm p.1).1) :: selKeys cfg k fm r else selKeys cfg k fm r := by
  by_cases h : (keyQ cfg k fm p.1).2 = true <;> simp only [selKeys, List.filterMap_cons, h, Bool.false_eq_true, if_true, if_false]

theorem toMList_spec (P : Prog) (T : Tpl) (O : Opts) (cfg : Sites) (fm : MaskOpt) (e : Ty) :
    ∀ (xs : List GoVal) (i : Nat), toMList P T O cfg fm e i xs = resMapM (fun p => toM P T O cfg [] p.2 e p.1) (selIdx cfg fm i xs) := by
  intro xs
  induction xs with
  | nil => intro i; rfl
  | cons x r ih =>
    intro i
    simp only [toMList, selIdx_cons]
    split
    · simp only [resMapM, ih (i + 1)]
    · exact ih (i + 1)

theorem toMPairs_spec (P : Prog) (T : Tpl) (O : Opts) (cfg : Sites) (fm : MaskOpt) (k v : Ty) :
    ∀ (kvs : List (GoVal × GoVal)), toMPairs P T O cfg fm k v kvs =
      resMapM (fun p => do
        let wa ← toM P T O cfg [] .none k p.1.1
        let wb ← toM P T O cfg [] p.2 v p.1.2
        Res.ok (wa, wb)) (selKeys cfg k fm kvs) := by
  intro kvs
  induction kvs with
  | nil => rfl
  | cons p r ih =>
    obtain ⟨a, b⟩ := p
    simp only [toMPairs, selKeys_cons]
    split
    · simp only [resMapM, ← ih, Res.bind_assoc, Res.ok_bind]
    · exact ih

end Gen.Mask
