import ThriftVerif.Lib.Plugin
import ThriftVerif.Lib.PluginSplitLemmas
/- Lemmas about Lib/Plugin for Props/C11.  Include compression: what `compressKids` emits stands for its input under the
memo's pointees (`Decomp`, the relation that `decompressKids` computes), by the invariant `Inv` on the visited set and the
pointees, and the plugin's `collectKids` rebuilds those pointees.  Then the data trailer (a message ending in STOP has none, an
appended one is found), the version gate (`atoi` on digit strings, `supportDataTrailer` on `vA.B.C[-pre]`), and what one
`execute`/`step` and the loops `generateCalls`, `paramsSeen` hand to each plugin. -/
namespace Plugin

theorem stripPrefix_append (p s : Bytes) : stripPrefix (p ++ s) p = some s := by
  induction p with
  | nil => cases s <;> rfl
  | cons a p ih => simp [stripPrefix, ih]

theorem hasPrefix_iff_strip (s p : Bytes) : hasPrefix s p = (stripPrefix s p).isSome := by
  fun_induction hasPrefix s p with
  | case1 s => simp [stripPrefix]
  | case2 => rfl
  | case3 a s b p ih =>
    rw [stripPrefix, ih]
    by_cases h : a = b
    · simp [h]
    · simp [h]

variable {α : Type}

theorem kids_induction {motive : List (Tree α) → Prop} (nil : motive [])
    (cons : ∀ inc fn body ks r, motive ks → motive r → motive (.node inc fn body ks :: r)) (l : List (Tree α)) :
    motive l :=
  Tree.rec_1 (motive_1 := fun t => motive t.kids) (fun _ _ _ _ h => h) nil
    (fun | .node inc fn body ks, r, hk, hr => cons inc fn body ks r hk hr) l

theorem nodesK_cons (inc : α) (fn : Bytes) (body : α) (ks r : List (Tree α)) :
    nodesK (.node inc fn body ks :: r) = .node inc fn body ks :: (nodesK ks ++ nodesK r) := by
  simp only [nodesK, Tree.descs]

theorem forall_mem_nodesK_cons {p : Tree α → Prop} {inc : α} {fn : Bytes} {body : α} {ks r : List (Tree α)} :
    (∀ d, d ∈ nodesK (.node inc fn body ks :: r) → p d) ↔
      p (.node inc fn body ks) ∧ (∀ d, d ∈ nodesK ks → p d) ∧ ∀ d, d ∈ nodesK r → p d := by
  simp only [nodesK_cons, List.forall_mem_cons, List.forall_mem_append]

theorem sizeK_cons (inc : α) (fn : Bytes) (body : α) (ks r : List (Tree α)) :
    sizeK (.node inc fn body ks :: r) = sizeK ks + 1 + sizeK r := by
  simp only [sizeK, Tree.size]

theorem Tree.size_eq (t : Tree α) : t.size = sizeK t.kids + 1 := by
  cases t; simp only [Tree.size, Tree.kids]

theorem depthK_cons (inc : α) (fn : Bytes) (body : α) (ks r : List (Tree α)) :
    depthK (.node inc fn body ks :: r) = max (depthK ks + 1) (depthK r) := by
  simp only [depthK, Tree.depth]

theorem decompressKids_nil (f : Nat) (m : Heap α) : decompressKids f m [] = .ok [] := by
  cases f <;> rfl

theorem decompressKids_succ (f : Nat) (m : Heap α) (l : List (Tree α)) :
    decompressKids (f + 1) m l = decListWith (decompressKids f m) m l := by
  cases l with
  | nil => simp [decompressKids, decListWith]
  | cons k r => simp [decompressKids]

theorem Heap.ins_self (h : Heap α) (k : Bytes) (v : Tree α) : h.ins k v k = some v := if_pos rfl
theorem Heap.ins_ne (h : Heap α) {k x : Bytes} (v : Tree α) (hx : x ≠ k) : h.ins k v x = h x := if_neg hx

def CState.mark (s : CState α) (fn : Bytes) : CState α := ⟨fn :: s.vis, s.heap⟩
def CState.fin (s1 : CState α) (fn : Bytes) (c : Tree α) : CState α := ⟨s1.vis, Heap.ins fn c s1.heap⟩

theorem compressKids_nil (dflt : α) (s : CState α) : compressKids dflt [] s = ([], s) := by simp only [compressKids]

theorem compressKids_visited {dflt inc : α} {fn : Bytes} {body : α} {ks r : List (Tree α)} {s : CState α}
    (h : fn ∈ s.vis) :
    compressKids dflt (.node inc fn body ks :: r) s =
      (.node inc (refPrefix ++ fn) dflt [] :: (compressKids dflt r s).1, (compressKids dflt r s).2) := by
  have h' : s.vis.contains fn = true := List.contains_iff_mem.mpr h
  simp only [compressKids, compressNode, Tree.fn, Tree.inc, h', if_true]

theorem compressKids_fresh {dflt inc : α} {fn : Bytes} {body : α} {ks r : List (Tree α)} {s : CState α}
    (h : fn ∉ s.vis) :
    compressKids dflt (.node inc fn body ks :: r) s =
      let p := compressKids dflt ks (s.mark fn)
      let q := compressKids dflt r (p.2.fin fn (.node inc fn body p.1))
      (.node inc fn body p.1 :: q.1, q.2) := by
  have h' : s.vis.contains fn = false := by simpa using h
  simp only [compressKids, compressNode, Tree.fn, Tree.inc, Tree.body, h', Bool.false_eq_true, if_false,
    CState.mark, CState.fin]

theorem collectKids_nil (m : Heap α) : collectKids ([] : List (Tree α)) m = m := by simp only [collectKids]

theorem collectKids_cons (inc : α) (fn : Bytes) (body : α) (ks r : List (Tree α)) (m : Heap α) :
    collectKids (.node inc fn body ks :: r) m =
      if (stripPrefix fn refPrefix).isSome then collectKids r m
      else collectKids r (collectKids ks (m.ins fn (.node inc fn body ks))) := by
  simp only [collectKids, collectNode, Tree.fn, hasPrefix_iff_strip]

theorem depthK_cons_le {inc : α} {fn : Bytes} {body : α} {ks r : List (Tree α)} {f : Nat}
    (h : depthK (.node inc fn body ks :: r) ≤ f) : ∃ g, f = g + 1 ∧ depthK ks ≤ g ∧ depthK r ≤ g + 1 := by
  rw [depthK_cons] at h
  have h1 : depthK ks + 1 ≤ f := Nat.le_trans (Nat.le_max_left ..) h
  obtain ⟨g, rfl⟩ := Nat.exists_eq_succ_of_ne_zero (Nat.ne_of_gt (Nat.lt_of_lt_of_le (Nat.succ_pos _) h1))
  exact ⟨g, rfl, Nat.le_of_succ_le_succ h1, Nat.le_trans (Nat.le_max_right ..) h⟩

theorem size_le_of_mem_nodesK (l : List (Tree α)) : ∀ d, d ∈ nodesK l → d.size ≤ sizeK l := by
  induction l using kids_induction with
  | nil => exact fun d hd => by simp [nodesK] at hd
  | cons inc fn body ks r ihk ihr =>
    rw [forall_mem_nodesK_cons, sizeK_cons]
    exact ⟨Nat.le_add_right (sizeK ks + 1) _,
      fun d hd => Nat.le_trans (ihk d hd) (Nat.le_trans (Nat.le_succ _) (Nat.le_add_right _ _)),
      fun d hd => Nat.le_trans (ihr d hd) (Nat.le_add_left _ _)⟩

theorem kids_ne_of_mem_nodesK {ks : List (Tree α)} {d : Tree α} (hd : d ∈ nodesK ks) : d.kids ≠ ks := by
  intro h
  have hsize := size_le_of_mem_nodesK ks d hd
  rw [Tree.size_eq, h] at hsize
  exact Nat.not_succ_le_self _ hsize

namespace Heap

def le (h h' : Heap α) : Prop := ∀ k v, h k = some v → h' k = some v

theorem le_refl (h : Heap α) : h.le h := fun _ _ x => x
theorem le_trans {a b c : Heap α} (h1 : a.le b) (h2 : b.le c) : a.le c := fun k v x => h2 k v (h1 k v x)

theorem le_ins (h : Heap α) (k : Bytes) (v : Tree α) (hk : h k = none) : h.le (h.ins k v) := by
  intro k' v' hv
  have e : k' ≠ k := fun e => by rw [e, hk] at hv; cases hv
  rw [ins_ne h v e, hv]

theorem ins_comm (k k' : Bytes) (v v' : Tree α) (h : Heap α) (hne : k ≠ k') :
    (h.ins k v).ins k' v' = (h.ins k' v').ins k v := by
  funext x
  simp only [ins]
  by_cases h1 : x = k
  · subst h1
    rw [if_neg hne, if_pos rfl, if_pos rfl]
  · rw [if_neg h1, if_neg h1]

end Heap

/-- `Decomp H c o`: under the pointees `H` the include list `c` stands for `o`.  The rules `own` and `ref` are the two
branches of `decListWith`. -/
inductive Decomp (H : Heap α) : List (Tree α) → List (Tree α) → Prop
  | nil : Decomp H [] []
  | own {inc : α} {fn : Bytes} {body : α} {cks ks cr r : List (Tree α)} :
      stripPrefix fn refPrefix = none → Decomp H cks ks → Decomp H cr r →
      Decomp H (.node inc fn body cks :: cr) (.node inc fn body ks :: r)
  | ref {inc i : α} {fn' k fn : Bytes} {body' body : α} {ks' cks ks cr r : List (Tree α)} :
      stripPrefix fn' refPrefix = some k → H k = some (.node i fn body cks) → Decomp H cks ks → Decomp H cr r →
      Decomp H (.node inc fn' body' ks' :: cr) (.node inc fn body ks :: r)

namespace Decomp

theorem mono {H H' : Heap α} {c o : List (Tree α)} (hle : H.le H') (h : Decomp H c o) : Decomp H' c o := by
  induction h with
  | nil => exact .nil
  | own hs _ _ ihk ihr => exact .own hs ihk ihr
  | ref hs hH _ _ ihk ihr => exact .ref hs (hle _ _ hH) ihk ihr

theorem run {H : Heap α} {c o : List (Tree α)} (h : Decomp H c o) :
    ∀ f, depthK o ≤ f → decompressKids f H c = .ok o := by
  induction h with
  | nil => exact fun f _ => decompressKids_nil f H
  | own hs _ _ ihk ihr =>
    intro f hf
    obtain ⟨f, rfl, hfk, hfr⟩ := depthK_cons_le hf
    have e := ihr (f + 1) hfr
    rw [decompressKids_succ] at e ⊢
    simp only [decListWith, hs, ihk f hfk, e]
  | ref hs hH _ _ ihk ihr =>
    intro f hf
    obtain ⟨f, rfl, hfk, hfr⟩ := depthK_cons_le hf
    have e := ihr (f + 1) hfr
    rw [decompressKids_succ] at e ⊢
    simp only [decListWith, hs, hH, ihk f hfk, e]

end Decomp

/-- the pointee of `k` is the file `k` of `U` (any node of that name) with its includes compressed -/
def GoodEntry (U : Tree α → Prop) (H : Heap α) (k : Bytes) : Prop :=
  ∀ o, U o → o.fn = k → ∃ i cks, H k = some (.node i k o.body cks) ∧ Decomp H cks o.kids

/-- `P` = the files whose recursive call is still running: marked visited, pointee not yet final. -/
structure Inv (U : Tree α → Prop) (P : List Bytes) (s : CState α) : Prop where
  keys : ∀ k, k ∉ s.vis → s.heap k = none
  prog : ∀ k, k ∈ P → k ∈ s.vis ∧ s.heap k = none
  good : ∀ k, k ∈ s.vis → k ∈ P ∨ GoodEntry U s.heap k

section

variable {U : Tree α → Prop} {P : List Bytes}

theorem GoodEntry.mono {H H' : Heap α} {k : Bytes} (hle : H.le H') (h : GoodEntry U H k) :
    GoodEntry U H' k := by
  intro o ho hk
  obtain ⟨i, cks, h1, h2⟩ := h o ho hk
  exact ⟨i, cks, hle _ _ h1, h2.mono hle⟩

namespace Inv

theorem init : Inv U [] (⟨[], Heap.empty⟩ : CState α) := ⟨fun _ _ => rfl, nofun, nofun⟩

theorem mark {s : CState α} (hI : Inv U P s) {fn : Bytes} (hv : fn ∉ s.vis) :
    Inv U (fn :: P) (s.mark fn) where
  keys := fun k hk => hI.keys k (fun h => hk (List.mem_cons_of_mem _ h))
  prog := fun k hk => by
    rcases List.mem_cons.mp hk with rfl | hk
    · exact ⟨List.mem_cons_self .., hI.keys _ hv⟩
    · exact (hI.prog k hk).imp (List.mem_cons_of_mem _) id
  good := fun k hk => by
    rcases List.mem_cons.mp hk with rfl | hk
    · exact Or.inl (List.mem_cons_self ..)
    · exact (hI.good k hk).imp (List.mem_cons_of_mem _) id

theorem fin {s1 : CState α} {fn : Bytes} (h : Inv U (fn :: P) s1)
    (hfnP : fn ∉ P) {c : Tree α} (hg : GoodEntry U (s1.heap.ins fn c) fn) :
    Inv U P (s1.fin fn c) := by
  obtain ⟨hvis, hnone⟩ := h.prog fn (List.mem_cons_self ..)
  have hle : s1.heap.le (s1.heap.ins fn c) := Heap.le_ins _ _ _ hnone
  refine ⟨fun k hk => ?_, fun k hk => ?_, fun k hk => ?_⟩
  · have e : k ≠ fn := fun e => hk (e ▸ hvis)
    exact (Heap.ins_ne _ _ e).trans (h.keys k hk)
  · have e : k ≠ fn := fun e => hfnP (e ▸ hk)
    obtain ⟨h1, h2⟩ := h.prog k (List.mem_cons_of_mem _ hk)
    exact ⟨h1, (Heap.ins_ne _ _ e).trans h2⟩
  · rcases h.good k hk with h' | h'
    · rcases List.mem_cons.mp h' with rfl | h'
      · exact Or.inr hg
      · exact Or.inl h'
    · exact Or.inr (h'.mono hle)

end Inv

end

/-- `g` stands for the insertions `collectKids` has already made for the files in progress (it inserts before it descends,
the compressor after it returns); the induction needs of it only that it commutes with the other insertions. -/
theorem compressKids_inv (dflt : α) (U : Tree α → Prop)
    (hU : ∀ a b, U a → U b → a.fn = b.fn → a.body = b.body ∧ a.kids = b.kids)
    (hN : ∀ a, U a → stripPrefix a.fn refPrefix = none) :
    ∀ (l : List (Tree α)) (P : List Bytes) (s : CState α), Inv U P s →
      (∀ d, d ∈ nodesK l → U d ∧ d.fn ∉ P) →
      Inv U P (compressKids dflt l s).2 ∧ s.heap.le (compressKids dflt l s).2.heap ∧
      Decomp (compressKids dflt l s).2.heap (compressKids dflt l s).1 l ∧
      ∀ g : Heap α → Heap α, (∀ k v H, k ∉ P → g (Heap.ins k v H) = Heap.ins k v (g H)) →
        collectKids (compressKids dflt l s).1 (g s.heap) = g (compressKids dflt l s).2.heap := by
  intro l
  induction l using kids_induction with
  | nil =>
    intro P s hI _
    rw [compressKids_nil]
    exact ⟨hI, Heap.le_refl _, .nil, fun _ _ => collectKids_nil _⟩
  | cons inc fn body ks r ihk ihr =>
    intro P s hI hl
    obtain ⟨⟨hUself, hfnP⟩, hl, hr⟩ := forall_mem_nodesK_cons.1 hl
    by_cases hv : fn ∈ s.vis
    · -- a reference: it resolves to the pointee recorded when `fn`'s own call returned; `collectKids` skips it
      rw [compressKids_visited hv]
      obtain ⟨i1, i2, i3, i4⟩ := ihr P s hI hr
      refine ⟨i1, i2, ?_, fun g hg => ?_⟩
      · rcases hI.good fn hv with hp | hg
        · exact absurd hp hfnP
        · obtain ⟨i, cks, g1, g2⟩ := hg _ hUself rfl
          exact .ref (stripPrefix_append ..) (i2 _ _ g1) (g2.mono i2) i3
      · rw [collectKids_cons, stripPrefix_append, Option.isSome_some, if_pos rfl]
        exact i4 g hg
    · -- first occurrence: mark, recurse, record the pointee
      have hks : ∀ d, d ∈ nodesK ks → U d ∧ d.fn ∉ fn :: P := by
        intro d hd
        obtain ⟨hUd, hdP⟩ := hl d hd
        refine ⟨hUd, fun hmem => ?_⟩
        rcases List.mem_cons.mp hmem with h | h
        · exact kids_ne_of_mem_nodesK hd (hU _ _ hUd hUself h).2
        · exact hdP h
      obtain ⟨a1, a2, a3, a4⟩ := ihk (fn :: P) (s.mark fn) (hI.mark hv) hks
      have hs : stripPrefix fn refPrefix = none := hN _ hUself
      rw [compressKids_fresh hv]
      have hle12 := Heap.le_ins _ fn (.node inc fn body (compressKids dflt ks (s.mark fn)).1)
        (a1.prog fn (List.mem_cons_self ..)).2
      obtain ⟨b1, b2, b3, b4⟩ := ihr P _ (a1.fin hfnP (fun o ho hk => by
        -- by consistency `o` has the contents and the includes of this node
        obtain ⟨hob, hok⟩ := hU o _ ho hUself hk
        rw [hob, hok]
        exact ⟨inc, _, Heap.ins_self .., a3.mono hle12⟩)) hr
      have hle := Heap.le_trans hle12 b2
      refine ⟨b1, Heap.le_trans a2 hle, .own hs (a3.mono hle) b3, fun g hg => ?_⟩
      rw [collectKids_cons, hs, Option.isSome_none, if_neg Bool.false_ne_true]
      -- push the insertion of `fn` through the recursive call, then through `g`
      have e := a4 (fun H => Heap.ins fn (.node inc fn body (compressKids dflt ks (s.mark fn)).1) (g H)) (by
        intro k v H hk
        obtain ⟨hne, hkP⟩ := not_or.mp (mt List.mem_cons.mpr hk)
        show Heap.ins fn _ (g (Heap.ins k v H)) = Heap.ins k v (Heap.ins fn _ (g H))
        rw [hg k v H hkP, Heap.ins_comm k fn v _ (g H) hne])
      simp only [CState.mark] at e ⊢
      rw [e, ← hg fn _ _ hfnP]
      exact b4 g hg

theorem hasSuffix_iff (d s : Bytes) : hasSuffix d s = true ↔ s <:+ d := by
  simp only [hasSuffix, Bool.and_eq_true, decide_eq_true_eq, beq_iff_eq]
  exact ⟨fun h => List.suffix_iff_eq_drop.mpr h.2.symm,
    fun h => ⟨h.length_le, (List.suffix_iff_eq_drop.mp h).symm⟩⟩

theorem no_trailer_of_stop (x : Bytes) (feature : Nat) : hasDataTrailerFeature (x ++ [0]) feature = false := by
  have hs : ¬ hasSuffix (x ++ [0]) trailerMagic = true := by
    rw [hasSuffix_iff]
    rintro ⟨p, hp⟩
    -- the last bytes differ: the marker ends with 255
    have := congrArg List.getLast? hp
    rw [List.getLast?_append, List.getLast?_concat] at this
    cases this
  simp [hasDataTrailerFeature, hs]

theorem has_append_trailer (d : Bytes) (feature : Nat) :
    hasDataTrailerFeature (appendDataTrailer d feature) feature = true := by
  -- `appendDataTrailer d feature`, associated the way `simp` leaves it
  have hs : hasSuffix (d ++ feature :: trailerMagic) trailerMagic = true :=
    (hasSuffix_iff _ _).mpr ⟨d ++ [feature], List.append_assoc ..⟩
  simp [hasDataTrailerFeature, appendDataTrailer, hs]

def IsDigits (d : Bytes) : Prop := d ≠ [] ∧ ∀ c, c ∈ d → isDigit c = true

def digitsNat (d : Bytes) : Nat := d.foldl (fun a c => a * 10 + (c - 48)) 0

/-- `vA.B.C` or `vA.B.C-pre` -/
def verString (a b c : Bytes) (pre : Option Bytes) : Bytes :=
  118 :: (a ++ 46 :: (b ++ 46 :: (c ++ (match pre with | none => [] | some p => 45 :: p))))

theorem ne_of_isDigit {c s : Nat} (hc : isDigit c = true) (hs : isDigit s = false) : c ≠ s := by
  intro e
  rw [e, hs] at hc
  cases hc

theorem IsDigits.free {d : Bytes} (h : IsDigits d) {s : Nat} (hs : isDigit s = false) : ∀ c, c ∈ d → c ≠ s :=
  fun c hc => ne_of_isDigit (h.2 c hc) hs

def digitsFold (d : Bytes) (acc : Nat) : Nat := d.foldl (fun a c => a * 10 + (c - 48)) acc

theorem digitsFold_cons (c : Nat) (r : Bytes) (acc : Nat) :
    digitsFold (c :: r) acc = digitsFold r (acc * 10 + (c - 48)) := by
  simp only [digitsFold, List.foldl_cons]

theorem digitsFold_ge (d : Bytes) (acc : Nat) : acc ≤ digitsFold d acc := by
  induction d generalizing acc with
  | nil => exact Nat.le_refl _
  | cons c r ih =>
    rw [digitsFold_cons]
    exact Nat.le_trans (Nat.le_trans (Nat.le_mul_of_pos_right acc (by decide)) (Nat.le_add_right ..)) (ih _)

theorem parseUint_digits (d : Bytes) (n : Nat) (h : ∀ c, c ∈ d → isDigit c = true) (hn : n ≤ maxUint64) :
    parseUint d n = if digitsFold d n ≤ maxUint64 then .ok (digitsFold d n) else .range := by
  -- cases: end of input; not a digit; past the cutoff; this digit overflows; the loop goes on
  fun_induction parseUint d n with
  | case1 n => exact (if_pos hn).symm
  | case2 c r n hc =>
    rw [h c (List.mem_cons_self ..)] at hc
    cases hc
  | case3 c r n _ h1 =>
    -- past the cutoff `n * 10` alone is too large, and the fold only grows
    have hge := digitsFold_ge r (n * 10 + (c - 48))
    have h2 : maxUint64 < n * 10 + (c - 48) :=
      Nat.lt_of_lt_of_le ((Nat.div_lt_iff_lt_mul (by decide)).mp h1) (Nat.le_add_right ..)
    rw [digitsFold_cons, if_neg (Nat.not_le.mpr (Nat.lt_of_lt_of_le h2 hge))]
  | case4 c r n _ _ h2 =>
    have hge := digitsFold_ge r (n * 10 + (c - 48))
    rw [digitsFold_cons, if_neg (Nat.not_le.mpr (Nat.lt_of_lt_of_le h2 hge))]
  | case5 c r n _ _ h2 ih =>
    rw [digitsFold_cons]
    exact ih (fun x hx => h x (List.mem_cons_of_mem _ hx)) (Nat.le_of_not_gt h2)

theorem signSplit_digit (c : Nat) (r : Bytes) (h : isDigit c = true) : signSplit (c :: r) = (false, c :: r) := by
  unfold signSplit
  split
  · rename_i heq; exact absurd (List.cons.inj heq).1 (ne_of_isDigit h rfl)
  · rename_i heq; exact absurd (List.cons.inj heq).1 (ne_of_isDigit h rfl)
  · rfl

theorem atoi_digits (d : Bytes) (h : IsDigits d) :
    atoi d = if digitsNat d > maxInt64 then (maxInt64 : Int) else (digitsNat d : Int) := by
  obtain ⟨c, r, rfl⟩ := List.exists_cons_of_ne_nil h.1
  -- `digitsNat d` unfolds to `digitsFold d 0`
  have hp : parseUint (c :: r) 0 =
      if digitsNat (c :: r) ≤ maxUint64 then .ok (digitsNat (c :: r)) else .range :=
    parseUint_digits (c :: r) 0 h.2 (Nat.zero_le _)
  simp only [atoi, signSplit_digit c r (h.2 c (List.mem_cons_self ..)), List.isEmpty_cons, Bool.false_eq_true, if_false]
  generalize digitsNat (c :: r) = v at hp ⊢
  by_cases hv : v ≤ maxUint64
  · rw [hp, if_pos hv]
  · rw [hp, if_neg hv]
    exact (if_pos (Nat.lt_trans (by decide : maxInt64 < maxUint64) (Nat.lt_of_not_le hv))).symm

theorem atoi_digits_lt (d : Bytes) (h : IsDigits d) (k : Nat) (hk : k < maxInt64) :
    (k : Int) < atoi d ↔ k < digitsNat d := by
  rw [atoi_digits d h]; split <;> omega

theorem atoi_digits_eq (d : Bytes) (h : IsDigits d) (k : Nat) (hk : k < maxInt64) :
    atoi d = (k : Int) ↔ digitsNat d = k := by
  rw [atoi_digits d h]; split <;> omega

theorem cut_verString (a b c : Bytes) (pre : Option Bytes) (ha : IsDigits a) (hb : IsDigits b) (hc : IsDigits c) :
    (cut 45 (verString a b c pre)).1 = 118 :: (a ++ 46 :: (b ++ 46 :: c)) := by
  have hcore : ∀ x, x ∈ 118 :: (a ++ 46 :: (b ++ 46 :: c)) → x ≠ 45 := by
    simp only [List.forall_mem_cons, List.forall_mem_append]
    exact ⟨by decide, ha.free rfl, by decide, hb.free rfl, by decide, hc.free rfl⟩
  cases pre with
  | none =>
    have : verString a b c none = 118 :: (a ++ 46 :: (b ++ 46 :: c)) := by simp only [verString, List.append_nil]
    rw [this, cut_none 45 _ hcore]
  | some p =>
    have : verString a b c (some p) = (118 :: (a ++ 46 :: (b ++ 46 :: c))) ++ 45 :: p := by
      simp only [verString, List.cons_append, List.append_assoc]
    rw [this, cut_nosep 45 _ p hcore]

theorem supportDataTrailer_verString (a b c : Bytes) (pre : Option Bytes)
    (ha : IsDigits a) (hb : IsDigits b) (hc : IsDigits c) :
    supportDataTrailer (verString a b c pre) =
      if atoi a > 0 then true else if atoi b != 4 then decide (atoi b > 4) else decide (atoi c ≥ 2) := by
  have hsplit : splitOn 46 (a ++ 46 :: (b ++ 46 :: c)) = [a, b, c] := by
    rw [splitOn_nosep 46 a _ (ha.free rfl), splitOn_nosep 46 b _ (hb.free rfl), splitOn_none 46 c (hc.free rfl)]
  have hlen : ¬ (118 :: (a ++ 46 :: (b ++ 46 :: c))).length < 6 := by
    have h1 := List.length_pos_iff.mpr ha.1
    have h2 := List.length_pos_iff.mpr hb.1
    have h3 := List.length_pos_iff.mpr hc.1
    simp only [List.length_cons, List.length_append]; omega
  unfold supportDataTrailer
  simp only [cut_verString a b c pre ha hb hc, List.drop_succ_cons, List.drop_zero, hsplit, hlen, List.head?_cons,
    decide_false, Bool.false_or, bne_self_eq_false, Bool.false_eq_true, if_false]

theorem step_fail_iff (feedOk : List Generated → Bool) (res : Response) :
    (∃ w, step feedOk res = .fail w) ↔ (res.error.getD [] ≠ [] ∨ feedOk res.contents = false) := by
  fun_cases step feedOk res with
  | case1 h1 => exact ⟨fun _ => .inl h1, fun _ => ⟨_, rfl⟩⟩
  | case2 h1 h2 => exact ⟨nofun, fun h => h.elim (absurd · h1) (fun h => Bool.noConfusion (h2.symm.trans h))⟩
  | case3 h1 h2 => exact ⟨fun _ => .inr (Bool.eq_false_iff.mpr h2), fun _ => ⟨_, rfl⟩⟩

theorem execute_exited_some (res : Response) (stdout stderr errText note : Bytes) :
    execute (.exited 0) (some res) stdout stderr errText note =
      { res with warnings := if stderr.isEmpty then res.warnings else res.warnings ++ [note ++ stderr] } := by
  unfold execute
  rw [if_neg (fun h => h rfl)]
  cases stderr.isEmpty
  · rfl
  · rfl

theorem pluginLoop_own {δ : Type} : ∀ (suf pre : List δ),
    pluginLoop suf (pre ++ suf) pre.length = suf.map fun d => (d, some d) := by
  intro suf
  induction suf with
  | nil => intro pre; rfl
  | cons p ps ih =>
    intro pre
    have h := ih (pre ++ [p])
    simp only [List.append_assoc, List.singleton_append, List.length_append, List.length_singleton] at h
    simp [pluginLoop, h]

theorem generateCalls_reset {δ : Type} (descs : List δ) : ∀ (n : Nat) (st : List δ),
    generateCalls true descs n st = List.replicate n (descs.map fun d => (d, some d)) := by
  intro n
  induction n with
  | zero => intro st; rfl
  | succ n ih =>
    intro st
    rw [generateCalls, ih, List.replicate_succ]
    -- `preparePlugins true st descs` computes to `[] ++ descs`, whatever `st` held
    exact congrArg (· :: _) (pluginLoop_own descs [])

theorem paramsSeen_foldl (descs : List (List Opt)) : ∀ (acc : List (List Bytes)) (cur : List Bytes),
    (descs.foldl (fun (a : List (List Bytes) × List Bytes) opts => (a.1 ++ [pack opts], pack opts)) (acc, cur)).1 =
      acc ++ descs.map pack := by
  induction descs with
  | nil => intro acc cur; simp
  | cons d r ih => intro acc cur; simp [List.foldl_cons, ih]

theorem paramsSeen_own (descs : List (List Opt)) (cur : List Bytes) : (paramsSeen descs cur).1 = descs.map pack := by
  simpa [paramsSeen] using paramsSeen_foldl descs [] cur

theorem paramsSeenCalls_own (descs : List (List Opt)) : ∀ (n : Nat) (cur : List Bytes),
    paramsSeenCalls descs n cur = List.replicate n (descs.map pack) := by
  intro n
  induction n with
  | zero => intro cur; rfl
  | succ n ih =>
    intro cur
    rw [paramsSeenCalls, ih, paramsSeen_own, List.replicate_succ]

end Plugin
