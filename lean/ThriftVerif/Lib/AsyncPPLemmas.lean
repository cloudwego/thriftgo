/-
  C19 — the LTS `AsyncPP.step expected cfg`: every step from a state with `Inv` is a `Next` (invariant kept, variant
  smaller, semaphore bound kept).
-/
import ThriftVerif.Lib.AsyncPP
import ThriftVerif.Core.ListLemmas

namespace AsyncPP

def sumW (f : Worker → Nat) : List Worker → Nat
  | [] => 0
  | w :: r => f w + sumW f r

theorem sumW_append_single (f : Worker → Nat) (ws : List Worker) (w : Worker) :
    sumW f (ws ++ [w]) = sumW f ws + f w := by
  induction ws with
  | nil => simp [sumW]
  | cons a r ih => simp [sumW, ih]; omega

theorem sumW_set (f : Worker → Nat) (ws : List Worker) (k : Nat) (w w' : Worker) (h : ws[k]? = some w) :
    sumW f (ws.set k w') + f w = sumW f ws + f w' := by
  fun_induction sumW f ws generalizing k with
  | case1 => cases h
  | case2 a r ih =>
    cases k with
    | zero => cases h; simp only [List.set_cons_zero, sumW]; omega
    | succ k =>
      have := ih k h
      simp only [List.set_cons_succ, sumW]; omega

theorem sumW_set_eq (f : Worker → Nat) {ws : List Worker} {k : Nat} {w w' : Worker} (hk : ws[k]? = some w)
    {c c' t : Nat} (h : c = sumW f ws + t) (hc : c' + f w = c + f w') : c' = sumW f (ws.set k w') + t := by
  have := sumW_set f ws k w w' hk
  omega

theorem sumW_le (f : Worker → Nat) (ws : List Worker) (k : Nat) (w : Worker) (h : ws[k]? = some w) :
    f w ≤ sumW f ws := by
  fun_induction sumW f ws generalizing k with
  | case1 => cases h
  | case2 a r ih =>
    cases k with
    | zero => cases h; exact Nat.le_add_right ..
    | succ k => exact Nat.le_trans (ih k h) (Nat.le_add_left ..)

theorem sumW_eq_zero {f : Worker → Nat} {ws : List Worker} (h : ∀ w ∈ ws, f w = 0) : sumW f ws = 0 := by
  fun_induction sumW f ws with
  | case1 => rfl
  | case2 a r ih =>
    obtain ⟨h1, h2⟩ := List.forall_mem_cons.mp h
    rw [h1, ih h2]

def relC (w : Worker) : Nat := if w.ops.contains .release then 1 else 0
def doneC (w : Worker) : Nat := if w.ops.contains .done then 1 else 0
def sendC (w : Worker) : Nat := if w.ops.contains .send then 1 else 0
def wroteB (w : Worker) : Bool := !w.failed && !w.ops.contains .write && !w.ops.contains .pp

/-- the phases of a worker under `expected` (`c0`: the content of job `k` as dispatched) -/
inductive WOk (cfg : Cfg) (k : Nat) : Worker → Prop
  | started {p c0 : Bytes} : cfg.jobs[k]? = some (p, c0) →
      WOk cfg k ⟨k, p, c0, false, [.pp, .write, .send, .done, .release]⟩
  | processed {p c0 : Bytes} : cfg.jobs[k]? = some (p, c0) → cfg.failPP k = false →
      WOk cfg k ⟨k, p, cfg.ppf p c0, false, [.write, .send, .done, .release]⟩
  | failed {p c0 c : Bytes} : cfg.jobs[k]? = some (p, c0) → cfg.jobFails k = true →
      WOk cfg k ⟨k, p, c, true, [.send, .done, .release]⟩
  | settled {p c0 c : Bytes} {f : Bool} {r : List WOp} : cfg.jobs[k]? = some (p, c0) →
      r = [.done, .release] ∨ r = [.release] ∨ r = [] → cfg.jobFails k = f →
      WOk cfg k ⟨k, p, c, f, r⟩

/-- `proc`, `wgc`, `errsCnt` are the counting clauses behind no-deadlock and no-panic: a worker holds its token
    until `release`, counts in `wg` until `done`, and `errs` (capacity N) has room for every worker that may still
    send.  `notLost` with `quiet` gives "`nil` only if no worker failed". -/
structure Inv (cfg : Cfg) (s : State) : Prop where
  noPanic : s.panicked = false
  len : s.workers.length = s.idx
  idxLe : s.idx ≤ cfg.jobs.length
  idxLt : (s.dpc = .acquired ∨ s.dpc = .added) → s.idx < cfg.jobs.length
  idxEq : s.dpc = .finalRecv → s.idx = cfg.jobs.length
  wok : ∀ (k : Nat) (w : Worker), s.workers[k]? = some w → WOk cfg k w
  proc : s.processing = sumW relC s.workers + (if s.dpc = .acquired ∨ s.dpc = .added then 1 else 0)
  wgc : s.wg = sumW doneC s.workers + (if s.dpc = .added then 1 else 0)
  errsCnt : s.errs.length + sumW sendC s.workers ≤ s.idx
  errsGen : ∀ e ∈ s.errs, e < s.idx ∧ cfg.jobFails e = true
  errRecvGen : ∀ e, s.dpc = .errRecv e → e < s.idx ∧ cfg.jobFails e = true
  notLost : (s.dpc = .loop ∨ s.dpc = .acquired ∨ s.dpc = .added ∨ s.dpc = .finalRecv) →
    ∀ (k : Nat) (w : Worker), s.workers[k]? = some w → w.failed = true → sendC w = 0 → k ∈ s.errs
  wrNodup : (s.written.map (·.1)).Nodup
  wrOwn : ∀ x ∈ s.written, ∃ c0, cfg.jobs[x.1]? = some (x.2.1, c0) ∧ x.2.2 = cfg.ppf x.2.1 c0
  wrIff : ∀ (k : Nat) (w : Worker), s.workers[k]? = some w → (k ∈ s.written.map (·.1) ↔ wroteB w = true)
  wrLt : ∀ x ∈ s.written, x.1 < s.idx
  retNone : s.ret = none ↔ s.dpc ≠ .returned
  quiet : (s.dpc = .finalRecv ∨ s.dpc = .returned) → s.wg = 0
  retNil : s.ret = some none → s.idx = cfg.jobs.length ∧ ∀ (k : Nat) (w : Worker), s.workers[k]? = some w → w.failed = false
  retErr : ∀ e, s.ret = some (some e) → e < s.idx ∧ cfg.jobFails e = true

theorem inv_init (cfg : Cfg) : Inv cfg init := by
  constructor <;> simp [init, sumW]

/-- With the control point written into the state the guards `s.dpc = …` of the clauses are equations between
    constructors, decided by `rfl` or `nofun`. -/
theorem inv_at {cfg : Cfg} {s : State} {d : DPc} (I : Inv cfg s) (hd : s.dpc = d) : Inv cfg { s with dpc := d } := by
  subst hd
  exact I

theorem conc_pos (cfg : Cfg) : 1 ≤ conc expected cfg := by
  simp only [conc, expected]
  simp only [if_true]
  split <;> omega

-- the fields of `expected`: `simp` rewrites with these, so it never has to unfold `expected`

@[simp] theorem exp_clampConc : expected.clampConc = true := rfl
@[simp] theorem exp_errsCap : expected.errsCap = .lenJobs := rfl
@[simp] theorem exp_procCap : expected.procCap = .concurrency := rfl
@[simp] theorem exp_selAcquire : expected.selAcquire = true := rfl
@[simp] theorem exp_selRecvErr : expected.selRecvErr = true := rfl
@[simp] theorem exp_wait : expected.waitBeforeEarlyReturn = true := rfl
@[simp] theorem exp_add : expected.addBeforeGo = true := rfl
@[simp] theorem exp_addAfter : expected.addAfterGo = false := rfl
@[simp] theorem exp_ops : expected.workerOps = [.pp, .write, .send, .done, .release] := rfl
@[simp] theorem exp_wg : expected.writeGuarded = true := rfl
@[simp] theorem exp_fw : expected.finalWait = true := rfl
@[simp] theorem exp_fr : expected.finalRecv = .nonblocking := rfl

theorem wok_past_done {cfg : Cfg} {k : Nat} {w : Worker} (h : WOk cfg k w) (hd : doneC w = 0) :
    (w.ops = [.release] ∨ w.ops = []) ∧ cfg.jobFails k = w.failed := by
  rcases h with _ | _ | _ | ⟨_, rfl | rfl | rfl, hjf⟩
  · simp [doneC] at hd
  · simp [doneC] at hd
  · simp [doneC] at hd
  · simp [doneC] at hd
  · exact ⟨.inl rfl, hjf⟩
  · exact ⟨.inr rfl, hjf⟩

theorem sendC_of_past_done {cfg : Cfg} {k : Nat} {w : Worker} (h : WOk cfg k w) (hd : doneC w = 0) : sendC w = 0 := by
  obtain ⟨ho | ho, _⟩ := wok_past_done h hd <;> simp [sendC, ho]

theorem returned_doneC {cfg : Cfg} {s : State} (I : Inv cfg s) (hr : s.ret ≠ none) {k : Nat} {w : Worker}
    (hk : s.workers[k]? = some w) : doneC w = 0 := by
  have hd : s.dpc = .returned := Classical.byContradiction fun hd => hr (I.retNone.mpr hd)
  have hw := I.quiet (Or.inr hd)
  have := I.wgc
  have := sumW_le doneC _ k w hk
  omega

theorem stepAcquire_eq_some {cfg : Cfg} {s s' : State} :
    stepAcquire expected cfg s = some s' ↔
      s.dpc = .loop ∧ s.idx < cfg.jobs.length ∧ s.processing < conc expected cfg ∧
      { s with dpc := .acquired, processing := s.processing + 1 } = s' := by
  simp only [stepAcquire, exp_selAcquire, if_true, Option.ite_none_right_eq_some, Option.some.injEq, and_assoc]
  exact Iff.rfl

theorem stepRecvErr_eq_some {cfg : Cfg} {s s' : State} :
    stepRecvErr expected cfg s = some s' ↔
      ∃ e es, s.dpc = .loop ∧ s.idx < cfg.jobs.length ∧ s.errs = e :: es ∧
      { s with dpc := .errRecv e, errs := es } = s' := by
  unfold stepRecvErr
  cases s.errs <;> simp [and_assoc]

theorem stepAdd_eq_some {s s' : State} :
    stepAdd expected s = some s' ↔ s.dpc = .acquired ∧ { s with dpc := .added, wg := s.wg + 1 } = s' := by
  simp [stepAdd]

theorem stepSpawn_eq_some {cfg : Cfg} {s s' : State} :
    stepSpawn expected cfg s = some s' ↔
      ∃ p c, s.dpc = .added ∧ cfg.jobs[s.idx]? = some (p, c) ∧
      { s with dpc := .loop, idx := s.idx + 1,
               workers := s.workers ++ [⟨s.idx, p, c, false, [.pp, .write, .send, .done, .release]⟩] } = s' := by
  unfold stepSpawn
  rcases cfg.jobs[s.idx]? with _ | ⟨p, c⟩ <;> simp [and_assoc]

theorem stepEarlyRet_eq_some {s s' : State} :
    stepEarlyRet expected s = some s' ↔
      ∃ e, s.dpc = .errRecv e ∧ s.wg = 0 ∧ { s with dpc := .returned, ret := some (some e) } = s' := by
  unfold stepEarlyRet
  cases s.dpc <;> simp

theorem stepFinalWait_eq_some {cfg : Cfg} {s s' : State} :
    stepFinalWait expected cfg s = some s' ↔
      s.dpc = .loop ∧ cfg.jobs.length ≤ s.idx ∧ s.wg = 0 ∧ { s with dpc := .finalRecv } = s' := by
  simp [stepFinalWait, and_assoc]

theorem stepFinalRecv_eq_some {s s' : State} :
    stepFinalRecv expected s = some s' ↔
      s.dpc = .finalRecv ∧ { s with dpc := .returned, ret := some s.errs.head?, errs := s.errs.tail } = s' := by
  unfold stepFinalRecv
  cases s.errs <;> simp

def rank : DPc → Nat
  | .loop => 4 | .acquired => 3 | .added => 2 | .errRecv _ => 1 | .finalRecv => 1 | .returned => 0

def opsLen (w : Worker) : Nat := w.ops.length

/-- `rank` counts down the dispatcher's steps within one round of the loop.  A spawn takes `rank` from 2 back to 4 and
    adds a worker with 5 operations, so a job not yet dispatched has to weigh more than 7. -/
def variant (cfg : Cfg) (s : State) : Nat :=
  (cfg.jobs.length - s.idx) * 10 + rank s.dpc + sumW opsLen s.workers

theorem variant_init (cfg : Cfg) : variant cfg init = cfg.jobs.length * 10 + 4 := rfl

structure Next (cfg : Cfg) (s s' : State) : Prop where
  inv : Inv cfg s'
  var : variant cfg s' < variant cfg s
  sem : s.processing ≤ conc expected cfg → s'.processing ≤ conc expected cfg

theorem next_acquire {cfg : Cfg} {s s' : State} (I : Inv cfg s)
    (h : stepAcquire expected cfg s = some s') : Next cfg s s' := by
  obtain ⟨hd, hi, hp, rfl⟩ := stepAcquire_eq_some.mp h
  have J := inv_at I hd
  exact ⟨{ I with
    idxLt := fun _ => hi
    idxEq := nofun
    proc := congrArg (· + 1) J.proc
    wgc := J.wgc
    errRecvGen := nofun
    notLost := fun _ => J.notLost (.inl rfl)
    retNone := by simpa using J.retNone
    quiet := nofun },
    by simp [variant, rank, hd], fun _ => hp⟩

theorem next_recvErr {cfg : Cfg} {s s' : State} (I : Inv cfg s)
    (h : stepRecvErr expected cfg s = some s') : Next cfg s s' := by
  obtain ⟨e, es, hd, hi, he, rfl⟩ := stepRecvErr_eq_some.mp h
  have J := inv_at I hd
  have hg := I.errsGen
  rw [he] at hg
  exact ⟨{ I with
    idxLt := nofun
    idxEq := nofun
    proc := J.proc
    wgc := J.wgc
    errsCnt := by have := I.errsCnt; simp [he] at this ⊢; omega
    errsGen := fun x hx => hg x (List.mem_cons_of_mem _ hx)
    errRecvGen := fun x hx => by cases hx; exact hg e (List.mem_cons_self ..)
    notLost := nofun
    retNone := by simpa using J.retNone
    quiet := nofun },
    by simp [variant, rank, hd], id⟩

theorem next_add {cfg : Cfg} {s s' : State} (I : Inv cfg s)
    (h : stepAdd expected s = some s') : Next cfg s s' := by
  obtain ⟨hd, rfl⟩ := stepAdd_eq_some.mp h
  have J := inv_at I hd
  exact ⟨{ I with
    idxLt := fun _ => J.idxLt (.inl rfl)
    idxEq := nofun
    proc := J.proc
    wgc := congrArg (· + 1) J.wgc
    errRecvGen := nofun
    notLost := fun _ => J.notLost (.inr (.inl rfl))
    retNone := by simpa using J.retNone
    quiet := nofun },
    by simp [variant, rank, hd], id⟩

theorem next_earlyRet {cfg : Cfg} {s s' : State} (I : Inv cfg s)
    (h : stepEarlyRet expected s = some s') : Next cfg s s' := by
  obtain ⟨e, hd, hw, rfl⟩ := stepEarlyRet_eq_some.mp h
  have J := inv_at I hd
  exact ⟨{ I with
    idxLt := nofun
    idxEq := nofun
    proc := J.proc
    wgc := J.wgc
    errRecvGen := nofun
    notLost := nofun
    retNone := by simp
    quiet := fun _ => hw
    retNil := nofun
    retErr := fun x hx => by cases hx; exact J.errRecvGen e rfl },
    by simp [variant, rank, hd], id⟩

theorem next_finalWait {cfg : Cfg} {s s' : State} (I : Inv cfg s)
    (h : stepFinalWait expected cfg s = some s') : Next cfg s s' := by
  obtain ⟨hd, hi, hw, rfl⟩ := stepFinalWait_eq_some.mp h
  have J := inv_at I hd
  exact ⟨{ I with
    idxLt := nofun
    idxEq := fun _ => Nat.le_antisymm I.idxLe hi
    proc := J.proc
    wgc := J.wgc
    errRecvGen := nofun
    notLost := fun _ => J.notLost (.inl rfl)
    retNone := by simpa using J.retNone
    quiet := fun _ => hw },
    by simp [variant, rank, hd], id⟩

theorem next_finalRecv {cfg : Cfg} {s s' : State} (I : Inv cfg s)
    (h : stepFinalRecv expected s = some s') : Next cfg s s' := by
  obtain ⟨hd, rfl⟩ := stepFinalRecv_eq_some.mp h
  have J := inv_at I hd
  have hw := J.quiet (.inl rfl)
  have hdone : sumW doneC s.workers = 0 := J.wgc.symm.trans hw
  exact ⟨{ I with
    idxLt := nofun
    idxEq := nofun
    proc := J.proc
    wgc := J.wgc
    errsCnt := by have := I.errsCnt; simp only [List.length_tail]; omega
    errsGen := fun x hx => I.errsGen x (List.mem_of_mem_tail hx)
    errRecvGen := nofun
    notLost := nofun
    retNone := by simp
    quiet := fun _ => hw
    retNil := by
      -- nothing queued although every worker is past `send`: no worker failed
      intro hr
      have he : s.errs = [] := List.head?_eq_none_iff.mp (Option.some.inj hr)
      refine ⟨J.idxEq rfl, fun k w hk => ?_⟩
      cases hf : w.failed with
      | false => rfl
      | true =>
        have := J.notLost (.inr (.inr (.inr rfl))) k w hk hf
          (sendC_of_past_done (I.wok k w hk) (by have := sumW_le doneC s.workers k w hk; omega))
        rw [he] at this; contradiction
    retErr := fun e hr => I.errsGen e (List.mem_of_head? (Option.some.inj hr)) },
    by simp [variant, rank, hd], id⟩

theorem next_spawn {cfg : Cfg} {s s' : State} (I : Inv cfg s)
    (h : stepSpawn expected cfg s = some s') : Next cfg s s' := by
  obtain ⟨p, c, hd, hj, rfl⟩ := stepSpawn_eq_some.mp h
  have J := inv_at I hd
  have hlt : s.idx < cfg.jobs.length := J.idxLt (.inr rfl)
  have hret : s.ret = none := J.retNone.mpr nofun
  have hlen := I.len
  exact ⟨{ I with
    len := by simp [hlen]
    idxLe := hlt
    idxLt := nofun
    idxEq := nofun
    wok := List.forall_getElem?_concat hlen I.wok (.started hj)
    proc := by have := J.proc; simp [sumW_append_single, relC] at this ⊢; omega
    wgc := by have := J.wgc; simp [sumW_append_single, doneC] at this ⊢; omega
    errsCnt := by have := I.errsCnt; simp [sumW_append_single, sendC] at this ⊢; omega
    errsGen := fun x hx => ⟨Nat.lt_succ_of_lt (I.errsGen x hx).1, (I.errsGen x hx).2⟩
    errRecvGen := nofun
    notLost := fun _ => List.forall_getElem?_concat hlen (J.notLost (.inr (.inr (.inl rfl)))) nofun
    wrIff := List.forall_getElem?_concat hlen I.wrIff (by
      simp only [wroteB, List.mem_map]
      exact ⟨fun ⟨x, hx, hxi⟩ => absurd (I.wrLt x hx) (by omega), nofun⟩)
    wrLt := fun x hx => Nat.lt_succ_of_lt (I.wrLt x hx)
    retNone := by simpa using J.retNone
    quiet := nofun
    retNil := by simp [hret]
    retErr := by simp [hret] },
    by simp [variant, rank, hd, sumW_append_single, opsLen]; omega, id⟩

/-- Every clause of `Inv` reads a worker through `WOk`, `relC`, `doneC`, `sendC`, `wroteB` and `failed`, so
    conditions on `w`, `w'` alone carry it over a worker transition. -/
theorem inv_setWorker {cfg : Cfg} {s : State} {k : Nat} {w w' : Worker} (I : Inv cfg s)
    (hk : s.workers[k]? = some w) {p' g' : Nat} {e' : List Nat} {wr' : List (Nat × Bytes × Bytes)}
    (hwok : WOk cfg k w') (hlen : opsLen w' < opsLen w)
    (hp : p' + relC w = s.processing + relC w' ∧ p' ≤ s.processing)
    (hg : g' + doneC w = s.wg + doneC w' ∧ g' ≤ s.wg)
    (he : (e' = s.errs ∧ sendC w' ≤ sendC w) ∨
          (e' = s.errs ++ [k] ∧ sendC w' < sendC w ∧ cfg.jobFails k = true))
    (hnl : w'.failed = true → sendC w' = 0 → k ∈ e' ∨ (w.failed = true ∧ sendC w = 0))
    (hw : (wr' = s.written ∧ wroteB w' = wroteB w) ∨
          (wr' = s.written ++ [(k, w.path, w.content)] ∧ wroteB w = false ∧ wroteB w' = true ∧
            ∃ c0, cfg.jobs[k]? = some (w.path, c0) ∧ w.content = cfg.ppf w.path c0)) :
    Next cfg s { s with workers := s.workers.set k w', processing := p', wg := g', errs := e', written := wr' } := by
  have hklt : k < s.idx := I.len ▸ (List.getElem?_eq_some_iff.mp hk).1
  have hsub : ∀ x ∈ s.errs, x ∈ e' := by
    rcases he with ⟨rfl, _⟩ | ⟨rfl, _⟩
    · exact fun _ h => h
    · exact fun _ h => List.mem_append_left _ h
  have hnot : wroteB w = false → k ∉ s.written.map (·.1) := fun hf hm => by
    rw [(I.wrIff k w hk).mp hm] at hf; contradiction
  refine ⟨{ I with
    len := (List.length_set ..).trans I.len
    wok := List.forall_getElem?_set hk I.wok (fun _ _ _ h => h) hwok
    proc := sumW_set_eq relC hk I.proc hp.1
    wgc := sumW_set_eq doneC hk I.wgc hg.1
    errsCnt := by
      have := I.errsCnt
      have := sumW_set sendC s.workers k w w' hk
      show e'.length + sumW sendC (s.workers.set k w') ≤ s.idx
      rcases he with ⟨rfl, _⟩ | ⟨rfl, _, _⟩
      · omega
      · rw [List.length_append, List.length_singleton]; omega
    errsGen := by
      rcases he with ⟨rfl, _⟩ | ⟨rfl, _, hjf⟩
      · exact I.errsGen
      · exact List.forall_mem_append.mpr ⟨I.errsGen, List.forall_mem_singleton.mpr ⟨hklt, hjf⟩⟩
    notLost := fun hd => List.forall_getElem?_set hk (I.notLost hd) (fun _ _ _ h hf hs => hsub _ (h hf hs))
      fun hf hs => (hnl hf hs).elim id fun h => hsub _ (I.notLost hd k w hk h.1 h.2)
    wrNodup := by
      rcases hw with ⟨rfl, _⟩ | ⟨rfl, hf, _⟩
      · exact I.wrNodup
      · show (List.map (·.1) (s.written ++ [(k, w.path, w.content)])).Nodup
        rw [List.map_append]
        refine List.nodup_append.mpr ⟨I.wrNodup, List.pairwise_singleton _ _, fun a ha b hb hab => ?_⟩
        have hb : b = k := List.mem_singleton.mp hb
        exact hnot hf (hb ▸ hab ▸ ha)
    wrOwn := by
      rcases hw with ⟨rfl, _⟩ | ⟨rfl, _, _, hown⟩
      · exact I.wrOwn
      · exact List.forall_mem_append.mpr ⟨I.wrOwn, List.forall_mem_singleton.mpr hown⟩
    wrIff := by
      rcases hw with ⟨rfl, hb⟩ | ⟨rfl, hf, ht, _⟩
      · exact List.forall_getElem?_set hk I.wrIff (fun _ _ _ h => h) (hb ▸ I.wrIff k w hk)
      · have hmem : ∀ j, j ∈ List.map (·.1) (s.written ++ [(k, w.path, w.content)]) ↔
            j ∈ s.written.map (·.1) ∨ j = k := fun j => by
          rw [List.map_append, List.mem_append]; exact or_congr Iff.rfl List.mem_singleton
        exact List.forall_getElem?_set hk I.wrIff
          (fun j x hjk h => (hmem j).trans ⟨fun h' => h.mp (h'.resolve_right hjk), fun h' => Or.inl (h.mpr h')⟩)
          ⟨fun _ => ht, fun _ => (hmem k).mpr (Or.inr rfl)⟩
    wrLt := by
      rcases hw with ⟨rfl, _⟩ | ⟨rfl, _⟩
      · exact I.wrLt
      · exact List.forall_mem_append.mpr ⟨I.wrLt, List.forall_mem_singleton.mpr hklt⟩
    quiet := fun hd => by have := I.quiet hd; show g' = 0; omega
    retNil := fun hr => by
      -- past `done` both `w` and `w'` are settled: their `failed` is `jobFails k`
      have hd := returned_doneC I (by rw [hr]; exact Option.some_ne_none _) hk
      have hf := (wok_past_done hwok (by omega)).2.symm.trans (wok_past_done (I.wok k w hk) hd).2
      exact ⟨(I.retNil hr).1, List.forall_getElem?_set hk (I.retNil hr).2 (fun _ _ _ h => h)
        (hf.trans ((I.retNil hr).2 k w hk))⟩ },
    ?_, Nat.le_trans hp.2⟩
  have := sumW_set opsLen s.workers k w w' hk
  show (cfg.jobs.length - s.idx) * 10 + rank s.dpc + sumW opsLen (s.workers.set k w') <
    (cfg.jobs.length - s.idx) * 10 + rank s.dpc + sumW opsLen s.workers
  omega

theorem worker_step {cfg : Cfg} {s : State} {k : Nat} {w : Worker} (I : Inv cfg s)
    (hk : s.workers[k]? = some w) (hne : w.ops ≠ []) :
    ∃ s', stepWorker expected cfg s k = some s' ∧ Next cfg s s' := by
  have hs := sumW_le sendC _ _ w hk
  have hr := sumW_le relC _ _ w hk
  have hwg := sumW_le doneC _ _ w hk
  have hcnt := I.errsCnt
  have hle := I.idxLe
  have hproc := I.proc
  have hwgc := I.wgc
  -- a phase fixes the worker's `ops` and `failed`, so the model's `match` reduces and what the step does to
  -- `relC`, `doneC`, `sendC`, `wroteB` is an evaluation (the `rfl`s below). The bullets: `started` (pp fails / succeeds), `processed`
  -- (write fails / succeeds), `failed` (send), `settled` with `done` next, with `release` next, with nothing left
  rcases I.wok k w hk with ⟨hj⟩ | ⟨hj, hp⟩ | ⟨hj, hjf⟩ | ⟨hj, rfl | rfl | rfl, hjf⟩
  all_goals simp only [stepWorker, hk]
  · split
    · rename_i hp
      exact ⟨_, rfl, inv_setWorker I hk (.failed hj (by simp [Cfg.jobFails, hp]))
        (by simp [opsLen]) ⟨rfl, Nat.le_refl _⟩ ⟨rfl, Nat.le_refl _⟩
        (.inl ⟨rfl, Nat.le_refl _⟩) (by simp [sendC])
        (.inl ⟨rfl, rfl⟩)⟩
    · rename_i hp
      exact ⟨_, rfl, inv_setWorker I hk (.processed hj (by simpa using hp))
        (by simp [opsLen]) ⟨rfl, Nat.le_refl _⟩ ⟨rfl, Nat.le_refl _⟩
        (.inl ⟨rfl, Nat.le_refl _⟩) (by simp)
        (.inl ⟨rfl, rfl⟩)⟩
  · split
    · rename_i hw
      exact ⟨_, rfl, inv_setWorker I hk (.failed hj (by simp [Cfg.jobFails, hw]))
        (by simp [opsLen]) ⟨rfl, Nat.le_refl _⟩ ⟨rfl, Nat.le_refl _⟩
        (.inl ⟨rfl, Nat.le_refl _⟩) (by simp [sendC])
        (.inl ⟨rfl, rfl⟩)⟩
    · rename_i hw
      have hjf : cfg.jobFails k = false := by simpa [Cfg.jobFails, hp] using hw
      exact ⟨_, rfl, inv_setWorker I hk (.settled hj (.inl rfl) hjf)
        (by simp [opsLen]) ⟨rfl, Nat.le_refl _⟩ ⟨rfl, Nat.le_refl _⟩
        (.inl ⟨rfl, Nat.zero_le _⟩) (by simp)
        (.inr ⟨rfl, rfl, rfl, _, hj, rfl⟩)⟩
  · have : s.errs.length < capOf expected cfg expected.errsCap := by
      simp [sendC] at hs
      simp [capOf]; omega
    simp only [this, if_true]
    exact ⟨_, rfl, inv_setWorker I hk (.settled hj (.inl rfl) hjf)
      (by simp [opsLen]) ⟨rfl, Nat.le_refl _⟩ ⟨rfl, Nat.le_refl _⟩
      (.inr ⟨rfl, Nat.zero_lt_one, hjf⟩) (fun _ _ => .inl (by simp))
      (.inl ⟨rfl, rfl⟩)⟩
  · have : s.wg ≠ 0 := by simp [doneC] at hwg; omega
    simp only [this, if_false]
    exact ⟨_, rfl, inv_setWorker I hk (.settled hj (.inr (.inl rfl)) hjf)
      (by simp [opsLen]) ⟨rfl, Nat.le_refl _⟩ ⟨Nat.sub_add_cancel (by omega), Nat.sub_le _ _⟩
      (.inl ⟨rfl, Nat.le_refl _⟩) (fun hf _ => .inr ⟨hf, rfl⟩)
      (.inl ⟨rfl, rfl⟩)⟩
  · have : s.processing ≠ 0 := by simp [relC] at hr; omega
    simp only [this, if_false]
    exact ⟨_, rfl, inv_setWorker I hk (.settled hj (.inr (.inr rfl)) hjf)
      (by simp [opsLen]) ⟨Nat.sub_add_cancel (by omega), Nat.sub_le _ _⟩ ⟨rfl, Nat.le_refl _⟩
      (.inl ⟨rfl, Nat.le_refl _⟩) (fun hf _ => .inr ⟨hf, rfl⟩)
      (.inl ⟨rfl, rfl⟩)⟩
  · exact absurd rfl hne

theorem next_worker {cfg : Cfg} {s s' : State} {k : Nat} (I : Inv cfg s)
    (h : stepWorker expected cfg s k = some s') : Next cfg s s' := by
  cases hk : s.workers[k]? with
  | none => simp [stepWorker, hk] at h
  | some w =>
    obtain ⟨s'', hs, N⟩ := worker_step I hk (fun ho => by simp [stepWorker, hk, ho] at h)
    exact Option.some.inj (hs.symm.trans h) ▸ N

theorem next_step {cfg : Cfg} {s s' : State} {l : Label} (I : Inv cfg s)
    (h : step expected cfg s l = some s') : Next cfg s s' := by
  revert h
  fun_cases step expected cfg s l
  case case1 => nofun
  case case2 =>
    intro h
    cases l
    · exact next_acquire I h
    · exact next_recvErr I h
    · exact next_add I h
    · exact next_spawn I h
    · exact next_earlyRet I h
    · exact next_finalWait I h
    · exact next_finalRecv I h
    · exact next_worker I h

theorem reach_inv {cfg : Cfg} {s : State} (h : Reach expected cfg s) : Inv cfg s := by
  induction h with
  | init => exact inv_init cfg
  | step _ hs ih => exact (next_step ih hs).inv

theorem variant_decreases {cfg : Cfg} {s s' : State} {l : Label} (I : Inv cfg s)
    (h : step expected cfg s l = some s') : variant cfg s' < variant cfg s := (next_step I h).var

theorem no_deadlock_inv {cfg : Cfg} {s : State} (I : Inv cfg s) (hnf : s.final = false) :
    ∃ l s', step expected cfg s l = some s' := by
  unfold step
  simp only [I.noPanic]
  cases hb : s.workers.all (fun w => w.ops.isEmpty) with
  | true =>
    have hall : ∀ w ∈ s.workers, w.ops = [] := fun w hw => List.isEmpty_iff.mp (List.all_eq_true.mp hb w hw)
    have hrel : sumW relC s.workers = 0 := sumW_eq_zero (fun w hw => by simp [relC, hall w hw])
    have hdone : sumW doneC s.workers = 0 := sumW_eq_zero (fun w hw => by simp [doneC, hall w hw])
    have hproc := I.proc
    have hwgc := I.wgc
    have hK := conc_pos cfg
    cases hd : s.dpc with
    | loop =>
      by_cases hi : s.idx < cfg.jobs.length
      · have : s.processing < conc expected cfg := by simp [hd] at hproc; omega
        exact ⟨.acquire, _, stepAcquire_eq_some.mpr ⟨hd, hi, this, rfl⟩⟩
      · have : s.wg = 0 := by simp [hd] at hwgc; omega
        exact ⟨.finalWait, _, stepFinalWait_eq_some.mpr ⟨hd, Nat.le_of_not_lt hi, this, rfl⟩⟩
    | acquired => exact ⟨.add, _, stepAdd_eq_some.mpr ⟨hd, rfl⟩⟩
    | added =>
      exact ⟨.spawn, _, stepSpawn_eq_some.mpr ⟨_, _, hd, List.getElem?_eq_getElem (I.idxLt (Or.inr hd)), rfl⟩⟩
    | errRecv e =>
      have : s.wg = 0 := by simp [hd] at hwgc; omega
      exact ⟨.earlyRet, _, stepEarlyRet_eq_some.mpr ⟨e, hd, this, rfl⟩⟩
    | finalRecv => exact ⟨.finalRecv, _, stepFinalRecv_eq_some.mpr ⟨hd, rfl⟩⟩
    | returned => simp [State.final, hd, hb] at hnf
  | false =>
    obtain ⟨w, hw, hne⟩ := List.all_eq_false.mp hb
    obtain ⟨k, hk⟩ := List.mem_iff_getElem?.mp hw
    obtain ⟨s', hs', _⟩ := worker_step I hk (mt List.isEmpty_iff.mpr hne)
    exact ⟨.work k, s', hs'⟩

theorem quiescent_of_returned {cfg : Cfg} {s : State} (I : Inv cfg s) (hr : s.ret ≠ none)
    {w : Worker} (hw : w ∈ s.workers) : w.quiescent = true := by
  obtain ⟨k, hk⟩ := List.mem_iff_getElem?.mp hw
  obtain ⟨ho | ho, _⟩ := wok_past_done (I.wok k w hk) (returned_doneC I hr hk) <;>
    simp [Worker.quiescent, ho]

theorem nil_worker {cfg : Cfg} {s : State} (I : Inv cfg s) (hr : s.ret = some none) {k : Nat}
    (hk : k < cfg.jobs.length) :
    cfg.jobFails k = false ∧ k ∈ s.written.map (·.1) := by
  obtain ⟨hi, hall⟩ := I.retNil hr
  have hlt : k < s.workers.length := by rw [I.len]; omega
  obtain ⟨w, hw⟩ : ∃ w, s.workers[k]? = some w := ⟨_, List.getElem?_eq_getElem hlt⟩
  have hf := hall k w hw
  obtain ⟨ho, hjf⟩ := wok_past_done (I.wok k w hw) (returned_doneC I (by simp [hr]) hw)
  exact ⟨hjf.trans hf, (I.wrIff k w hw).mpr (by rcases ho with ho | ho <;> simp [wroteB, hf, ho])⟩

def target (cfg : Cfg) (k : Nat) : Bytes × Bytes :=
  match cfg.jobs[k]? with
  | some (p, c) => (p, cfg.ppf p c)
  | none => ([], [])

theorem range_map_target (cfg : Cfg) :
    (List.range cfg.jobs.length).map (target cfg) = cfg.jobs.map (fun j => (j.1, cfg.ppf j.1 j.2)) := by
  apply List.ext_getElem
  · simp
  · intro i h1 h2
    simp at h1
    simp [target, List.getElem?_eq_getElem h1]

theorem written_full {cfg : Cfg} {s : State} (I : Inv cfg s) (hr : s.ret = some none) :
    s.written.Perm ((List.range cfg.jobs.length).map fun k => (k, target cfg k)) := by
  have hw : s.written = (s.written.map (·.1)).map fun k => (k, target cfg k) := by
    rw [List.map_map]
    refine (List.map_id' _).symm.trans (List.map_congr_left fun x hx => ?_)
    obtain ⟨c0, hj, hc⟩ := I.wrOwn x hx
    simp [target, hj, ← hc]
  rw [hw]
  refine List.Perm.map _ ((List.perm_ext_iff_of_nodup I.wrNodup List.nodup_range).mpr fun a => ?_)
  rw [List.mem_range]
  refine ⟨fun ha => ?_, fun ha => (nil_worker I hr ha).2⟩
  obtain ⟨x, hx, rfl⟩ := List.mem_map.mp ha
  exact (I.retNil hr).1 ▸ I.wrLt x hx

theorem nil_written {cfg : Cfg} {s : State} (I : Inv cfg s) (hr : s.ret = some none)
    {k : Nat} {p c : Bytes} (hj : cfg.jobs[k]? = some (p, c)) : (k, p, cfg.ppf p c) ∈ s.written := by
  refine (written_full I hr).mem_iff.mpr (List.mem_map.mpr ⟨k, ?_, by simp [target, hj]⟩)
  exact List.mem_range.mpr (List.getElem?_eq_some_iff.mp hj).1

theorem written_perm {cfg : Cfg} {s : State} (I : Inv cfg s) (hr : s.ret = some none) :
    (s.written.map (·.2)).Perm (cfg.jobs.map (fun j => (j.1, cfg.ppf j.1 j.2))) := by
  have := (written_full I hr).map (·.2)
  rwa [List.map_map, show ((·.2) ∘ fun k => (k, target cfg k)) = target cfg from rfl, range_map_target] at this

theorem nil_no_failure {cfg : Cfg} {s : State} (I : Inv cfg s) (hr : s.ret = some none) :
    s.idx = cfg.jobs.length ∧ ∀ k, k < cfg.jobs.length → cfg.jobFails k = false :=
  ⟨(I.retNil hr).1, fun _ hk => (nil_worker I hr hk).1⟩

theorem reach_processing_le {cfg : Cfg} {s : State} (h : Reach expected cfg s) :
    s.processing ≤ conc expected cfg := by
  induction h with
  | init => exact Nat.zero_le _
  | step hr hs ih => exact (next_step (reach_inv hr) hs).sem ih

inductive Path (F : Facts) (cfg : Cfg) : State → List Label → State → Prop
  | nil (s : State) : Path F cfg s [] s
  | cons {s s' s'' : State} {l : Label} {ls : List Label} :
      step F cfg s l = some s' → Path F cfg s' ls s'' → Path F cfg s (l :: ls) s''

theorem path_reach {cfg : Cfg} {s s' : State} {ls : List Label} (hp : Path expected cfg s ls s')
    (hr : Reach expected cfg s) : Reach expected cfg s' := by
  induction hp with
  | nil => exact hr
  | cons hs _ ih => exact ih (Reach.step hr hs)

theorem path_length {cfg : Cfg} {s s' : State} {ls : List Label} (hp : Path expected cfg s ls s')
    (hr : Reach expected cfg s) : ls.length + variant cfg s' ≤ variant cfg s := by
  induction hp with
  | nil => simp
  | cons hs _ ih =>
    have := variant_decreases (reach_inv hr) hs
    have := ih (Reach.step hr hs)
    simp; omega

/-- used to exhibit reachable states -/
def runLabels (F : Facts) (cfg : Cfg) : State → List Label → Option State
  | s, [] => some s
  | s, l :: ls => match step F cfg s l with
    | none => none
    | some s' => runLabels F cfg s' ls

theorem runLabels_reach {F : Facts} {cfg : Cfg} : ∀ {ls : List Label} {s s' : State},
    Reach F cfg s → runLabels F cfg s ls = some s' → Reach F cfg s' := by
  intro ls s s' hr h
  fun_induction runLabels F cfg s ls with
  | case1 s => cases h; exact hr
  | case2 => cases h
  | case3 s l ls s1 hs ih => exact ih (Reach.step hr hs) h

end AsyncPP
