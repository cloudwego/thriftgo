import ThriftVerif.Lib.PegTakes
import ThriftVerif.Generated.C03Grammar
/-
  Token-level layout lemmas for the generated grammar: what `Skip` absorbs.  The statements are `Peg.Takes` / `Peg.Fails`
  (`PegTakes`) of a token rule; each derivation follows the rule's body in the grammar, which `rule_*` reads off `G` by
  `decide +kernel`.  Where a loop stops: for the loop of `Space` it is carried as the failure of its body (`Fails G wsAlt s`
  in `space_ok`, `star_blanks`, `star_comment`); for the others as a predicate on the rest, from which that failure is
  derived inside: `NlHead` for the loop of `//` and `#` comments (`lineStar`), `StopsSkip` for `Skip`'s own (`stops_fail`),
  the literal `*/` for `LongComment`'s (`longStar`).
  They are not composed with `parseRunes` into statements about a whole `p.Parse()`.
-/
namespace PegTokens
open Peg Generated.C03

abbrev G := Generated.C03.grammar

/-- `Indent / CarriageReturnLineFeed`, the body of `Space`'s loop -/
abbrev wsAlt : Expr := .alt (.call R.Indent) (.call R.CarriageReturnLineFeed)
/-- `!'*/' .`, the body of `LongComment`'s loop -/
abbrev longStep : Expr := .seq (.notP (.seq (.rng 42 42) (.rng 47 47))) .any
/-- `![\r\n] .`, the body of the loop of `LineComment` and `UnixComment` -/
abbrev lineStep : Expr := .seq (.notP (.alt (.rng 13 13) (.rng 10 10))) .any
/-- `Space / Comment`, the body of `Skip`'s loop -/
abbrev skipAlt : Expr := .alt (.call R.Space) (.call R.Comment)

theorem rule_Indent : G.rules[R.Indent]? = some (.alt (.rng 32 32) (.alt (.rng 9 9) (.rng 11 11))) := by decide +kernel
theorem rule_CRLF : G.rules[R.CarriageReturnLineFeed]? = some (.alt (.rng 13 13) (.rng 10 10)) := by decide +kernel
theorem rule_Space : G.rules[R.Space]? = some (.plus wsAlt) := by decide +kernel
theorem rule_Long : G.rules[R.LongComment]? = some (.seq (.seq (.rng 47 47) (.rng 42 42))
    (.seq (.star longStep) (.seq (.rng 42 42) (.rng 47 47)))) := by decide +kernel
theorem rule_Line : G.rules[R.LineComment]? = some (.seq (.seq (.rng 47 47) (.rng 47 47)) (.star lineStep)) := by decide +kernel
theorem rule_Unix : G.rules[R.UnixComment]? = some (.seq (.rng 35 35) (.star lineStep)) := by decide +kernel
theorem rule_Comment : G.rules[R.Comment]? = some (.alt (.call R.LongComment) (.alt (.call R.LineComment) (.call R.UnixComment))) := by decide +kernel
theorem rule_Skip : G.rules[R.Skip]? = some (.star skipAlt) := by decide +kernel

/-- the characters of Indent and CarriageReturnLineFeed -/
def isWs (c : Nat) : Prop := c = 32 ∨ c = 9 ∨ c = 11 ∨ c = 13 ∨ c = 10

instance (c : Nat) : Decidable (isWs c) := by unfold isWs; infer_instance

theorem wsCls : Cls G wsAlt isWs :=
  ((Cls.call rule_Indent (.alt .chr (.alt .chr .chr))).alt (.call rule_CRLF (.alt .chr .chr))).congr fun _ => by
    simp only [isWs, or_assoc]

theorem space_fail {s : List Nat} (h : Fails G wsAlt s) : Fails G (.call R.Space) s :=
  .call rule_Space (.plus h)

theorem space_ok {rest : List Nat} (hrest : Fails G wsAlt rest) {c : Nat} {bs : List Nat} (hbs : ∀ x ∈ c :: bs, isWs x) :
    Takes G (.call R.Space) (c :: bs ++ rest) rest :=
  have ⟨hc, hbs⟩ := List.forall_mem_cons.mp hbs
  .call rule_Space (.plus (wsCls.ok hc) (wsCls.star hrest bs hbs))

/-- the body of a `/* … */` comment: no `*/` inside.  A body ending in `*` is allowed: the character after it is the
closing `*`, not `/` -/
def NoClose : List Nat → Prop
  | [] => True
  | [_] => True
  | c :: d :: r => ¬ (c = 42 ∧ d = 47) ∧ NoClose (d :: r)

instance decNoClose : (l : List Nat) → Decidable (NoClose l)
  | [] => isTrue trivial
  | [_] => isTrue trivial
  | c :: d :: r =>
    have := decNoClose (d :: r)
    inferInstanceAs (Decidable (¬ (c = 42 ∧ d = 47) ∧ NoClose (d :: r)))

theorem noClose_tail (c : Nat) (r : List Nat) (h : NoClose (c :: r)) : NoClose r := by
  cases r with
  | nil => trivial
  | cons d r' => exact h.2

theorem longStar (rest body : List Nat) (h : NoClose body) :
    Takes G (.star longStep) (body ++ 42 :: 47 :: rest) (42 :: 47 :: rest) := by
  refine Takes.star_while NoClose noClose_tail (fun c r h => .seq (.not ?_) .any)
    (.seq1 (.not (.seq (Cls.chr.ok rfl) (Cls.chr.ok rfl)))) body h
  by_cases hc : c = 42
  · subst hc
    cases r with
    | nil => exact .seq2 (Cls.chr.ok rfl) (Cls.chr.no (by decide))
    | cons d r' => exact .seq2 (Cls.chr.ok rfl) (Cls.chr.no fun hd => h.1 ⟨rfl, hd⟩)
  · exact .seq1 (Cls.chr.no hc)

theorem long_ok (body rest : List Nat) (h : NoClose body) :
    Takes G (.call R.Comment) (47 :: 42 :: body ++ 42 :: 47 :: rest) rest :=
  .call rule_Comment (.alt_l (.call rule_Long (.seq (.seq (Cls.chr.ok rfl) (Cls.chr.ok rfl))
    (.seq (longStar rest body h) (.seq (Cls.chr.ok rfl) (Cls.chr.ok rfl))))))

/-- the body of a `//` or `#` comment -/
def NoNL (body : List Nat) : Prop := ∀ c ∈ body, c ≠ 13 ∧ c ≠ 10

/-- where a `//` or `#` comment ends: end of input, CR or LF -/
def NlHead : List Nat → Prop
  | [] => True
  | c :: _ => c = 13 ∨ c = 10

instance (l : List Nat) : Decidable (NoNL l) := by unfold NoNL; infer_instance

instance : (l : List Nat) → Decidable (NlHead l)
  | [] => isTrue trivial
  | c :: _ => inferInstanceAs (Decidable (c = 13 ∨ c = 10))

theorem nlCls : Cls G lineStep (fun c => c ≠ 13 ∧ c ≠ 10) :=
  (Cls.chr.alt .chr).anyBut.congr fun _ => not_or.symm

theorem lineStar (rest : List Nat) (hrest : NlHead rest) (body : List Nat) (h : NoNL body) :
    Takes G (.star lineStep) (body ++ rest) rest :=
  have hstop : Fails G lineStep rest :=
    match rest, hrest with
    | [], _ => nlCls.nil
    | _ :: _, hc => nlCls.no fun hn => hc.elim hn.1 hn.2
  nlCls.star hstop body h

theorem line_ok (body rest : List Nat) (h : NoNL body) (hrest : NlHead rest) :
    Takes G (.call R.Comment) (47 :: 47 :: body ++ rest) rest :=
  .call rule_Comment (.alt_r (.call rule_Long (.seq1 (.seq2 (Cls.chr.ok rfl) (Cls.chr.no (by decide)))))
    (.alt_l (.call rule_Line (.seq (.seq (Cls.chr.ok rfl) (Cls.chr.ok rfl)) (lineStar rest hrest body h)))))

theorem unix_ok (body rest : List Nat) (h : NoNL body) (hrest : NlHead rest) :
    Takes G (.call R.Comment) (35 :: body ++ rest) rest :=
  .call rule_Comment (.alt_r (.call rule_Long (.seq1 (.seq1 (Cls.chr.no (by decide)))))
    (.alt_r (.call rule_Line (.seq1 (.seq1 (Cls.chr.no (by decide)))))
      (.call rule_Unix (.seq (Cls.chr.ok rfl) (lineStar rest hrest body h)))))

theorem comment_fail {s : List Nat} (h47 : Fails G (.rng 47 47) s) (h35 : Fails G (.rng 35 35) s) : Fails G (.call R.Comment) s :=
  .call rule_Comment (.alt (.call rule_Long (.seq1 (.seq1 h47)))
    (.alt (.call rule_Line (.seq1 (.seq1 h47))) (.call rule_Unix (.seq1 h35))))

/-- a string the loop of `Skip` stops at.  Sufficient only: a `/` that opens no comment stops it too -/
def StopsSkip : List Nat → Prop
  | [] => True
  | c :: _ => ¬ isWs c ∧ c ≠ 47 ∧ c ≠ 35

instance : (s : List Nat) → Decidable (StopsSkip s)
  | [] => isTrue trivial
  | c :: _ => inferInstanceAs (Decidable (¬ isWs c ∧ c ≠ 47 ∧ c ≠ 35))

theorem stops_fail : ∀ {s : List Nat}, StopsSkip s → Fails G wsAlt s ∧ Fails G (.rng 47 47) s ∧ Fails G (.rng 35 35) s
  | [], _ => ⟨wsCls.nil, Cls.chr.nil, Cls.chr.nil⟩
  | _ :: _, h => ⟨wsCls.no h.1, Cls.chr.no h.2.1, Cls.chr.no h.2.2⟩

/-- the strings of the `Skip` language, written piece by piece: blanks, `/*…*/`, `//…` and `#…` up to a line end.
A line comment carries its line end inside the string (`w ≠ []`): what follows the string (`StopsSkip`) is no CR / LF,
so a line comment that runs to the end of the input is not covered. -/
inductive SkipStr : List Nat → Prop
  | nil : SkipStr []
  | ws {c w} : isWs c → SkipStr w → SkipStr (c :: w)
  | long {body w} : NoClose body → SkipStr w → SkipStr (47 :: 42 :: body ++ 42 :: 47 :: w)
  | line {body w} : NoNL body → NlHead w → w ≠ [] → SkipStr w → SkipStr (47 :: 47 :: body ++ w)
  | unix {body w} : NoNL body → NlHead w → w ≠ [] → SkipStr w → SkipStr (35 :: body ++ w)

theorem nlHead_append {a b : List Nat} (ha : NlHead a) (hne : a ≠ []) : NlHead (a ++ b) := by
  cases a with
  | nil => exact absurd rfl hne
  | cons c r => exact ha

theorem SkipStr.of_blanks : ∀ {ws : List Nat}, (∀ c ∈ ws, isWs c) → SkipStr ws
  | [], _ => .nil
  | _ :: _, h => .ws (List.forall_mem_cons.mp h).1 (of_blanks (List.forall_mem_cons.mp h).2)

/-- `Space` takes a maximal run of blanks in one go: if `Skip`'s loop gets from `s`, where no blank comes first, to `rest`, it
does so with blanks `bs` in front as well, by no further turn (`bs = []`) or by one through `Space` -/
theorem star_blanks {s rest : List Nat} (hhead : Fails G wsAlt s) (hs : Takes G (.star skipAlt) s rest) :
    ∀ (bs : List Nat), (∀ c ∈ bs, isWs c) → Takes G (.star skipAlt) (bs ++ s) rest
  | [], _ => hs
  | _ :: _, hbs => .star_cons (.alt_l (space_ok hhead hbs)) hs

theorem star_comment {s tl rest : List Nat} (hhead : Fails G wsAlt s) (hc : Takes G (.call R.Comment) s tl)
    (htl : Takes G (.star skipAlt) tl rest) : ∀ (bs : List Nat), (∀ c ∈ bs, isWs c) → Takes G (.star skipAlt) (bs ++ s) rest :=
  star_blanks hhead (.star_cons (.alt_r (space_fail hhead) hc) htl)

/-- `SkipStr` lists blanks one by one: the `ws` case moves its blank into `bs` -/
theorem skipStar {rest : List Nat} (hrest : StopsSkip rest) {w : List Nat} (hw : SkipStr w) :
    ∀ (bs : List Nat), (∀ c ∈ bs, isWs c) → Takes G (.star skipAlt) (bs ++ (w ++ rest)) rest := by
  induction hw with
  | nil =>
    have ⟨hws, h47, h35⟩ := stops_fail hrest
    exact star_blanks hws (.star_nil (.alt (space_fail hws) (comment_fail h47 h35)))
  | @ws c w hc _ ih =>
    intro bs hbs
    rw [List.cons_append, List.append_cons]
    exact ih (bs ++ [c]) (List.forall_mem_append.mpr ⟨hbs, List.forall_mem_singleton.mpr hc⟩)
  | @long body w hb _ ih =>
    rw [List.append_assoc]
    exact star_comment (wsCls.no (by decide)) (long_ok body (w ++ rest) hb) (ih [] nofun)
  | @line body w hb hn hne _ ih =>
    rw [List.append_assoc]
    exact star_comment (wsCls.no (by decide)) (line_ok body (w ++ rest) hb (nlHead_append hn hne)) (ih [] nofun)
  | @unix body w hb hn hne _ ih =>
    rw [List.append_assoc]
    exact star_comment (wsCls.no (by decide)) (unix_ok body (w ++ rest) hb (nlHead_append hn hne)) (ih [] nofun)

theorem skip_takes {w rest : List Nat} (hw : SkipStr w) (hrest : StopsSkip rest) : Takes G (.call R.Skip) (w ++ rest) rest :=
  .call rule_Skip (skipStar hrest hw [] nofun)

theorem skip_absorbs (w rest : List Nat) (pos : Nat) (hw : SkipStr w) (hrest : StopsSkip rest) :
    ∃ t, Runs G (.call R.Skip) pos (w ++ rest) (.ok (pos + w.length) rest t) :=
  (skip_takes hw hrest).runs pos

end PegTokens
