import ThriftVerif.Lib.PegLemmas
/-
  Shape of the trees `Peg.run` builds, for every grammar and every input: every node's range lies inside the matched span
  (`Within`); the pruned sibling chain an expression leaves is one the expression itself describes, the grammar seen as a
  tree grammar (`Kids`); where `<…>` nodes can begin (`CapFrom`); together, what the walker may assume of every node (`Safe`).
-/
namespace Peg

theorem append_nil (t : T) : t.append .nil = t := by
  induction t with
  | nil => rfl
  | node r b e up next _ ih => simp [T.append, ih]

theorem append_assoc (a b c : T) : (a.append b).append c = a.append (b.append c) := by
  induction a with
  | nil => rfl
  | node r b0 e0 up next _ ih => simp [T.append, ih]

theorem prune_append (a b : T) : prune (a.append b) = (prune a).append (prune b) := by
  induction a with
  | nil => rfl
  | node r b0 e0 up next _ ih =>
    simp only [T.append, prune]
    split
    · exact ih
    · simp [T.append, ih]

inductive Within : Nat → Nat → T → Prop
  | nil {lo hi} : Within lo hi .nil
  | node {lo hi r b e up next} : lo ≤ b → b ≤ e → e ≤ hi → Within b e up → Within lo hi next →
      Within lo hi (.node r b e up next)

theorem Within.mono {lo hi lo' hi' : Nat} {t : T} (h : Within lo hi t) (h1 : lo' ≤ lo) (h2 : hi ≤ hi') :
    Within lo' hi' t := by
  induction h with
  | nil => exact .nil
  | node a b c hu _ _ ihn => exact .node (by omega) b (by omega) hu (ihn h1 h2)

theorem Within.append {lo hi : Nat} {a b : T} (ha : Within lo hi a) (hb : Within lo hi b) :
    Within lo hi (a.append b) := by
  induction ha with
  | nil => exact hb
  | node h1 h2 h3 hu _ _ ihn => exact .node h1 h2 h3 hu (ihn hb)

theorem Within.prune {lo hi : Nat} {t : T} (h : Within lo hi t) : Within lo hi (prune t) := by
  induction h with
  | nil => exact .nil
  | node h1 h2 h3 _ _ ihu ihn =>
    simp only [Peg.prune]
    split
    · exact ihn
    · exact .node h1 h2 h3 ihu ihn

theorem Ok.within {g : Grammar} {e : Expr} {pos p' : Nat} {s s' : List Nat} {t : T} (h : Ok g e pos s p' s' t) :
    Within pos p' t := by
  induction h with
  | eps | rng _ | any | starNil | optNil | notP | andP => exact .nil
  | call _ hk ih | cap hk ih => exact .node (Nat.le_refl _) hk.pos_le (Nat.le_refl _) ih .nil
  | seq ha hb iha ihb | starCons ha hb iha ihb | plus ha hb iha ihb =>
    exact (iha.mono (Nat.le_refl _) hb.pos_le).append (ihb.mono ha.pos_le (Nat.le_refl _))
  | altL _ ih | altR _ ih | optSome _ ih => exact ih

/-- `t` is a sibling chain (after `prune`) that expression `e` can leave behind when it matches the span `[lo, hi)`.  A call
of a rule marked non-nullable, and any call over a non-empty span, leaves its node. -/
inductive Kids (g : Grammar) (nul : List Bool) : Expr → Nat → Nat → T → Prop
  | eps {p} : Kids g nul .eps p p .nil
  | rng {lo hi p} : Kids g nul (.rng lo hi) p (p + 1) .nil
  | any {p} : Kids g nul .any p (p + 1) .nil
  | notP {e p} : Kids g nul (.notP e) p p .nil
  | andP {e p} : Kids g nul (.andP e) p p .nil
  | callEmpty {r p} : nul.getD r true = true → Kids g nul (.call r) p p .nil
  | callNode {r body b e up} : g.rules[r]? = some body → Kids g nul body b e up → b < e →
      Kids g nul (.call r) b e (.node r b e up .nil)
  | seq {a b lo mid hi t1 t2} : Kids g nul a lo mid t1 → Kids g nul b mid hi t2 →
      Kids g nul (.seq a b) lo hi (t1.append t2)
  | altL {a b lo hi t} : Kids g nul a lo hi t → Kids g nul (.alt a b) lo hi t
  | altR {a b lo hi t} : Kids g nul b lo hi t → Kids g nul (.alt a b) lo hi t
  | starNil {e p} : Kids g nul (.star e) p p .nil
  | starCons {e lo mid hi t1 t2} : Kids g nul e lo mid t1 → Kids g nul (.star e) mid hi t2 →
      Kids g nul (.star e) lo hi (t1.append t2)
  | plus {e lo mid hi t1 t2} : Kids g nul e lo mid t1 → Kids g nul (.star e) mid hi t2 →
      Kids g nul (.plus e) lo hi (t1.append t2)
  | optNil {e p} : Kids g nul (.opt e) p p .nil
  | optSome {e lo hi t} : Kids g nul e lo hi t → Kids g nul (.opt e) lo hi t
  | capEmpty {e p} : nullable nul e = true → Kids g nul (.cap e) p p .nil
  | capNode {e b e' up} : Kids g nul e b e' up → b < e' → Kids g nul (.cap e) b e' (.node g.pegText b e' up .nil)

theorem Kids.le {g : Grammar} {nul : List Bool} {e : Expr} {lo hi : Nat} {t : T} (h : Kids g nul e lo hi t) : lo ≤ hi := by
  induction h <;> omega

/-- C03 `tree_conforms`, for every grammar with a sound nullable table. -/
theorem Ok.kids {g : Grammar} {nul : List Bool} (hn : NulSound g nul) {e : Expr} {pos p' : Nat} {s s' : List Nat} {t : T}
    (h : Ok g e pos s p' s' t) : Kids g nul e pos p' (prune t) := by
  induction h with
  | eps => exact .eps
  | rng _ => exact .rng
  | any => exact .any
  | notP => exact .notP
  | andP => exact .andP
  | starNil => exact .starNil
  | optNil => exact .optNil
  | altL _ ih => exact .altL ih
  | altR _ ih => exact .altR ih
  | optSome _ ih => exact .optSome ih
  | seq _ _ iha ihb => rw [prune_append]; exact .seq iha ihb
  | starCons _ _ iha ihb => rw [prune_append]; exact .starCons iha ihb
  | plus _ _ iha ihb => rw [prune_append]; exact .plus iha ihb
  -- an empty node is dropped by `prune`: then nothing is consumed, so the rule (the capture's body) is nullable
  | call hb hk ih =>
    simp only [prune]
    split
    · next heq =>
      subst heq
      exact .callEmpty ((Ok.call hb hk).nullable_of_empty hn)
    · next hne => exact .callNode hb ih (Nat.lt_of_le_of_ne hk.pos_le hne)
  | cap hk ih =>
    simp only [prune]
    split
    · next heq =>
      subst heq
      exact .capEmpty (hk.nullable_of_empty hn)
    · next hne => exact .capNode ih (Nat.lt_of_le_of_ne hk.pos_le hne)

/-- every PegText node (id `pt`), at any depth, begins at offset ≥ `m` -/
inductive CapFrom (pt m : Nat) : T → Prop
  | nil : CapFrom pt m .nil
  | node {r b e up next} : (r = pt → m ≤ b) → CapFrom pt m up → CapFrom pt m next →
      CapFrom pt m (.node r b e up next)

theorem CapFrom.mono {pt m m' : Nat} {t : T} (h : CapFrom pt m t) (hm : m' ≤ m) : CapFrom pt m' t := by
  induction h with
  | nil => exact .nil
  | node h1 _ _ ihu ihn => exact .node (fun e => Nat.le_trans hm (h1 e)) ihu ihn

theorem CapFrom.append {pt m : Nat} {a b : T} (ha : CapFrom pt m a) (hb : CapFrom pt m b) :
    CapFrom pt m (a.append b) := by
  induction ha with
  | nil => exact hb
  | node h1 hu _ _ ihn => exact .node h1 hu ihn

theorem CapFrom.prune {pt m : Nat} {t : T} (h : CapFrom pt m t) : CapFrom pt m (prune t) := by
  induction h with
  | nil => exact .nil
  | node h1 _ _ ihu ihn =>
    simp only [Peg.prune]
    split
    · exact ihn
    · exact .node h1 ihu ihn

structure CapWF (g : Grammar) (nul cap : List Bool) : Prop where
  len : cap.length = g.rules.size
  start : cap.getD 0 true = false
  closed : ∀ i body, g.rules[i]? = some body → capHead nul cap body = true → cap.getD i true = true

theorem capOK_unpack {g : Grammar} {nul cap : List Bool} (h : capOK g nul cap = true) : CapWF g nul cap := by
  simp only [capOK, Bool.and_eq_true, beq_iff_eq, List.all_eq_true, List.mem_range] at h
  obtain ⟨⟨h1, h2⟩, h3⟩ := h
  refine ⟨h1, h2, fun i body hb hc => ?_⟩
  obtain ⟨hlt, _⟩ := Array.getElem?_eq_some_iff.mp hb
  have := h3 i hlt
  simp only [hb, hc, Bool.or_eq_true, Bool.not_eq_true', Bool.true_eq_false, false_or] at this
  exact getD_congr (h1 ▸ hlt) _ true ▸ this

/-- lower bound for the begin offset of captures below an expression matched at `p`; `c` is its `capHead` -/
def lvl (c : Bool) (p : Nat) : Nat := if c = true then p else p + 1

theorem lvl_ge (c : Bool) (p : Nat) : p ≤ lvl c p := by unfold lvl; split <;> omega
theorem lvl_le (c : Bool) (p : Nat) : lvl c p ≤ p + 1 := by unfold lvl; split <;> omega
@[simp] theorem lvl_true (p : Nat) : lvl true p = p := by simp [lvl]
@[simp] theorem lvl_false (p : Nat) : lvl false p = p + 1 := by simp [lvl]

theorem lvl_le_lvl {c d : Bool} {p q : Nat} (hp : p ≤ q) (hc : d = true → c = true) : lvl c p ≤ lvl d q := by
  cases d with
  | false => exact Nat.le_trans (lvl_le c p) (by simpa using hp)
  | true => rw [hc rfl]; simpa using hp

theorem Ok.capFrom {g : Grammar} {nul cap : List Bool} (hn : NulSound g nul) (hc : CapWF g nul cap)
    {e : Expr} {pos p' : Nat} {s s' : List Nat} {t : T} (h : Ok g e pos s p' s' t) :
    CapFrom g.pegText (lvl (capHead nul cap e) pos) t := by
  induction h with
  | eps | rng _ | any | starNil | optNil | notP | andP => exact .nil
  | optSome _ ih => exact ih
  | altL _ ih => exact ih.mono (lvl_le_lvl (Nat.le_refl _) fun h => by simp [capHead, h])
  | altR _ ih => exact ih.mono (lvl_le_lvl (Nat.le_refl _) fun h => by simp [capHead, h])
  | call hb _ ih =>
    obtain ⟨hlt, _⟩ := Array.getElem?_eq_some_iff.mp hb
    -- a rule id is below `rules.size`, which is the id of PegText: a rule node is no PegText node
    exact .node (fun e => absurd (e ▸ hlt) (Nat.lt_irrefl _)) (ih.mono (lvl_le_lvl (Nat.le_refl _) (hc.closed _ _ hb))) .nil
  | cap _ ih => exact .node (fun _ => Nat.le_refl _) (ih.mono (lvl_le_lvl (Nat.le_refl _) fun _ => rfl)) .nil
  | starCons ha _ iha ihb | plus ha _ iha ihb => exact iha.append (ihb.mono (lvl_le_lvl ha.pos_le id))
  | seq ha _ iha ihb =>
    refine (iha.mono (lvl_le_lvl (Nat.le_refl _) fun h => by simp [capHead, h])).append (ihb.mono ?_)
    simp only [capHead]
    cases hna : nullable nul _ with
    | true => exact lvl_le_lvl ha.pos_le fun hcb => by simp [hcb]
    -- `a` consumed input, so whatever `b` captures begins after `pos`
    | false => exact Nat.le_trans (lvl_le _ _) (Nat.le_trans (ha.pos_lt hn hna) (lvl_ge _ _))

/-- what the walker may assume about every node: a non-empty range inside the buffer (of `n` runes), and a PegText
node does not begin at offset 0 (`pegText` reads `buffer[begin-1]`) -/
inductive Safe (pt n : Nat) : T → Prop
  | nil : Safe pt n .nil
  | node {r b e up next} : b < e → e ≤ n → (r = pt → 1 ≤ b) → Safe pt n up → Safe pt n next →
      Safe pt n (.node r b e up next)

theorem Safe.mono {pt n n' : Nat} {t : T} (h : Safe pt n t) (hn : n ≤ n') : Safe pt n' t := by
  induction h with
  | nil => exact .nil
  | node h1 h2 h3 _ _ ihu ihn => exact .node h1 (by omega) h3 ihu ihn

theorem safe_prune {pt n lo : Nat} : ∀ {t : T}, Within lo n t → CapFrom pt 1 t → Safe pt n (prune t) := by
  intro t hw
  induction hw with
  | nil => intro _; exact .nil
  | node h1 h2 h3 hu hn ihu ihn =>
    intro hc
    cases hc with
    | node c1 cu cn =>
      simp only [prune]
      split
      · exact ihn cn
      · rename_i hne
        refine .node (by omega) h3 c1 ?_ (ihn cn)
        exact (ihu cu).mono h3

/-- C03 `tree_in_bounds`, for every grammar that passes `wf` and `capOK`. -/
theorem parse_safe {g : Grammar} {nul cap : List Bool} {rk : List Nat} (hw : WF g nul rk) (hc : CapWF g nul cap)
    (rs : List Nat) (p' : Nat) (s' : List Nat) (t : T) (h : parseRunes g rs = .ok p' s' t) :
    Safe g.pegText rs.length (prune t) := by
  have ho := Ok.of_parseRunes h
  have inv := ho.consumes hw.nulSound
  have hcf := ho.capFrom hw.nulSound hc
  rw [show capHead nul cap (.call 0) = false from hc.start] at hcf
  exact safe_prune (ho.within.mono (Nat.le_refl _) (by omega)) (by simpa using hcf)

theorem Kids.call_inv {g : Grammar} {nul : List Bool} {r lo hi : Nat} {t : T} (h : Kids g nul (.call r) lo hi t) :
    (t = .nil ∧ lo = hi ∧ nul.getD r true = true) ∨
    ∃ body up, g.rules[r]? = some body ∧ t = .node r lo hi up .nil ∧ lo < hi ∧ Kids g nul body lo hi up := by
  cases h with
  | callEmpty h => exact .inl ⟨rfl, rfl, h⟩
  | callNode hb hk hlt => exact .inr ⟨_, _, hb, rfl, hlt, hk⟩

theorem Safe.span {pt n r b e : Nat} {u nx : T} : Safe pt n (.node r b e u nx) → b < e ∧ e ≤ n
  | .node h1 h2 _ _ _ => ⟨h1, h2⟩

theorem Safe.up {pt n r b e : Nat} {u nx : T} (h : Safe pt n (.node r b e u nx)) : Safe pt n u := by
  cases h with | node _ _ _ hu _ => exact hu

theorem Safe.next {pt n r b e : Nat} {u nx : T} (h : Safe pt n (.node r b e u nx)) : Safe pt n nx := by
  cases h with | node _ _ _ _ hn => exact hn

theorem Safe.of_append_left {pt n : Nat} {a b : T} (h : Safe pt n (a.append b)) : Safe pt n a := by
  fun_induction T.append a b
  case case1 => exact .nil
  case case2 ih => cases h with | node h1 h2 h3 hu hn => exact .node h1 h2 h3 hu (ih hn)

theorem Safe.of_append_right {pt n : Nat} {a b : T} (h : Safe pt n (a.append b)) : Safe pt n b := by
  fun_induction T.append a b
  case case1 => exact h
  case case2 ih => exact ih h.next

end Peg
