/-
  C17 helper lemmas: the dumped text of a constant value and of an annotation list is read back by the reader
  model (`readCV_final`, `readAnnotations_final`), whatever `Term` text follows.

  The first byte of a printed value matters only for the choice of the alternative of `ConstValue`.  That the
  blanks the printer puts between the pieces do no harm is a property of the reader: every rule begins with `Skip`
  (`Blank`), and a list loop goes on whenever a value can be read, since a closing bracket is none (`readCV_closer`).
-/
import ThriftVerif.Lib.DumpLemmas
import ThriftVerif.Lib.DumpNumLemmas

namespace Dump

mutual
/-- `printCV stdCfg` with `ws` unfolded and every append nested to the right (`printCV_final`), so that the reader
    lemmas below can rewrite with the head byte of the text exposed -/
def finalCV (ff : Nat → Bytes) : CV → Bytes
  | .dbl b => dblText (ff b)
  | .int i => fmtInt i
  | .lit v => quoteVal stdCfg v
  | .ident s => s
  | .list l => 91 :: (finalItems ff l ++ [93])
  | .map m => 123 :: (finalPairs ff m ++ [10, 125])
  | .unset => []
def finalItems (ff : Nat → Bytes) : List CV → Bytes
  | [] => []
  | v :: rest => finalCV ff v ++ ((if !rest.isEmpty then [44, 32] else []) ++ finalItems ff rest)
def finalPairs (ff : Nat → Bytes) : List (CV × CV) → Bytes
  | [] => []
  | (k, v) :: rest =>
    10 :: 9 :: (finalCV ff k ++ (58 :: 32 :: (finalCV ff v ++ ((if !rest.isEmpty then [44, 32] else []) ++ finalPairs ff rest))))
end

/-- what may follow a value in dumped text: `,` `]` `:` newline `}` blank `(` or the end -/
def Term : Bytes → Prop
  | [] => True
  | c :: _ => c = 44 ∨ c = 93 ∨ c = 58 ∨ c = 10 ∨ c = 125 ∨ c = 32 ∨ c = 40

theorem Term.stopsId {r : Bytes} (h : Term r) : stops isIdChar r := by
  cases r with
  | nil => trivial
  | cons c r => rcases h with h | h | h | h | h | h | h <;> subst h <;> rfl

theorem sep_of_stopsId {r : Bytes} (h : stops isIdChar r) : Sep r := by
  cases r with
  | nil => trivial
  | cons c r => simp [stops, isIdChar, isLetter, isDigit] at h; simp [Sep, isDigit]; omega

def NumStart (c : Nat) : Prop := isDigit c = true ∨ c = 45

theorem NumStart.facts {c : Nat} (h : NumStart c) :
    isWs c = false ∧ c ≠ 91 ∧ c ≠ 123 ∧ c ≠ 34 ∧ c ≠ 39 ∧ isLetter c = false := by
  simp [NumStart, isDigit] at h; simp [isWs, isLetter]; omega

theorem letter_facts {c : Nat} (h : isLetter c = true) :
    isWs c = false ∧ c ≠ 91 ∧ c ≠ 123 ∧ c ≠ 34 ∧ c ≠ 39 ∧ c ≠ 41 := by
  simp [isLetter] at h; simp [isWs]; omega

def Starts (P : Nat → Prop) : Bytes → Prop
  | [] => False
  | c :: _ => P c

theorem Starts.append {P : Nat → Prop} {T : Bytes} (h : Starts P T) (Z : Bytes) : Starts P (T ++ Z) := by
  cases T with
  | nil => exact h.elim
  | cons c t => exact h

theorem dropP_cons_false (p : Nat → Bool) (c : Nat) (s : Bytes) (h : p c = false) : dropP p (c :: s) = c :: s := by
  simp [dropP, h]

theorem dropP_cons_true (p : Nat → Bool) (c : Nat) (s : Bytes) (h : p c = true) : dropP p (c :: s) = dropP p s := by
  simp [dropP, h]

theorem skipSep_comma (T : Bytes) : skipSep (skipIndent (44 :: 32 :: T)) = skipIndent T := by
  simp [skipSep, skipWs, skipIndent, dropP, isWs, isIndent]

theorem dropP_dropP {p q : Nat → Bool} (hqp : ∀ c, q c = true → p c = true) (s : Bytes) :
    dropP p (dropP q s) = dropP p s := by
  fun_induction dropP q s with
  | case1 => rfl
  | case2 c s hq ih => rw [ih, dropP_cons_true p c s (hqp c hq)]
  | case3 => rfl

theorem isWs_of_isIndent (c : Nat) (h : isIndent c = true) : isWs c = true := by
  simp [isIndent] at h; rcases h with (h | h) | h <;> subst h <;> rfl

theorem skipWs_cons {c : Nat} (h : isWs c = false) (r : Bytes) : skipWs (c :: r) = c :: r := dropP_cons_false _ _ _ h

theorem skipWs_idem (s : Bytes) : skipWs (skipWs s) = skipWs s := dropP_dropP (fun _ h => h) s

/-- `g` begins with `Skip` -/
def Blank {β : Type} (g : Bytes → β) : Prop := ∀ s, g (skipWs s) = g s

theorem Blank.indent {β : Type} {g : Bytes → β} (hg : Blank g) (s : Bytes) : g (skipIndent s) = g s := by
  rw [← hg, skipWs, skipIndent, dropP_dropP isWs_of_isIndent]; exact hg s

theorem Blank.cons {β : Type} {g : Bytes → β} (hg : Blank g) (c : Nat) (hc : isWs c = true) (s : Bytes) : g (c :: s) = g s := by
  rw [← hg, skipWs, dropP_cons_true _ _ _ hc]; exact hg s

/-- `ListSeparator?` after an element of a printed list -/
theorem Blank.sep {β α : Type} {g : Bytes → β} (hg : Blank g) (body : List α → Bytes) (l : List α) (close : Bytes)
    (hnil : body [] = []) (hclose : skipSep (skipIndent close) = close) :
    g (skipSep (skipIndent ((if !l.isEmpty then [44, 32] else []) ++ (body l ++ close)))) = g (body l ++ close) := by
  cases l with
  | nil => rw [hnil]; exact congrArg g hclose
  | cons x l => exact (congrArg g (skipSep_comma _)).trans (hg.indent _)

theorem readCV_blank (pf : Bytes → Nat) (f : Nat) : Blank (readCV pf f) := fun s => by
  cases f with
  | zero => simp [readCV]
  | succ f => rw [readCV, skipWs_idem, readCV]

theorem readCVItems_blank (pf : Bytes → Nat) (f : Nat) : Blank (readCVItems pf f) := fun s => by
  cases f with
  | zero => simp [readCVItems]
  | succ f => rw [readCVItems, skipWs_idem, readCVItems]

theorem readCVPairs_blank (pf : Bytes → Nat) (f : Nat) : Blank (readCVPairs pf f) := fun s => by
  cases f with
  | zero => simp [readCVPairs]
  | succ f => rw [readCVPairs, skipWs_idem, readCVPairs]

theorem readAnnPairs_blank (f : Nat) : Blank (readAnnPairs f) := fun s => by
  cases f with
  | zero => simp [readAnnPairs]
  | succ f => rw [readAnnPairs, skipWs_idem, readAnnPairs]

theorem readAnnotations_blank : Blank readAnnotations := fun s => by
  rw [readAnnotations, skipWs_idem, readAnnotations]

def IdentOK (s : Bytes) : Prop := ∃ c r, s = c :: r ∧ isLetter c = true ∧ r.all isIdChar = true

/-- what the reader returns for a dumped value: the identity (`reread_id`), since a double is always written with
    a fractional part and so is never read as an integer -/
def rereadDbl (_t : Bytes) (b : Nat) : CV := .dbl b

mutual
def reread (ff : Nat → Bytes) : CV → CV
  | .dbl b => rereadDbl (ff b) b
  | .int i => .int i
  | .lit v => .lit v
  | .ident s => .ident s
  | .list l => .list (rereadItems ff l)
  | .map m => .map (rereadPairs ff m)
  | .unset => .unset
def rereadItems (ff : Nat → Bytes) : List CV → List CV
  | [] => []
  | v :: r => reread ff v :: rereadItems ff r
def rereadPairs (ff : Nat → Bytes) : List (CV × CV) → List (CV × CV)
  | [] => []
  | (k, v) :: r => (reread ff k, reread ff v) :: rereadPairs ff r
end

mutual
def GoodCV (ff : Nat → Bytes) (pf : Bytes → Nat) : CV → Prop
  | .dbl b => Nonempty (FShape (ff b)) ∧ pf (dblText (ff b)) = b
  | .int i => -9223372036854775808 ≤ i ∧ i < 9223372036854775808
  | .lit v => Representable v = true
  | .ident s => IdentOK s
  | .list l => GoodItems ff pf l
  | .map m => GoodPairs ff pf m
  | .unset => False
def GoodItems (ff : Nat → Bytes) (pf : Bytes → Nat) : List CV → Prop
  | [] => True
  | v :: r => GoodCV ff pf v ∧ GoodItems ff pf r
def GoodPairs (ff : Nat → Bytes) (pf : Bytes → Nat) : List (CV × CV) → Prop
  | [] => True
  | (k, v) :: r => GoodCV ff pf k ∧ GoodCV ff pf v ∧ GoodPairs ff pf r
end

mutual
def cvSize : CV → Nat
  | .list l => 1 + itemsSize l
  | .map m => 1 + pairsSize m
  | _ => 1
def itemsSize : List CV → Nat
  | [] => 1
  | v :: r => 1 + cvSize v + itemsSize r
def pairsSize : List (CV × CV) → Nat
  | [] => 1
  | (k, v) :: r => 1 + cvSize k + cvSize v + pairsSize r
end

theorem canon_head {ds : Bytes} (h : Canon ds) : Starts NumStart ds := by
  obtain ⟨hall, d, r, rfl, _⟩ := h
  exact Or.inl (List.all_cons.symm.trans hall |> Bool.and_eq_true_iff.mp).1

theorem digits_noDot (ds : Bytes) (h : ds.all isDigit = true) : ds.any (· == 46) = false :=
  List.any_eq_false.mpr fun d hd e => by
    rw [beq_iff_eq.mp e] at hd
    exact absurd (List.all_eq_true.mp h 46 hd) (by decide)

theorem fshape_dblText {t : Bytes} (sh : FShape t) : ∃ sh' : FShape (dblText t), sh'.fp ≠ [] := by
  obtain ⟨neg, ip, fp, rfl, hip, hfp⟩ := sh
  have h1 := digits_noDot ip hip.1
  cases fp with
  | nil =>
    have hd : hasDot ((if neg then [45] else []) ++ ip) = false := by cases neg <;> simp [hasDot, h1]
    exact ⟨⟨neg, ip, [48], by simp [dblText, hd], hip, by decide⟩, by simp⟩
  | cons f fp =>
    have hd : hasDot ((if neg then [45] else []) ++ (ip ++ 46 :: f :: fp)) = true := by simp [hasDot]
    exact ⟨⟨neg, ip, f :: fp, by simp [dblText, hd], hip, hfp⟩, by simp⟩

theorem fshape_head {t : Bytes} (sh : FShape t) : Starts NumStart t := by
  obtain ⟨neg, ip, fp, rfl, hip, hfp⟩ := sh
  cases neg with
  | true => exact Or.inr rfl
  | false =>
    simp only [Bool.false_eq_true, if_false, List.nil_append]
    exact (canon_head hip).append _

theorem fmtInt_head (i : Int) : Starts NumStart (fmtInt i) := by
  cases i with
  | ofNat n => exact canon_head (decDigits_canon n)
  | negSucc n => exact Or.inr rfl

theorem quoteVal_head (v : Bytes) : Starts (fun c => c = 34 ∨ c = 39) (quoteVal stdCfg v) := by
  rw [quoteVal_std]; split
  · exact Or.inr rfl
  · exact Or.inl rfl

theorem readCV_num (pf : Bytes → Nat) (f : Nat) {T : Bytes} (h : Starts NumStart T) :
    readCV pf (f + 1) T =
      match readNumber pf T with
      | (.int i, r') => some (CV.int i, skipIndent r')
      | (.dbl b, r') => some (CV.dbl b, skipIndent r')
      | _ => none := by
  cases T with
  | nil => exact h.elim
  | cons c r =>
    obtain ⟨h1, h2, h3, h4, h5, h6⟩ := NumStart.facts h
    rw [readCV]
    simp only [skipWs_cons h1, h2, h3, h4, h5, h6, false_or, if_false, Bool.false_eq_true]
    -- the `match` compiled inside `readCV` and the one of the statement: two functions with the same cases
    rfl

theorem readCV_lit (pf : Bytes → Nat) (f : Nat) {T : Bytes} (h : Starts (fun c => c = 34 ∨ c = 39) T) :
    readCV pf (f + 1) T = (readLiteral T).map fun p => (CV.lit p.1, skipIndent p.2) := by
  cases T with
  | nil => exact h.elim
  | cons c r =>
    rw [readCV]
    rcases h with h | h <;> subst h <;> simp [skipWs_cons, isWs]

theorem readCV_ident (pf : Bytes → Nat) (f c : Nat) (r : Bytes) (h : isLetter c = true) :
    readCV pf (f + 1) (c :: r) = (readIdent (c :: r)).map fun p => (CV.ident p.1, skipIndent p.2) := by
  obtain ⟨h1, h2, h3, h4, h5, _⟩ := letter_facts h
  rw [readCV]
  simp [skipWs_cons h1, h2, h3, h4, h5, h]

theorem readCV_list (pf : Bytes → Nat) (f : Nat) (r : Bytes) :
    readCV pf (f + 1) (91 :: r) = (readCVItems pf f r).map fun p => (CV.list p.1, p.2) := by
  rw [readCV]
  simp [skipWs_cons, isWs, (readCVItems_blank pf f).indent]

theorem readCV_map (pf : Bytes → Nat) (f : Nat) (r : Bytes) :
    readCV pf (f + 1) (123 :: r) = (readCVPairs pf f r).map fun p => (CV.map p.1, p.2) := by
  rw [readCV]
  simp [skipWs_cons, isWs, (readCVPairs_blank pf f).indent]

theorem readCVItems_close (pf : Bytes → Nat) (f : Nat) (rest : Bytes) :
    readCVItems pf (f + 1) (93 :: rest) = some ([], skipIndent rest) := by
  rw [readCVItems]; simp [skipWs_cons, isWs]

theorem readCVPairs_close (pf : Bytes → Nat) (f : Nat) (rest : Bytes) :
    readCVPairs pf (f + 1) (10 :: 125 :: rest) = some ([], skipIndent rest) := by
  rw [readCVPairs]; simp [skipWs, dropP, isWs]

theorem readCV_closer (pf : Bytes → Nat) (f c : Nat) (r : Bytes) (hc : c = 93 ∨ c = 125) : readCV pf f (c :: r) = none := by
  cases f with
  | zero => simp [readCV]
  | succ f =>
    rw [readCV]
    rcases hc with h | h <;> subst h <;>
      simp [skipWs_cons, isWs, isLetter, readNumber, splitSign, spanP, isDigit, dblAlt, intAlt]

theorem readCVItems_step (pf : Bytes → Nat) (f : Nat) (T : Bytes) (v : CV) (r : Bytes) (h : readCV pf f T = some (v, r)) :
    readCVItems pf (f + 1) T = (readCVItems pf f (skipSep r)).map fun p => (v :: p.1, p.2) := by
  rw [← readCV_blank] at h
  rw [readCVItems]
  split
  · rename_i r' heq; rw [heq, readCV_closer pf f 93 r' (Or.inl rfl)] at h; cases h
  · rw [h]

theorem readCVPairs_step (pf : Bytes → Nat) (f : Nat) (T : Bytes) (k v : CV) (r2 r3 : Bytes)
    (hk : readCV pf f T = some (k, 58 :: r2)) (hv : readCV pf f r2 = some (v, r3)) :
    readCVPairs pf (f + 1) T = (readCVPairs pf f (skipSep r3)).map fun p => ((k, v) :: p.1, p.2) := by
  rw [← readCV_blank] at hk
  rw [readCVPairs]
  split
  · rename_i r' heq; rw [heq, readCV_closer pf f 125 r' (Or.inr rfl)] at hk; cases hk
  · rw [hk]
    simp only [skipWs_cons (c := 58) rfl, (readCV_blank pf f).indent, hv]

theorem term_sep_items (rest : Bytes) (tl : Bytes) (b : Bool) :
    Term ((if b then [44, 32] else []) ++ tl ++ 93 :: rest) ∨ True := Or.inr trivial

theorem readIdent_ok (c : Nat) (r rest : Bytes) (hc : isLetter c = true) (hr : r.all isIdChar = true)
    (ht : stops isIdChar rest) : readIdent (c :: (r ++ rest)) = some (c :: r, rest) := by
  simp [readIdent, hc, spanP_append isIdChar r rest hr ht]

mutual
theorem readCV_final (ff : Nat → Bytes) (pf : Bytes → Nat) :
    ∀ (cv : CV), GoodCV ff pf cv → ∀ rest, Term rest → ∀ f, cvSize cv ≤ f →
      readCV pf f (finalCV ff cv ++ rest) = some (reread ff cv, skipIndent rest)
  | cv, _, _, _, 0, hf => by cases cv <;> simp [cvSize] at hf
  | .list l, hg, rest, _, f + 1, hf => by
    simp only [finalCV, reread, List.cons_append, List.append_assoc, List.nil_append]
    rw [readCV_list, readItems_final ff pf l hg rest f (by simp only [cvSize] at hf; omega)]
    rfl
  | .map m, hg, rest, _, f + 1, hf => by
    simp only [finalCV, reread, List.cons_append, List.append_assoc, List.nil_append]
    rw [readCV_map, readPairs_final ff pf m hg rest f (by simp only [cvSize] at hf; omega)]
    rfl
  | .dbl b, ⟨⟨sh⟩, hrt⟩, rest, ht, f + 1, _ => by
    obtain ⟨sh', hfp⟩ := fshape_dblText sh
    rw [finalCV, readCV_num pf f ((fshape_head sh').append rest),
      readNumber_fshape_frac pf _ sh' hfp rest (sepD_of_sep (sep_of_stopsId ht.stopsId)), hrt]
    rfl
  | .int i, ⟨hlo, hhi⟩, rest, ht, f + 1, _ => by
    rw [finalCV, readCV_num pf f ((fmtInt_head i).append rest),
      readNumber_fmtInt pf i hlo hhi rest (sep_of_stopsId ht.stopsId)]
    rfl
  | .lit v, hg, rest, _, f + 1, _ => by
    simp only [finalCV, reread]
    rw [readCV_lit pf f ((quoteVal_head v).append rest), readLiteral_quoteVal v rest hg]
    rfl
  | .ident _, ⟨c, r, rfl, hc, hr⟩, rest, ht, f + 1, _ => by
    simp only [finalCV, reread, List.cons_append]
    rw [readCV_ident pf f c _ hc, readIdent_ok c r rest hc hr ht.stopsId]
    rfl
  | .unset, hg, _, _, _, _ => hg.elim
theorem readItems_final (ff : Nat → Bytes) (pf : Bytes → Nat) :
    ∀ (l : List CV), GoodItems ff pf l → ∀ rest f, itemsSize l ≤ f →
      readCVItems pf f (finalItems ff l ++ 93 :: rest) = some (rereadItems ff l, skipIndent rest)
  | l, _, _, 0, hf => by cases l <;> simp [itemsSize] at hf
  | [], _, rest, f + 1, _ => readCVItems_close pf f rest
  | v :: vs, ⟨hv, hvs⟩, rest, f + 1, hf => by
    simp only [itemsSize] at hf
    simp only [finalItems, List.append_assoc, rereadItems]
    rw [readCVItems_step pf f _ _ _ (readCV_final ff pf v hv _ (by cases vs <;> simp [Term, finalItems]) f (by omega)),
      (readCVItems_blank pf f).sep (finalItems ff) vs (93 :: rest) rfl rfl, readItems_final ff pf vs hvs rest f (by omega)]
    rfl
theorem readPairs_final (ff : Nat → Bytes) (pf : Bytes → Nat) :
    ∀ (m : List (CV × CV)), GoodPairs ff pf m → ∀ rest f, pairsSize m ≤ f →
      readCVPairs pf f (finalPairs ff m ++ 10 :: 125 :: rest) = some (rereadPairs ff m, skipIndent rest)
  | m, _, _, 0, hf => by cases m <;> simp [pairsSize] at hf
  | [], _, rest, f + 1, _ => readCVPairs_close pf f rest
  | (k, v) :: ms, ⟨hk, hv, hms⟩, rest, f + 1, hf => by
    simp only [pairsSize] at hf
    simp only [finalPairs, List.cons_append, List.append_assoc, rereadPairs]
    rw [(readCVPairs_blank pf (f + 1)).cons 10 rfl, (readCVPairs_blank pf (f + 1)).cons 9 rfl,
      readCVPairs_step pf f _ _ _ _ _ (readCV_final ff pf k hk _ (by simp [Term]) f (by omega))
        (((readCV_blank pf f).cons 32 rfl _).trans
          (readCV_final ff pf v hv _ (by cases ms <;> simp [Term, finalPairs]) f (by omega))),
      (readCVPairs_blank pf f).sep (finalPairs ff) ms (10 :: 125 :: rest) rfl rfl,
      readPairs_final ff pf ms hms rest f (by omega)]
    rfl
end

mutual
theorem printCV_final (ff : Nat → Bytes) : ∀ cv : CV, printCV stdCfg ff cv = finalCV ff cv
  | .dbl _ | .int _ | .lit _ | .ident _ => by simp [printCV, finalCV, ws]
  | .list l => by simp [printCV, finalCV, ws, printItems_final ff l]
  | .map m => by simp [printCV, finalCV, ws, printPairs_final ff m]
  | .unset => by simp [printCV, finalCV]
theorem printItems_final (ff : Nat → Bytes) : ∀ l : List CV, printCVList stdCfg ff l = finalItems ff l
  | [] => by simp [printCVList, finalItems]
  | v :: rest => by
    simp only [printCVList, finalItems, printCV_final ff v, printItems_final ff rest, ws]
    simp
theorem printPairs_final (ff : Nat → Bytes) : ∀ m : List (CV × CV), printCVMap stdCfg ff m = finalPairs ff m
  | [] => by simp [printCVMap, finalPairs]
  | (k, v) :: rest => by
    simp only [printCVMap, finalPairs, printCV_final ff k, printCV_final ff v, printPairs_final ff rest, ws]
    simp
end

def finalAP : List (Bytes × Bytes) → Bytes
  | [] => []
  | (k, v) :: rest =>
    k ++ (32 :: 61 :: 32 :: (quoteVal stdCfg v ++ ((if !rest.isEmpty then [44, 32] else []) ++ finalAP rest)))

def finalAnn (l : List Ann) : Bytes := if l.isEmpty then [] else 40 :: (finalAP (annFlatten l) ++ [41])

theorem annPairs_final (key : Bytes) (last : Bool) (vs : List Bytes) (tail : List (Bytes × Bytes)) (hl : last = tail.isEmpty) :
    annPairs stdCfg key last vs ++ finalAP tail = finalAP (vs.map (fun v => (key, v)) ++ tail) := by
  induction vs with
  | nil => simp [annPairs]
  | cons v vs ih =>
    simp only [annPairs, ws, List.map_cons, List.cons_append, finalAP, List.append_assoc]
    have hcomma : (!last || !vs.isEmpty) = !(vs.map (fun v => (key, v)) ++ tail).isEmpty := by
      subst hl; cases vs <;> cases tail <;> simp
    rw [← hcomma, ih]
    simp

theorem annFlatten_isEmpty (l : List Ann) (h : ∀ a ∈ l, a.vals ≠ []) : (annFlatten l).isEmpty = l.isEmpty := by
  cases l with
  | nil => rfl
  | cons a rest =>
    obtain ⟨k, _ | ⟨v, vs⟩⟩ := a
    · exact absurd rfl (h _ List.mem_cons_self)
    · rfl

theorem annLoop_final (l : List Ann) (h : ∀ a ∈ l, a.vals ≠ []) : annLoop stdCfg l = finalAP (annFlatten l) := by
  induction l with
  | nil => simp [annLoop, annFlatten, finalAP]
  | cons a rest ih =>
    have hr : ∀ b ∈ rest, b.vals ≠ [] := fun b hb => h b (by simp [hb])
    simp only [annLoop, annFlatten, ih hr]
    exact annPairs_final a.key rest.isEmpty a.vals (annFlatten rest) (annFlatten_isEmpty rest hr).symm

theorem dumpAnnotations_final (l : List Ann) (hne : ∀ a ∈ l, a.vals ≠ []) :
    dumpAnnotations stdCfg l = finalAnn l := by
  unfold dumpAnnotations printAnnotation finalAnn
  cases l with
  | nil => simp
  | cons a rest => simp [ws, annLoop_final _ hne]

def PairsOK (ps : List (Bytes × Bytes)) : Prop := ∀ p ∈ ps, IdentOK p.1 ∧ Representable p.2 = true

theorem readAnnPairs_close (f : Nat) (rest : Bytes) : readAnnPairs (f + 1) (41 :: rest) = some ([], skipIndent rest) := by
  rw [readAnnPairs]; simp [skipWs_cons, isWs]

theorem readAnnPairs_step (f c : Nat) (r v X : Bytes) (hc : isLetter c = true) (hr : r.all isIdChar = true)
    (hv : Representable v = true) :
    readAnnPairs (f + 1) (c :: (r ++ (32 :: 61 :: 32 :: (quoteVal stdCfg v ++ X))))
      = (readAnnPairs f (skipSep (skipIndent X))).map fun p => ((c :: r, v) :: p.1, p.2) := by
  obtain ⟨hws, _, _, _, _, h41⟩ := letter_facts hc
  have hsw : skipWs (32 :: (quoteVal stdCfg v ++ X)) = quoteVal stdCfg v ++ X := by
    rw [quoteVal_std]; split <;> rfl
  rw [readAnnPairs, skipWs_cons hws]
  split
  · rename_i heq; exact absurd (List.cons.inj heq).1 h41
  · rw [readIdent_ok c r _ hc hr (by rfl)]
    have h61 : ∀ Y, skipWs (32 :: 61 :: Y) = 61 :: Y := fun Y => rfl
    simp only [h61, hsw, readLiteral_quoteVal v X hv]

theorem readAP_final : ∀ (ps : List (Bytes × Bytes)), PairsOK ps → ∀ rest f, ps.length < f →
    readAnnPairs f (finalAP ps ++ 41 :: rest) = some (ps, skipIndent rest)
  | _, _, _, 0, hf => absurd hf (Nat.not_lt_zero _)
  | [], _, rest, f + 1, _ => readAnnPairs_close f rest
  | (k, v) :: ps, hok, rest, f + 1, hf => by
    obtain ⟨⟨c, r, rfl, hc, hr⟩, hv⟩ := hok (k, v) List.mem_cons_self
    simp only [finalAP, List.cons_append, List.append_assoc]
    rw [readAnnPairs_step f c r v _ hc hr hv, (readAnnPairs_blank f).sep finalAP ps (41 :: rest) rfl rfl,
      readAP_final ps (fun p hp => hok p (List.mem_cons_of_mem _ hp)) rest f (Nat.lt_of_succ_lt_succ hf)]
    rfl

theorem finalAP_length (ps : List (Bytes × Bytes)) : ps.length ≤ (finalAP ps).length := by
  induction ps with
  | nil => simp
  | cons p ps ih =>
    simp only [finalAP, List.length_cons, List.length_append]
    omega

theorem readAnnotations_final (l : List Ann) (hne : l ≠ []) (hwf : WFAnn l) (hok : PairsOK (annFlatten l)) (rest : Bytes) :
    readAnnotations (finalAnn l ++ rest) = some (l, skipIndent rest) := by
  have he : l.isEmpty = false := List.isEmpty_eq_false_iff.mpr hne
  simp only [finalAnn, he, Bool.false_eq_true, if_false, readAnnotations, List.cons_append, List.append_assoc,
    List.nil_append]
  rw [skipWs_cons (c := 40) rfl]
  simp only [(readAnnPairs_blank _).indent]
  rw [readAP_final (annFlatten l) hok rest _ (by
    have := finalAP_length (annFlatten l)
    simp only [List.length_append, List.length_cons]; omega)]
  simp [regroup_flatten l hwf]

mutual
theorem reread_id (ff : Nat → Bytes) : ∀ cv : CV, reread ff cv = cv
  | .dbl _ | .int _ | .lit _ | .ident _ | .unset => rfl
  | .list l => by simp [reread, rereadItems_id ff l]
  | .map m => by simp [reread, rereadPairs_id ff m]
theorem rereadItems_id (ff : Nat → Bytes) : ∀ l : List CV, rereadItems ff l = l
  | [] => rfl
  | v :: r => by simp [rereadItems, reread_id ff v, rereadItems_id ff r]
theorem rereadPairs_id (ff : Nat → Bytes) : ∀ m : List (CV × CV), rereadPairs ff m = m
  | [] => rfl
  | (k, v) :: r => by simp [rereadPairs, reread_id ff k, reread_id ff v, rereadPairs_id ff r]
end

/-- annotation lists as the parser builds them, with values the dumper can write -/
def AnnsOK (l : List Ann) : Prop := ∀ a ∈ l, IdentOK a.key ∧ ∀ v ∈ a.vals, Representable v = true

theorem AnnsOK.pairs {l : List Ann} (h : AnnsOK l) : PairsOK (annFlatten l) := by
  induction l with
  | nil => intro p hp; simp [annFlatten] at hp
  | cons a rest ih =>
    intro p hp
    simp only [annFlatten, List.mem_append, List.mem_map] at hp
    rcases hp with ⟨v, hv, rfl⟩ | hp
    · exact ⟨(h a (by simp)).1, (h a (by simp)).2 v hv⟩
    · exact ih (fun b hb => h b (by simp [hb])) p hp

theorem term_finalAnn (l : List Ann) (rest : Bytes) (h : Term rest) : Term (finalAnn l ++ rest) := by
  unfold finalAnn
  cases l with
  | nil => simpa using h
  | cons a r => simp [Term]

end Dump
