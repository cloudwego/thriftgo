import ThriftVerif.Gen.StdLemmas
/- The writer of Gen.Std is total on well-typed objects of a schema without unions-with-check and without
   set validation (what the fast codec of k-AST.go is). -/
namespace Plugin.Codec
open Wire Gen Gen.Std

/-- no struct-like of the schema is written with the union check -/
def noUnionB (P : Prog) : Bool := P.structs.all fun sd => sd.kind != 1

def NoUnion (P : Prog) : Prop := ∀ (i : Nat) (sd : StructDef), P.structs[i]? = some sd → (sd.kind == 1) = false

theorem noUnionB_sound (P : Prog) (h : noUnionB P = true) : NoUnion P := by
  intro i sd hsd
  simpa using List.all_eq_true.mp h sd (List.mem_of_getElem? hsd)

mutual
theorem toW_total (P : Prog) (hk : NoUnion P)
    (hv : P.validateSet = false) (v : GoVal) : ∀ (ty : Ty), WT P.structs ty v → ∃ w, toW P ty v = .ok w := by
  intro ty hwt
  by_cases hb : ty.isBase = true
  · obtain ⟨w, h⟩ := scalarW_total hb hwt
    exact ⟨w, (toW_base P ty v hb).trans ((Res.ofOption_eq_ok _ _).mpr h)⟩
  cases ty with
  | list e =>
    cases v with
    | nil => exact ⟨_, rfl⟩
    | list xs =>
      obtain ⟨ws, h⟩ := toWList_total P hk hv xs e hwt.2
      exact ⟨_, toW_list_ok.mpr ⟨ws, h, rfl⟩⟩
    | _ => exact hwt.elim
  | set e =>
    cases v with
    | nil => exact ⟨_, rfl⟩
    | list xs =>
      obtain ⟨ws, h⟩ := toWList_total P hk hv xs e hwt.2
      exact ⟨_, toW_set_ok.mpr ⟨by rw [hv]; rfl, ws, h, rfl⟩⟩
    | _ => exact hwt.elim
  | map k vt =>
    cases v with
    | nil => exact ⟨_, rfl⟩
    | map kvs =>
      obtain ⟨ws, h⟩ := toWPairs_total P hk hv kvs k vt hwt.2.1
      exact ⟨_, toW_map_ok.mpr ⟨ws, h, rfl⟩⟩
    | _ => exact hwt.elim
  | struct i =>
    cases v with
    | strct fs =>
      obtain ⟨sd, hsd, hf⟩ := hwt
      obtain ⟨ws, h⟩ := toWFields_total P hk hv fs sd.fields hf
      have hk1 : decide (sd.kind = 1) = false := hk i sd hsd
      exact ⟨_, (toW_struct_ok hsd).mpr ⟨by rw [hk1]; rfl, ws, h, rfl⟩⟩
    | _ => exact hwt.elim
  | _ => exact absurd rfl hb

theorem toWList_total (P : Prog) (hk : NoUnion P)
    (hv : P.validateSet = false) (xs : List GoVal) : ∀ (e : Ty), WTList P.structs e xs → ∃ ws, toWList P e xs = .ok ws := by
  intro e hwt
  cases xs with
  | nil => exact ⟨[], rfl⟩
  | cons x r =>
    obtain ⟨w, hw⟩ := toW_total P hk hv x e hwt.1
    obtain ⟨ws, hws⟩ := toWList_total P hk hv r e hwt.2
    exact ⟨_, toWList_cons_ok.mpr ⟨w, hw, ws, hws, rfl⟩⟩

theorem toWPairs_total (P : Prog) (hk : NoUnion P)
    (hv : P.validateSet = false) (kvs : List (GoVal × GoVal)) : ∀ (k v : Ty), WTPairs P.structs k v kvs →
    ∃ ws, toWPairs P k v kvs = .ok ws := by
  intro k v hwt
  cases kvs with
  | nil => exact ⟨[], rfl⟩
  | cons x r =>
    obtain ⟨a, b⟩ := x
    obtain ⟨wa, hwa⟩ := toW_total P hk hv a k hwt.1
    obtain ⟨wb, hwb⟩ := toW_total P hk hv b v hwt.2.1
    obtain ⟨ws, hws⟩ := toWPairs_total P hk hv r k v hwt.2.2
    exact ⟨_, toWPairs_cons_ok.mpr ⟨wa, hwa, wb, hwb, ws, hws, rfl⟩⟩

theorem toWFields_total (P : Prog) (hk : NoUnion P)
    (hv : P.validateSet = false) (vs : List GoVal) : ∀ (defs : List FieldDef), WTFields P.structs defs vs →
    ∃ ws, toWFields P defs vs = .ok ws := by
  intro defs hwt
  cases vs with
  | nil =>
    cases defs with
    | nil => exact ⟨[], rfl⟩
    | cons f fs => exact hwt.elim
  | cons v vs' =>
    cases defs with
    | nil => exact hwt.elim
    | cons f fs =>
      obtain ⟨ws, hws⟩ := toWFields_total P hk hv vs' fs hwt.2.2.2
      by_cases hc : (decide (f.req = .optional) && !isSet f v) = true
      · exact ⟨ws, (toWFields_skipped hc).trans hws⟩
      · obtain ⟨w, hw⟩ := toW_total P hk hv v f.ty (WT_of_written hwt hc)
        exact ⟨_, (toWFields_written_ok hc).mpr ⟨w, hw, ws, hws, rfl⟩⟩
end

end Plugin.Codec
