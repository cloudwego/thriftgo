import ThriftVerif.Lib.Options
import ThriftVerif.Lib.PluginSplitLemmas
/- For Props/C20.lean.  A feature ends with the last setting the argument list gives for it (`lastSetting`), else with
what it started with, the slim rule on top.  Whether an option is rejected does not depend on the state it meets. -/
namespace Options

def PrefixSafe (t : List Entry) : Prop :=
  t.Pairwise (fun a b => isPrefix a.name b.name = false)

instance (t : List Entry) : Decidable (PrefixSafe t) := by unfold PrefixSafe; infer_instance

def TableWF (env : Env) : Bool :=
  env.table.all (fun e => match e.kind with | .feature i => i < env.defaults.length | _ => true) &&
  (env.iDeepEqual < env.defaults.length)

theorem isPrefix_refl : ∀ a : Bytes, isPrefix a a = true
  | [] => rfl
  | x :: r => by simp [isPrefix, isPrefix_refl r]

theorem lookup_of_prefixSafe (t : List Entry) (h : PrefixSafe t) (e : Entry) (he : e ∈ t) :
    lookup t e.name = some e := by
  induction h with
  | nil => cases he
  | cons hd _ ih =>
    rw [lookup, List.find?_cons]
    rcases List.mem_cons.mp he with rfl | hm
    · rw [isPrefix_refl]
    · rw [hd e hm]
      exact ih hm

def joinEq (name : Bytes) (v : Option Bytes) : Bytes :=
  match v with
  | none => name
  | some x => name ++ 61 :: x

/-- `strings.SplitN(a, "=", 2)` is modelled in Lib/Plugin as well (`plugin.ParseCompactArguments`): its lemmas serve here -/
theorem splitEq_eq : ∀ a, splitEq a = Plugin.splitN2 61 a
  | [] => rfl
  | x :: r => by rw [splitEq, Plugin.splitN2, splitEq_eq r]

theorem noSep {sep : Nat} {a : Bytes} (h : sep ∉ a) : ∀ c, c ∈ a → c ≠ sep := fun _ hc e => h (e ▸ hc)

theorem splitEq_joinEq (name : Bytes) (v : Option Bytes) (h : (61 : Nat) ∉ name) :
    splitEq (joinEq name v) = (name, v) := by
  rw [splitEq_eq]
  cases v with
  | none => exact Plugin.splitN2_none 61 name (noSep h)
  | some x => exact Plugin.splitN2_nosep 61 name x (noSep h)

theorem resolve_joinEq (env : Env) (e : Entry) (v : Option Bytes)
    (hl : lookup env.table e.name = some e) (h : (61 : Nat) ∉ e.name) :
    resolve env (joinEq e.name v) = some (e.kind, v.getD []) := by
  simp [resolve, splitEq_joinEq e.name v h, hl]

def settingOf (env : Env) (i : Nat) (a : Bytes) : Option Bool :=
  match resolve env a with
  | some (.feature j, v) => if j = i then checkBool v else none
  | _ => none

def lastSetting (env : Env) (i : Nat) : List Bytes → Option Bool
  | [] => none
  | a :: r => match lastSetting env i r with
      | some b => some b
      | none => settingOf env i a

theorem getD_setAt (l : List Bool) (j i : Nat) (b : Bool) (hi : i < l.length) :
    (setAt l j b).getD i false = if j = i then b else l.getD i false := by
  simp only [setAt, List.getD_eq_getElem?_getD, List.getElem?_set]
  split
  · next hji =>
    rw [← hji] at hi
    simp [hi]
  · rfl

theorem feat_set (c : Cfg) (j i : Nat) (b : Bool) (hi : i < c.features.length) :
    feat { c with features := setAt c.features j b } i = if j = i then b else feat c i :=
  getD_setAt c.features j i b hi

theorem step_feat (env : Env) (c c1 : Cfg) (a : Bytes) (h : step env c a = some c1) (i : Nat)
    (hi : i < c.features.length) :
    i < c1.features.length ∧ feat c1 i = (settingOf env i a).getD (feat c i) := by
  unfold step at h
  unfold settingOf
  split at h
  · next k v hr =>
    rw [hr]
    revert h
    -- the branches of `act`: a rejecting one has no `c1`; the accepting one of `feature j` (the eleventh) sets index `j`,
    -- those of the six other kinds leave `features` as it is
    fun_cases act env c k v
    all_goals
      intro h
      cases h
    case case11 j b hb =>
      refine ⟨by rw [setAt, List.length_set]; exact hi, ?_⟩
      rw [feat_set c j i b hi]
      simp only [hb]
      split <;> rfl
    all_goals exact ⟨hi, rfl⟩
  · next hr =>
    cases h
    rw [hr]
    exact ⟨hi, rfl⟩

theorem run_feat (env : Env) (c c' : Cfg) (args : List Bytes) (h : run env c args = some c') (i : Nat)
    (hi : i < c.features.length) :
    i < c'.features.length ∧ feat c' i = (lastSetting env i args).getD (feat c i) := by
  fun_induction run env c args
  · cases h
    exact ⟨hi, rfl⟩
  · next c a r c1 hs ih =>
    obtain ⟨hl, hf⟩ := step_feat env c c1 a hs i hi
    obtain ⟨hl', hf'⟩ := ih h hl
    refine ⟨hl', ?_⟩
    rw [hf', hf, lastSetting]
    cases lastSetting env i r <;> rfl
  · cases h

theorem slimRule_template (env : Env) (c : Cfg) : (slimRule env c).template = c.template := by
  unfold slimRule
  split <;> rfl

theorem slimRule_feat (env : Env) (c : Cfg) (i : Nat) (hi : i < c.features.length) :
    feat (slimRule env c) i = if c.template = env.slimName ∧ i = env.iDeepEqual then false else feat c i := by
  unfold slimRule
  split
  · next ht =>
    rw [feat_set c _ i false hi]
    simp only [ht, true_and, eq_comm (a := i)]
  · next ht => rw [if_neg fun h => ht h.1]

/-- `c0` is any CodeUtils with the default features: on the command-line path HandleOptions starts from the style flags
the scratch run of checkOptions left behind (`cmdline`), not from `init env` -/
theorem handleFrom_feat (env : Env) (c0 : Cfg) (hc0 : c0.features = env.defaults) (args : List Bytes) (c : Cfg)
    (h : handleFrom env c0 args = some c) (i : Nat) (hi : i < env.defaults.length) :
    feat c i =
      if c.template = env.slimName ∧ i = env.iDeepEqual then false
      else (lastSetting env i args).getD (env.defaults.getD i false) := by
  unfold handleFrom at h
  split at h
  · cases h
  · next c1 hr =>
    dsimp only at h
    split at h
    · cases h
    · cases h
      obtain ⟨hl, hf⟩ := run_feat env c0 c1 args hr i (hc0 ▸ hi)
      rw [slimRule_feat env c1 i hl, slimRule_template, hf, feat, hc0]

theorem handle_none_iff (env : Env) (args : List Bytes) :
    handle env args = none ↔
      (run env (init env) args = none ∨
       ∃ c, run env (init env) args = some c ∧ invalid env (slimRule env c) = true) := by
  unfold handle handleFrom
  cases run env (init env) args with
  | none => simp
  | some c => cases invalid env (slimRule env c) <;> simp

theorem act_none_local (env : Env) (c c' : Cfg) (k : Kind) (v : Bytes) :
    (act env c k v = none) ↔ (act env c' k v = none) := by
  cases k <;> simp only [act]
  case thriftImportPath | packagePrefix => simp
  -- the other kinds test the value alone
  all_goals split <;> simp

theorem step_none_local (env : Env) (c c' : Cfg) (a : Bytes) :
    (step env c a = none) ↔ (step env c' a = none) := by
  unfold step
  cases resolve env a with
  | none => simp
  | some kv => exact act_none_local env c c' kv.1 kv.2

end Options
