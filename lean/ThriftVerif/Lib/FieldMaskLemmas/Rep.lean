import ThriftVerif.Lib.FieldMaskSpec
/-
  The representation invariant `Rep` (Lib/FieldMaskSpec.lean) of C14 and the two updates of the trie that keep it: below a
  specific step the child handed out represents the suffixes behind the step, and putting it back after more suffixes were
  added below it gives a node for the larger set; below a star the same with the `all` child.  Both are stated on
  `tailsOf k P`, the suffixes behind the step `k`.  The three child maps are seen through `Mask.kid`, `Mask.kidChild`,
  `Mask.putKid`, indexed by the path step.
-/
namespace FieldMask

theorem Rep.typ_ne {sch black d m P} (h : Rep sch black d m P) : m.typ ≠ .invalid := by
  cases h <;> assumption

theorem Rep.ne_nil {sch black d m P} (h : Rep sch black d m P) : P ≠ [] := by
  cases h <;> assumption

theorem Rep.isBlack_eq {sch black d m P} (h : Rep sch black d m P) : m.isBlack = black := by
  cases h <;> assumption

theorem Mask.hasChild_def (m : Mask) : m.hasChild =
    (m.typ != .invalid && (m.all matches .some _ || m.fdA || m.intA || m.strA)) := rfl

theorem mem_tailsOf {k : PStep} {P : List APath} {t : APath} : t ∈ tailsOf k P ↔ (k :: t) ∈ P := by
  unfold tailsOf
  rw [List.mem_filterMap]
  constructor
  · rintro ⟨_ | ⟨k', t'⟩, hp, h⟩
    · cases h
    · obtain ⟨rfl, e⟩ := Option.ite_none_right_eq_some.mp h
      cases e
      exact hp
  · exact fun h => ⟨k :: t, h, if_pos rfl⟩

theorem tailsOf_nil (k : PStep) : tailsOf k [] = [] := rfl

theorem tailsOf_append_map (k k' : PStep) (P X : List APath) :
    tailsOf k' (P ++ X.map (k :: ·)) = if k' = k then tailsOf k P ++ X else tailsOf k' P := by
  unfold tailsOf
  rw [List.filterMap_append, List.filterMap_map]
  by_cases h : k' = k
  · subst h
    simp [Function.comp_def]
  · simp [Function.comp_def, h, Ne.symm h]

theorem ne_nil_of_mem_iff {α} {l l' : List α} (h : ∀ a, a ∈ l ↔ a ∈ l') (hne : l ≠ []) : l' ≠ [] := by
  obtain ⟨a, ha⟩ := List.exists_mem_of_ne_nil l hne
  exact List.ne_nil_of_mem ((h a).mp ha)

theorem tailsOf_mem_iff {P P' : List APath} (h : ∀ p, p ∈ P ↔ p ∈ P') (k : PStep) (t : APath) :
    t ∈ tailsOf k P ↔ t ∈ tailsOf k P' := by
  rw [mem_tailsOf, mem_tailsOf]
  exact h _

theorem Rep.congr {sch : Schema} {black : Bool} {d : Ty} {m : Mask} {P : List APath} (hr : Rep sch black d m P) :
    ∀ {P' : List APath}, (∀ p, p ∈ P ↔ p ∈ P') → Rep sch black d m P' := by
  induction hr with
  | leaf ht hb hne hall hia hal hnk =>
    intro P' h
    exact .leaf ht hb (ne_nil_of_mem_iff h hne) (fun p hp => hall p ((h p).mpr hp)) hia hal hnk
  | star s a cu ht hb hne hs hall hia hal hnk hcu hat hr ih =>
    intro P' h
    refine .star s a cu ht hb (ne_nil_of_mem_iff h hne) hs (fun p hp => hall p ((h p).mpr hp)) hia hal hnk hcu hat (ih fun t => ?_)
    simp only [List.mem_map]
    exact ⟨fun ⟨p, hp, e⟩ => ⟨p, (h p).mp hp, e⟩, fun ⟨p, hp, e⟩ => ⟨p, (h p).mpr hp, e⟩⟩
  | @spec d m P ht hb hne hall hia hhc hfd hkind hnd hno hyes hrec ih =>
    intro P' h
    have back : ∀ k, tailsOf k P' ≠ [] → tailsOf k P ≠ [] :=
      fun k => ne_nil_of_mem_iff fun t => (tailsOf_mem_iff h k t).symm
    have forth : ∀ k, tailsOf k P' = [] → tailsOf k P = [] :=
      fun k e => Decidable.not_not.mp fun hne => ne_nil_of_mem_iff (tailsOf_mem_iff h k) hne e
    exact .spec ht hb (ne_nil_of_mem_iff h hne) (fun p hp => hall p ((h p).mpr hp)) hia hhc hfd
      (fun k hk htl => hkind k hk (back k htl)) hnd (fun k hk htl => hno k hk (forth k htl))
      (fun k hk htl => hyes k hk (back k htl))
      fun k c cu hkid hcu htl => ih k c cu hkid hcu (back k htl) (tailsOf_mem_iff h k)

theorem Kids.get_put (k k' : Key) (v : Mask) (ks : Kids) :
    (ks.put k v).get k' = if k' = k then .some v else ks.get k' := by
  by_cases e : k' = k
  · subst e
    rw [if_pos rfl]
    -- `Kids.put`: 1 no entry left, 2 the key is at the head, 3 it is not
    fun_induction Kids.put k' v ks with
    | case1 => exact if_pos rfl
    | case2 m r => exact if_pos rfl
    | case3 k'' m r h ih => rw [Kids.get, if_neg h, ih]
  · rw [if_neg e]
    fun_induction Kids.put k v ks with
    | case1 => exact if_neg (Ne.symm e)
    | case2 m r => rw [Kids.get, Kids.get, if_neg (Ne.symm e), if_neg (Ne.symm e)]
    | case3 k'' m r h ih => rw [Kids.get, Kids.get, ih]

def Mask.putKid (m : Mask) (k : PStep) (c : Mask) : Mask :=
  match k with
  | .field id => m.setFd (m.fd.put (.i id) c)
  | .idx i => m.setInts (m.ints.put (.i i) c)
  | .key s => m.setStrs (m.strs.put (.s s) c)
  | _ => m

/-- `SetIfNotExist` seen through `Mask.kid` -/
def Mask.kidChild (m : Mask) (k : PStep) (ft : Ft) (black : Bool) : Mask :=
  match m.kid k with
  | .none => Mask.new ft black
  | .some c => if c.typ = .invalid then c.assign ft black else c

theorem Mask.kid_putKid {m : Mask} {k : PStep} (c : Mask) (hk : k.isStar = false) (k' : PStep) :
    (m.putKid k c).kid k' = if k' = k then .some c else m.kid k' := by
  cases m
  cases k with
  | field a =>
    cases k' with
    | field b => simp only [Mask.putKid, Mask.kid, Mask.setFd, Mask.fd, Kids.get_put, PStep.field.injEq, Key.i.injEq]
    | _ => rfl
  | idx a =>
    cases k' with
    | idx b => simp only [Mask.putKid, Mask.kid, Mask.setInts, Mask.ints, Kids.get_put, PStep.idx.injEq, Key.i.injEq]
    | _ => rfl
  | key a =>
    cases k' with
    | key b => simp only [Mask.putKid, Mask.kid, Mask.setStrs, Mask.strs, Kids.get_put, PStep.key.injEq, Key.s.injEq]
    | _ => rfl
  | any => cases hk
  | anyField => cases hk

theorem Mask.kid_none_of_NoKids {m : Mask} (h : m.NoKids) (k : PStep) : m.kid k = .none := by
  obtain ⟨h1, h2, h3, _⟩ := h
  cases k <;> simp [Mask.kid, h1, h2, h3, Kids.get]

theorem Mask.putKid_typ (m : Mask) (k : PStep) (c : Mask) : (m.putKid k c).typ = m.typ := by
  cases m; cases k <;> rfl
theorem Mask.putKid_isBlack (m : Mask) (k : PStep) (c : Mask) : (m.putKid k c).isBlack = m.isBlack := by
  cases m; cases k <;> rfl
theorem Mask.putKid_isAll (m : Mask) (k : PStep) (c : Mask) : (m.putKid k c).isAll = m.isAll := by
  cases m; cases k <;> rfl
theorem Mask.putKid_hasChild (m : Mask) (k : PStep) (c : Mask) (hk : k.isStar = false) (ht : m.typ ≠ .invalid) :
    (m.putKid k c).hasChild = true := by
  rw [Mask.hasChild_def, Mask.putKid_typ, bne_iff_ne.mpr ht, Bool.true_and]
  cases m
  cases k with
  | any | anyField => cases hk
  | field a => simp only [Mask.putKid, Mask.setFd, Mask.fdA, Bool.or_true, Bool.true_or]
  | idx a => simp only [Mask.putKid, Mask.setInts, Mask.intA, Bool.or_true, Bool.true_or]
  | key a => simp only [Mask.putKid, Mask.setStrs, Mask.strA, Bool.or_true]
theorem Mask.putKid_fd (m : Mask) (k : PStep) (c : Mask) (h : m.fdA = true ∨ m.fd = .nil) :
    (m.putKid k c).fdA = true ∨ (m.putKid k c).fd = .nil := by
  cases m
  cases k with
  | field a => exact .inl rfl
  | _ => exact h

theorem Kids.keys_put (k : Key) (v : Mask) (ks : Kids) :
    (ks.put k v).keys = if k ∈ ks.keys then ks.keys else ks.keys ++ [k] := by
  fun_induction Kids.put k v ks with
  | case1 => rfl
  | case2 m r => simp only [Kids.keys, List.mem_cons_self, if_true]
  | case3 k'' m r h ih =>
    simp only [Kids.keys, ih, List.mem_cons, Ne.symm h, false_or]
    split <;> rfl

theorem Kids.wf_put {Q : Key → Prop} {k : Key} (v : Mask) {ks : Kids}
    (h : ks.keys.Nodup ∧ ∀ x ∈ ks.keys, Q x) (hk : Q k) :
    (ks.put k v).keys.Nodup ∧ ∀ x ∈ (ks.put k v).keys, Q x := by
  rw [Kids.keys_put]
  split
  next => exact h
  next hmem =>
    rw [List.nodup_append, List.forall_mem_append, List.forall_mem_singleton]
    exact ⟨⟨h.1, List.pairwise_singleton _ k, fun a ha b hb e => hmem (List.mem_singleton.mp hb ▸ e ▸ ha)⟩, h.2, hk⟩

theorem Mask.putKid_wf (m : Mask) (k : PStep) (c : Mask)
    (h : m.fd.wfI ∧ m.ints.wfI ∧ m.strs.wfS) :
    (m.putKid k c).fd.wfI ∧ (m.putKid k c).ints.wfI ∧ (m.putKid k c).strs.wfS := by
  cases m
  obtain ⟨h1, h2, h3⟩ := h
  cases k
  · exact ⟨Kids.wf_put c h1 ⟨_, rfl⟩, h2, h3⟩
  · exact ⟨h1, Kids.wf_put c h2 ⟨_, rfl⟩, h3⟩
  · exact ⟨h1, h2, Kids.wf_put c h3 ⟨_, rfl⟩⟩
  · exact ⟨h1, h2, h3⟩
  · exact ⟨h1, h2, h3⟩

theorem Mask.new_fresh (ft : Ft) (black : Bool) : (Mask.new ft black).Fresh black :=
  ⟨rfl, rfl, rfl, rfl, rfl, rfl, rfl, rfl, rfl⟩

/-- `Rep` demands `P ≠ []`; the node `SetIfNotExist`/`setAll` has just handed out represents nothing yet -/
def RepF (sch : Schema) (black : Bool) (d : Ty) (m : Mask) (P : List APath) : Prop :=
  (P = [] ∧ m.Fresh black) ∨ Rep sch black d m P

theorem RepF.rep {sch black d m P} (h : RepF sch black d m P) (hne : P ≠ []) : Rep sch black d m P := by
  cases h with
  | inl h => exact absurd h.1 hne
  | inr h => exact h

theorem RepF.fresh_of_nil {sch black d m} (hm : RepF sch black d m []) : m.Fresh black := by
  cases hm with
  | inl hf => exact hf.2
  | inr hr => exact absurd rfl hr.ne_nil

theorem RepF.isBlack_eq {sch black d m P} (h : RepF sch black d m P) : m.isBlack = black := by
  cases h with
  | inl h => exact h.2.2.2.1
  | inr h => exact h.isBlack_eq

def AllSpec (P : List APath) : Prop := ∀ p ∈ P, ∃ k t, p = k :: t ∧ k.isStar = false

def AllStar (s : PStep) (P : List APath) : Prop := ∀ p ∈ P, ∃ t, p = s :: t

theorem AllSpec.append_map {P X : List APath} {k : PStep} (hP : AllSpec P) (hk : k.isStar = false) :
    AllSpec (P ++ X.map (k :: ·)) :=
  List.forall_mem_append.mpr ⟨hP, List.forall_mem_map.mpr fun x _ => ⟨k, x, rfl, hk⟩⟩

theorem AllStar.append_map {P X : List APath} {s : PStep} (hP : AllStar s P) : AllStar s (P ++ X.map (s :: ·)) :=
  List.forall_mem_append.mpr ⟨hP, List.forall_mem_map.mpr fun x _ => ⟨x, rfl⟩⟩

/-- `Rep.star` speaks of `P.map List.tail`, `Rep.spec` of `tailsOf k P`: behind a star they are the same list -/
theorem AllStar.map_tail {s : PStep} {P : List APath} (hP : AllStar s P) : P.map List.tail = tailsOf s P := by
  induction P with
  | nil => rfl
  | cons p P ih =>
    obtain ⟨t, rfl⟩ := hP p List.mem_cons_self
    rw [List.map_cons, ih fun p hp => hP p (List.mem_cons_of_mem _ hp)]
    simp only [tailsOf, List.filterMap_cons, ↓reduceIte, List.tail_cons]

/-- what `Rep.spec` says of the children of a node below which only specific steps were inserted -/
structure SpecNode (sch : Schema) (black : Bool) (d : Ty) (m : Mask) (P : List APath) : Prop where
  isAll : m.isAll = false
  fdOk : m.fdA = true ∨ m.fd = .nil
  absent : ∀ k, k.isStar = false → tailsOf k P = [] → m.kid k = .none
  present : ∀ k, k.isStar = false → tailsOf k P ≠ [] →
    ∃ c cu, m.kid k = .some c ∧ stepCur sch m.typ d k = some cu ∧ c.typ = cu.1
  child : ∀ k c cu, m.kid k = .some c → stepCur sch m.typ d k = some cu → tailsOf k P ≠ [] →
    Rep sch black cu.2 c (tailsOf k P)
  kind : ∀ k, k.isStar = false → tailsOf k P ≠ [] → kindOK m.typ k = true
  wf : m.fd.wfI ∧ m.ints.wfI ∧ m.strs.wfS

/-- the three constructors of `Rep` say how every path of the set begins, in three incompatible ways: any one member
tells which of them made the node -/
theorem Rep.at {sch black d m P} (h : Rep sch black d m P) {p : APath} (hp : p ∈ P) :
    match (generalizing := false) p with
    | [] => m.all = .none ∧ m.NoKids
    | k :: _ =>
      if k.isStar = true then
        m.NoKids ∧ ∃ a cu, m.all = .some a ∧ stepCur sch m.typ d k = some cu ∧ a.typ = cu.1 ∧
          Rep sch black cu.2 a (P.map List.tail)
      else SpecNode sch black d m P := by
  cases h with
  | leaf ht hb hne hall hia hal hnk =>
    rw [hall p hp]
    exact ⟨hal, hnk⟩
  | star s a cu ht hb hne hs hall hia hal hnk hcu hat hr =>
    obtain ⟨t, rfl⟩ := hall p hp
    simp only [hs, ↓reduceIte]
    exact ⟨hnk, a, cu, hal, hcu, hat, hr⟩
  | spec ht hb hne hall hia hhc hfd hkind hnd hno hyes hrec =>
    obtain ⟨k, t, rfl, hk⟩ := hall p hp
    simp only [hk, Bool.false_eq_true, ↓reduceIte]
    exact ⟨hia, hfd, hno, hyes, hrec, hkind, hnd⟩

theorem Rep.leaf_inv {sch black d m P} (h : Rep sch black d m P) (hP : ∀ p ∈ P, p = []) : m.all = .none ∧ m.NoKids := by
  obtain ⟨p, hp⟩ := List.exists_mem_of_ne_nil P h.ne_nil
  have := h.at hp
  rwa [hP p hp] at this

theorem Rep.star_inv {sch black d m P} {s : PStep} (h : Rep sch black d m P) (hs : s.isStar = true) (hP : AllStar s P) :
    m.NoKids ∧ ∃ a cu, m.all = .some a ∧ stepCur sch m.typ d s = some cu ∧ a.typ = cu.1 ∧
      Rep sch black cu.2 a (P.map List.tail) := by
  obtain ⟨p, hp⟩ := List.exists_mem_of_ne_nil P h.ne_nil
  obtain ⟨t, rfl⟩ := hP p hp
  simpa only [hs, ↓reduceIte] using h.at hp

theorem Rep.spec_inv {sch black d m P} (h : Rep sch black d m P) (hP : AllSpec P) : SpecNode sch black d m P := by
  obtain ⟨p, hp⟩ := List.exists_mem_of_ne_nil P h.ne_nil
  obtain ⟨k, t, rfl, hk⟩ := hP p hp
  simpa only [hk, Bool.false_eq_true, ↓reduceIte] using h.at hp

theorem RepF.spec_inv {sch black d m P} (hm : RepF sch black d m P) (hP : AllSpec P) : SpecNode sch black d m P := by
  cases hm with
  | inl hf =>
    obtain ⟨rfl, hia, _, _, hnk⟩ := hf
    refine ⟨hia, Or.inr hnk.1, fun k _ _ => Mask.kid_none_of_NoKids hnk k, fun k _ h => absurd (tailsOf_nil k) h,
      fun k c cu _ _ h => absurd (tailsOf_nil k) h, fun k _ h => absurd (tailsOf_nil k) h, ?_⟩
    rw [hnk.1, hnk.2.1, hnk.2.2.1]
    simp [Kids.keys, Kids.wfI, Kids.wfS]
  | inr hr => exact hr.spec_inv hP

theorem child_RepF {sch black d m P} {k : PStep} {cu : Ft × Ty} (hm : RepF sch black d m P) (hP : AllSpec P)
    (hk : k.isStar = false) (hcu : stepCur sch m.typ d k = some cu) :
    RepF sch black cu.2 (m.kidChild k cu.1 black) (tailsOf k P) ∧ (m.kidChild k cu.1 black).typ = cu.1 := by
  have hs := hm.spec_inv hP
  by_cases ht : tailsOf k P = []
  · simp only [Mask.kidChild, hs.absent k hk ht, ht]
    exact ⟨Or.inl ⟨rfl, Mask.new_fresh _ _⟩, rfl⟩
  · obtain ⟨c, cu', hkid, hcu', hct⟩ := hs.present k hk ht
    rw [hcu] at hcu'
    cases hcu'
    have hrc := hs.child k c cu hkid hcu ht
    have : ¬ c.typ = .invalid := hrc.typ_ne
    simp only [Mask.kidChild, hkid, this, ↓reduceIte]
    exact ⟨Or.inr hrc, hct⟩

theorem Rep_putKid {sch black d m P} {k : PStep} {c' : Mask} {cu : Ft × Ty} {X : List APath}
    (hm : RepF sch black d m P) (hP : AllSpec P) (hk : k.isStar = false) (ht : m.typ ≠ .invalid)
    (hkk : kindOK m.typ k = true)
    (hcu : stepCur sch m.typ d k = some cu) (hct : c'.typ = cu.1)
    (hrc : Rep sch black cu.2 c' (tailsOf k P ++ X)) (hX : X ≠ []) :
    Rep sch black d (m.putKid k c') (P ++ X.map (k :: ·)) := by
  have hs := hm.spec_inv hP
  have hXk : tailsOf k P ++ X ≠ [] := fun h => hX (List.append_eq_nil_iff.mp h).2
  apply Rep.spec
  · rw [Mask.putKid_typ]; exact ht
  · rw [Mask.putKid_isBlack]; exact hm.isBlack_eq
  · exact fun h => hX (List.map_eq_nil_iff.mp (List.append_eq_nil_iff.mp h).2)
  · exact hP.append_map hk
  · rw [Mask.putKid_isAll]; exact hs.isAll
  · exact Mask.putKid_hasChild m k c' hk ht
  · exact Mask.putKid_fd m k c' hs.fdOk
  · intro k' hk'
    rw [tailsOf_append_map, Mask.putKid_typ]
    split
    next h => exact fun _ => h ▸ hkk
    next => exact hs.kind k' hk'
  · exact Mask.putKid_wf m k c' hs.wf
  · intro k' hk'
    rw [tailsOf_append_map, Mask.kid_putKid c' hk]
    split
    next => exact fun h => absurd h hXk
    next => exact hs.absent k' hk'
  · intro k' hk'
    rw [tailsOf_append_map, Mask.kid_putKid c' hk, Mask.putKid_typ]
    split
    next h => exact fun _ => ⟨c', cu, rfl, h ▸ hcu, hct⟩
    next => exact hs.present k' hk'
  · intro k' c cu'
    rw [tailsOf_append_map, Mask.kid_putKid c' hk, Mask.putKid_typ]
    split
    next h =>
      rw [h, hcu]
      intro e e' _
      cases e
      cases e'
      exact hrc
    next => exact hs.child k' c cu'

/-- the branches of `addLoop` write the node with `isAll` set as a literal `Mask.mk cur.typ true …`, `endPath` and
`transferFrom` write `setIsAll true` -/
theorem Mask.setIsAll_eq (v : Bool) (m : Mask) :
    m.setIsAll v = Mask.mk m.typ v m.isBlack m.all m.fdA m.fd m.intA m.ints m.strA m.strs := by
  cases m
  rfl
theorem Mask.allChild_setIsAll (v : Bool) (m : Mask) (ft : Ft) :
    (m.setIsAll v).allChild ft = m.allChild ft := by
  cases m
  rfl

theorem allChild_RepF {sch black d m P} {s : PStep} {cu : Ft × Ty} (hm : RepF sch black d m P)
    (hs : s.isStar = true) (hP : AllStar s P) (hcu : stepCur sch m.typ d s = some cu) :
    RepF sch black cu.2 ((m.setIsAll true).allChild cu.1) (tailsOf s P) ∧
      ((m.setIsAll true).allChild cu.1).typ = cu.1 ∧ m.NoKids := by
  have hb := hm.isBlack_eq
  rw [Mask.allChild_setIsAll]
  unfold Mask.allChild
  rw [hb]
  cases hm with
  | inl hf =>
    obtain ⟨rfl, _, hal, _, hnk⟩ := hf
    rw [hal]
    exact ⟨Or.inl ⟨rfl, Mask.new_fresh _ _⟩, rfl, hnk⟩
  | inr hr =>
    obtain ⟨hnk, a, cu', hal, hcu', hat, hra⟩ := hr.star_inv hs hP
    rw [hcu] at hcu'
    cases hcu'
    rw [hal, ← hP.map_tail]
    simp only [hra.typ_ne, ↓reduceIte]
    exact ⟨Or.inr hra, hat, hnk⟩

theorem Rep_setAll {sch black d} {m : Mask} {P} {s : PStep} {c' : Mask} {cu : Ft × Ty} {X : List APath}
    (hb : m.isBlack = black) (hnk : m.NoKids) (hs : s.isStar = true) (hP : AllStar s P) (ht : m.typ ≠ .invalid)
    (hcu : stepCur sch m.typ d s = some cu) (hct : c'.typ = cu.1)
    (hrc : Rep sch black cu.2 c' (tailsOf s P ++ X)) (hX : X ≠ []) :
    Rep sch black d ((m.setIsAll true).setAllM (.some c')) (P ++ X.map (s :: ·)) := by
  cases m
  refine Rep.star s c' cu ht hb ?_ hs hP.append_map rfl rfl hnk hcu hct ?_
  · exact fun h => hX (List.map_eq_nil_iff.mp (List.append_eq_nil_iff.mp h).2)
  · rw [hP.append_map.map_tail, tailsOf_append_map, if_pos rfl]; exact hrc

theorem Kids.reset_nil : Kids.reset .nil = .nil := by simp [Kids.reset]

theorem Mask.NoKids.reset {m : Mask} (h : m.NoKids) : m.fd.reset = m.fd ∧ m.ints.reset = m.ints ∧ m.strs.reset = m.strs := by
  rw [h.1, h.2.1, h.2.2.1, Kids.reset_nil]
  exact ⟨rfl, rfl, rfl⟩

end FieldMask
