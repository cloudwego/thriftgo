import ThriftVerif.Lib.FieldMaskLemmas.Rep
import ThriftVerif.Lib.FieldMaskLemmas.Res
/-
  JSON round trip of the trie (C14): MarshalJSON followed by UnmarshalJSON of a node that represents a path set whose
  keys survive JSON (`JsonSafe`) gives a node that represents the same set (`json_roundtrip_rep`), by induction on `Rep`.
  The three child maps are treated at once, through the number `kind` of the loop that `transferFrom`
  picks from the type tag: `kindOf`, `Mask.kidsAt`, `keyStep`.
-/
namespace FieldMask

def JOuts.toList : JOuts → List JOut
  | .nil => []
  | .cons j r => j :: r.toList

def JIns.toList : JIns → List JIn
  | .nil => []
  | .cons j r => j :: r.toList

theorem JOuts.toList_insert (j : JOut) (l : JOuts) : (JOuts.insert j l).toList.Perm (j :: l.toList) := by
  fun_induction JOuts.insert j l with
  | case1 => exact .refl _
  | case2 j' r _ => exact .refl _
  | case3 j' r _ ih => exact (ih.cons j').trans (.swap j j' r.toList)

theorem JOuts.toList_sort (l : JOuts) : l.sort.toList.Perm l.toList := by
  fun_induction JOuts.sort l with
  | case1 => exact .refl _
  | case2 j r ih => exact (JOuts.toList_insert j r.sort).trans (ih.cons j)

theorem JOuts.toList_sortedKids : ∀ l : JOuts, (JOuts.sortedKids l).toList = l.toList.map JOut.sorted
  | .nil => by simp [JOuts.sortedKids, JOuts.toList]
  | .cons j r => by simp [JOuts.sortedKids, JOuts.toList, JOuts.toList_sortedKids r]

theorem JOuts.toList_toIns : ∀ l : JOuts, (JOuts.toIns l).toList = l.toList.map JOut.toIn
  | .nil => by simp [JOuts.toIns, JOuts.toList, JIns.toList]
  | .cons j r => by simp [JOuts.toIns, JOuts.toList, JIns.toList, JOuts.toList_toIns r]

theorem wire_singleton (p : JPath) (t : Ft) (b hk : Bool) (ks : JOuts) :
    JOuts.toIns (JOuts.sortedKids (.cons (.mk p t b hk ks) .nil)).sort =
      .cons (.mk p.toRaw t b (JOuts.toIns (JOuts.sortedKids ks).sort)) .nil := by
  simp only [JOuts.sortedKids, JOuts.sort, JOuts.insert, JOuts.toIns, JOut.sorted, JOut.toIn]

theorem Kids.keys_eq_map : ∀ K : Kids, K.keys = K.toList.map (·.1)
  | .nil => rfl
  | .cons k m r => by simp [Kids.keys, Kids.toList, Kids.keys_eq_map r]

theorem Kids.mem_keys {K : Kids} {k : Key} {c : Mask} (h : (k, c) ∈ K.toList) : k ∈ K.keys := by
  rw [Kids.keys_eq_map]
  exact List.mem_map.mpr ⟨(k, c), h, rfl⟩

theorem Kids.get_of_mem {K : Kids} {k : Key} {c : Mask} (hnd : K.keys.Nodup) (h : (k, c) ∈ K.toList) :
    K.get k = .some c := by
  fun_induction Kids.get k K with
  | case1 => cases h
  | case2 m r =>
    rcases List.mem_cons.mp h with e | h
    · cases e
      rfl
    · exact absurd (Kids.mem_keys h) (List.nodup_cons.mp hnd).1
  | case3 k' m r hk ih =>
    rcases List.mem_cons.mp h with e | h
    · cases e
      exact absurd rfl hk
    · exact ih (List.nodup_cons.mp hnd).2 h

theorem Kids.mem_of_get {K : Kids} {k : Key} {c : Mask} (h : K.get k = .some c) : (k, c) ∈ K.toList := by
  fun_induction Kids.get k K with
  | case1 => cases h
  | case2 m r =>
    cases h
    exact List.mem_cons_self
  | case3 k' m r _ ih => exact List.mem_cons_of_mem _ (ih h)

def kindOf : Ft → Nat
  | .struct => 0
  | .list | .intMap => 1
  | .strMap => 2
  | _ => 3

def Mask.kidsAt (m : Mask) : Nat → Kids
  | 0 => m.fd
  | 1 => m.ints
  | 2 => m.strs
  | _ => .nil

/-- the step a key of that map stands for (`any` for a key the map cannot hold) -/
def keyStep : Nat → Key → PStep
  | 0, .i n => .field n
  | 1, .i n => .idx n
  | 2, .s b => .key b
  | _, _ => .any

def PStep.toKey : PStep → Key
  | .field n | .idx n => .i n
  | .key b => .s b
  | _ => .i 0

theorem toKey_keyStep {kind : Nat} {key : Key} : (keyStep kind key).isStar = false →
    (keyStep kind key).toKey = key := by
  fun_cases keyStep kind key
  case case4 => exact nofun
  all_goals exact fun _ => rfl

theorem keyStep_toKey {ft : Ft} {k : PStep} (hkk : kindOK ft k = true) (hk : k.isStar = false) :
    keyStep (kindOf ft) k.toKey = k := by
  cases k <;> cases ft <;> first | rfl | contradiction

theorem Mask.kid_keyStep (m : Mask) {kind : Nat} {key : Key} : (keyStep kind key).isStar = false →
    m.kid (keyStep kind key) = (m.kidsAt kind).get key := by
  fun_cases keyStep kind key
  case case4 => exact nofun
  all_goals exact fun _ => rfl

theorem Mask.kidsAt_wf {m : Mask} (h : m.fd.wfI ∧ m.ints.wfI ∧ m.strs.wfS) (kind : Nat) :
    (m.kidsAt kind).keys.Nodup ∧ ∀ key ∈ (m.kidsAt kind).keys, (keyStep kind key).isStar = false := by
  fun_cases Mask.kidsAt m kind with
  | case1 =>
    refine ⟨h.1.1, fun key hk => ?_⟩
    obtain ⟨n, rfl⟩ := h.1.2 key hk
    rfl
  | case2 =>
    refine ⟨h.2.1.1, fun key hk => ?_⟩
    obtain ⟨n, rfl⟩ := h.2.1.2 key hk
    rfl
  | case3 =>
    refine ⟨h.2.2.1, fun key hk => ?_⟩
    obtain ⟨b, rfl⟩ := h.2.2.2 key hk
    rfl
  | case4 => exact ⟨List.nodup_nil, fun _ hk => nomatch hk⟩

theorem Mask.kidsAt_pairwise {m : Mask} (h : m.fd.wfI ∧ m.ints.wfI ∧ m.strs.wfS) (kind : Nat) :
    (m.kidsAt kind).toList.Pairwise (fun a b => keyStep kind a.1 ≠ keyStep kind b.1) := by
  obtain ⟨hnd, hsp⟩ := Mask.kidsAt_wf h kind
  rw [Kids.keys_eq_map, List.nodup_iff_pairwise_ne, List.pairwise_map] at hnd
  refine hnd.imp_of_mem ?_
  intro a b ha hb hab e
  apply hab
  rw [← toKey_keyStep (hsp a.1 (Kids.mem_keys ha)), e, toKey_keyStep (hsp b.1 (Kids.mem_keys hb))]

theorem Mask.kid_of_cell {m c : Mask} {kind : Nat} {key : Key} (h : m.fd.wfI ∧ m.ints.wfI ∧ m.strs.wfS)
    (hmem : (key, c) ∈ (m.kidsAt kind).toList) :
    (keyStep kind key).isStar = false ∧ m.kid (keyStep kind key) = .some c := by
  obtain ⟨hnd, hsp⟩ := Mask.kidsAt_wf h kind
  have hk := hsp key (Kids.mem_keys hmem)
  rw [Mask.kid_keyStep m hk]
  exact ⟨hk, Kids.get_of_mem hnd hmem⟩

theorem Mask.cell_of_kid {m c : Mask} {k : PStep} (hk : k.isStar = false) (hkk : kindOK m.typ k = true)
    (h : m.kid k = .some c) :
    (k.toKey, c) ∈ (m.kidsAt (kindOf m.typ)).toList ∧ keyStep (kindOf m.typ) k.toKey = k := by
  have hks := keyStep_toKey hkk hk
  refine ⟨Kids.mem_of_get ?_, hks⟩
  rw [← Mask.kid_keyStep m (hks.symm ▸ hk), hks]
  exact h

theorem marshalKids_leaf {m : Mask} (hia : m.isAll = true) (hal : m.all = .none) :
    marshalKids m = .ok (false, .nil) := by
  obtain ⟨typ, isAll, isBlack, all, fdA, fd, intA, ints, strA, strs⟩ := m
  cases hia
  cases hal
  unfold marshalKids
  cases typ <;> rfl

theorem marshalKids_star {m a : Mask} (hia : m.isAll = true) (hal : m.all = .some a) (ha : a.typ ≠ .invalid) :
    marshalKids m = (do
      let (hk, ks) ← marshalKids a
      .ok (true, .cons (.mk .any a.typ a.isBlack hk ks) .nil)) := by
  obtain ⟨typ, isAll, isBlack, all, fdA, fd, intA, ints, strA, strs⟩ := m
  cases hia
  cases hal
  have hane : (a.typ != .invalid) = true := bne_iff_ne.mpr ha
  conv => lhs; unfold marshalKids
  cases typ <;> simp only [hane, ↓reduceIte]

theorem marshalKids_spec {m : Mask} {kc : Key × Mask} (hia : m.isAll = false) (hfd : m.fdA = true ∨ m.fd = .nil)
    (hK : kc ∈ (m.kidsAt (kindOf m.typ)).toList) :
    marshalKids m = (do
      let ks ← marshalList (m.kidsAt (kindOf m.typ))
      .ok (true, ks)) := by
  obtain ⟨typ, isAll, isBlack, all, fdA, fd, intA, ints, strA, strs⟩ := m
  cases hia
  cases typ with
  | invalid | scalar => cases hK
  | struct =>
    cases hfd with
    | inl h =>
      cases h
      unfold marshalKids
      rfl
    | inr h =>
      cases h
      cases hK
  | list | intMap | strMap =>
    unfold marshalKids
    rfl

/-- `marshalRec` of a child, made total for use in statements -/
def mkOf (c : Mask) : Bool × JOuts :=
  match marshalKids c with
  | .ok r => r
  | _ => (false, .nil)

def nodeOf (kc : Key × Mask) : JOut := .mk kc.1.toJPath kc.2.typ kc.2.isBlack (mkOf kc.2).1 (mkOf kc.2).2

theorem marshalList_ok : ∀ (K : Kids), (∀ kc ∈ K.toList, kc.2.typ ≠ .invalid ∧ ∃ r, marshalKids kc.2 = .ok r) →
    ∃ J, marshalList K = .ok J ∧ J.toList = K.toList.map nodeOf
  | .nil, _ => ⟨.nil, by simp [marshalList], by simp [JOuts.toList, Kids.toList]⟩
  | .cons k c r, h => by
    obtain ⟨hc, rc, hrc⟩ := h (k, c) List.mem_cons_self
    obtain ⟨J, hJ, hJl⟩ := marshalList_ok r (fun kc hkc => h kc (List.mem_cons_of_mem _ hkc))
    refine ⟨.cons (nodeOf (k, c)) J, ?_, by simp [JOuts.toList, Kids.toList, hJl]⟩
    rw [marshalList]
    have : (c.typ != .invalid) = true := by simpa using hc
    simp only [this, ↓reduceIte, hrc, Res.ok_bind, hJ, nodeOf, mkOf]

theorem transferFrom_nil {cfg : Sites} {self : Mask} {raw : JRaw} {typ : Ft} {black : Bool} (ht : typ ≠ .invalid) :
    transferFrom cfg self (.mk raw typ black .nil) = .ok (((self.setTyp typ).setIsBlack black).setIsAll true) := by
  rw [transferFrom]
  simp only [ht, ↓reduceIte]

theorem transferFrom_cons {cfg : Sites} {self : Mask} {raw : JRaw} {typ : Ft} {black : Bool} {n : JIn} {kids : JIns}
    (ht : typ ≠ .invalid) (hn : n ∈ kids.toList) :
    transferFrom cfg self (.mk raw typ black kids) =
      transferKids cfg (kindOf typ) ((self.setTyp typ).setIsBlack black) kids := by
  cases kids with
  | nil => cases hn
  | cons n0 r =>
    rw [transferFrom]
    simp only [ht, ↓reduceIte]
    cases typ <;> first | rfl | exact absurd rfl ht

theorem transferKids_any {cfg : Sites} {kind : Nat} {self : Mask} {n : JIn} {r : JIns} (h : n.path.isAny = true) :
    transferKids cfg kind self (.cons n r) = (do
      let a ← transferFrom cfg Mask.zero n
      .ok ((self.setIsAll true).setAllM (.some a))) := by
  unfold transferKids
  simp only [h, ↓reduceIte]

def stepOfKind (kind : Nat) (raw : JRaw) : Option PStep :=
  match kind with
  | 0 => raw.i32.map PStep.field
  | 1 => raw.int.map PStep.idx
  | 2 => raw.str.map PStep.key
  | _ => none

/-- the `head[f]` guard, which only the Struct loop passes through -/
def preOfKind (cfg : Sites) (kind : Nat) (k : PStep) : Res Unit :=
  match kind, k with
  | 0, .field id => siteHead cfg id
  | _, _ => .ok ()

theorem transferKids_cons {cfg : Sites} {kind : Nat} {self : Mask} {n : JIn} {r : JIns} {k : PStep}
    (hany : n.path.isAny = false) : stepOfKind kind n.path = some k →
    transferKids cfg kind self (.cons n r) = (do
      preOfKind cfg kind k
      let child' ← transferFrom cfg (self.kidChild k n.typ self.isBlack) n
      transferKids cfg kind (self.putKid k child') r) := by
  -- cases of stepOfKind: the three loops that read a key; Scalar
  fun_cases stepOfKind kind n.path
  case case1 | case2 | case3 =>
    intro hk
    obtain ⟨id, hid, rfl⟩ := Option.map_eq_some_iff.mp hk
    rw [transferKids]
    simp only [hany, Bool.false_eq_true, ↓reduceIte, hid, preOfKind, Res.ok_bind]
    rfl
  case case4 => exact nofun

/-- what `jsonSafeStep` is for: a field id fits int32 and passes the `head[f]` guard, an index fits int64, a string key
is not `*` -/
theorem stepOfKind_toRaw {cfg : Sites} {kind : Nat} {key : Key} : (keyStep kind key).isStar = false →
    jsonSafeStep cfg (keyStep kind key) = true →
    stepOfKind kind key.toJPath.toRaw = some (keyStep kind key) ∧ key.toJPath.toRaw.isAny = false ∧
      preOfKind cfg kind (keyStep kind key) = .ok () := by
  -- cases of keyStep: field id; index; string key; a key the map cannot hold
  fun_cases keyStep kind key with
  | case1 n =>
    intro _ hs
    simp only [jsonSafeStep, Bool.and_eq_true, Bool.or_eq_true, Bool.not_eq_true', decide_eq_true_eq] at hs
    refine ⟨by simp [stepOfKind, Key.toJPath, JPath.toRaw, hs.1], rfl, ?_⟩
    simp only [preOfKind, siteHead]
    rcases hs.2 with h | h
    · simp [h]
    · have : ¬ n < 0 := by omega
      simp [this]
  | case2 n =>
    intro _ hs
    simp only [jsonSafeStep] at hs
    exact ⟨by simp [stepOfKind, Key.toJPath, JPath.toRaw, hs], rfl, rfl⟩
  | case3 b =>
    intro _ hs
    simp only [jsonSafeStep, Bool.and_eq_true, bne_iff_ne, ne_eq] at hs
    exact ⟨by simp [stepOfKind, Key.toJPath, JPath.toRaw], by simp [Key.toJPath, JPath.toRaw, hs.1], rfl⟩
  | case4 => exact nofun

/-- receiver of `TransferFrom`: nothing hangs below it yet -/
def Mask.Recv (m : Mask) : Prop := m.isAll = false ∧ m.all = .none ∧ m.NoKids

theorem Mask.Fresh.recv {black : Bool} {m : Mask} (h : m.Fresh black) : m.Recv := ⟨h.1, h.2.1, h.2.2.2⟩

theorem Mask.zero_recv : Mask.zero.Recv := ⟨rfl, rfl, rfl, rfl, rfl, rfl, rfl, rfl⟩

theorem Mask.Recv.fresh {self : Mask} (h : self.Recv) (typ : Ft) {b black : Bool} (hb : b = black) :
    ((self.setTyp typ).setIsBlack b).Fresh black ∧ ((self.setTyp typ).setIsBlack b).typ = typ := by
  obtain ⟨styp, sisAll, sisBlack, sall, sfdA, sfd, sintA, sints, sstrA, sstrs⟩ := self
  exact ⟨⟨h.1, h.2.1, hb, h.2.2⟩, rfl⟩

/-- what the round-trip proof knows about one JSON child `n` of a node of type `ft`: it decodes to the
specific step `k`, and transferring it onto an empty receiver yields a node representing `T` -/
structure NodeOK (cfg : Sites) (sch : Schema) (black : Bool) (d : Ty) (ft : Ft) (kind : Nat)
    (n : JIn) (k : PStep) (T : List APath) : Prop where
  notAny : n.path.isAny = false
  step : stepOfKind kind n.path = some k
  spec : k.isStar = false
  kindok : kindOK ft k = true
  pre : preOfKind cfg kind k = .ok ()
  cu : ∃ cu, stepCur sch ft d k = some cu ∧ n.typ = cu.1 ∧ T ≠ [] ∧
        ∀ recv : Mask, recv.Recv → ∃ c', transferFrom cfg recv n = .ok c' ∧ Rep sch black cu.2 c' T ∧ c'.typ = n.typ

theorem AllSpec.exists_tails {P : List APath} (h : AllSpec P) (hne : P ≠ []) :
    ∃ k, k.isStar = false ∧ tailsOf k P ≠ [] := by
  cases P with
  | nil => exact absurd rfl hne
  | cons p P' =>
    obtain ⟨k, t, rfl, hk⟩ := h p List.mem_cons_self
    exact ⟨k, hk, List.ne_nil_of_mem (mem_tailsOf.mpr (List.mem_cons_self ..))⟩

theorem transferKids_rep {cfg : Sites} {sch : Schema} {black : Bool} {d : Ty} {kind : Nat}
    (s : JIn → PStep) (T : JIn → List APath) :
    ∀ (js : JIns) (self : Mask) (Pacc : List APath),
      RepF sch black d self Pacc → AllSpec Pacc → self.typ ≠ .invalid →
      (∀ n ∈ js.toList, NodeOK cfg sch black d self.typ kind n (s n) (T n)) →
      (∀ n ∈ js.toList, tailsOf (s n) Pacc = []) →
      js.toList.Pairwise (fun a b => s a ≠ s b) →
      ∃ m', transferKids cfg kind self js = .ok m' ∧
        RepF sch black d m' (Pacc ++ js.toList.flatMap (fun n => (T n).map (s n :: ·))) ∧
        m'.typ = self.typ
  | .nil, self, Pacc, hm, _, _, _, _, _ => ⟨self, by simp [transferKids], by simpa [JIns.toList] using hm, rfl⟩
  | .cons n r, self, Pacc, hm, hP, ht, hok, hfresh, hpw => by
    have hn := hok n List.mem_cons_self
    have hfn := hfresh n List.mem_cons_self
    obtain ⟨cu, hcu, hnt, hT, htr⟩ := hn.cu
    rw [transferKids_cons hn.notAny hn.step, hn.pre, Res.ok_bind]
    obtain ⟨hcr, hct⟩ := child_RepF hm hP hn.spec hcu
    rw [hfn] at hcr
    obtain ⟨c', hc', hrc', htc'⟩ := htr _ hcr.fresh_of_nil.recv
    rw [hnt, hm.isBlack_eq, hc', Res.ok_bind]
    have hr1 := Rep_putKid (X := T n) hm hP hn.spec ht hn.kindok hcu (by rw [htc', hnt])
      (by rw [hfn]; exact hrc') hT
    simp only [JIns.toList, List.pairwise_cons] at hpw
    obtain ⟨m', hm', hr', ht'⟩ := transferKids_rep s T r (self.putKid (s n) c') _ (Or.inr hr1)
      (hP.append_map hn.spec)
      (by rw [Mask.putKid_typ]; exact ht)
      (by intro n' hn'; rw [Mask.putKid_typ]; exact hok n' (List.mem_cons_of_mem _ hn'))
      (by
        intro n' hn'
        rw [tailsOf_append_map, if_neg (hpw.1 n' hn').symm]
        exact hfresh n' (List.mem_cons_of_mem _ hn'))
      hpw.2
    refine ⟨m', hm', ?_, by rw [ht', Mask.putKid_typ]⟩
    simp only [JIns.toList, List.flatMap_cons]
    rw [← List.append_assoc]
    exact hr'

theorem JsonSafe_cons {cfg : Sites} {P : List APath} {k : PStep} {t : APath} (h : JsonSafe cfg P = true)
    (hm : (k :: t) ∈ P) : jsonSafeStep cfg k = true ∧ t.all (jsonSafeStep cfg) = true := by
  have := List.all_eq_true.mp h _ hm
  simpa only [List.all_cons, Bool.and_eq_true] using this

theorem JsonSafe_tailsOf {cfg : Sites} {P : List APath} (k : PStep) (h : JsonSafe cfg P = true) :
    JsonSafe cfg (tailsOf k P) = true :=
  List.all_eq_true.mpr fun _ ht => (JsonSafe_cons h (mem_tailsOf.mp ht)).2

theorem JsonSafe_head {cfg : Sites} {P : List APath} {k : PStep} (h : JsonSafe cfg P = true) (hne : tailsOf k P ≠ []) :
    jsonSafeStep cfg k = true := by
  obtain ⟨t, ht⟩ := List.exists_mem_of_ne_nil _ hne
  exact (JsonSafe_cons h (mem_tailsOf.mp ht)).1

theorem JsonSafe_map_tail {cfg : Sites} {P : List APath} (h : JsonSafe cfg P = true) :
    JsonSafe cfg (P.map List.tail) = true := by
  refine List.all_eq_true.mpr fun t ht => ?_
  obtain ⟨p, hp, rfl⟩ := List.mem_map.mp ht
  cases p with
  | nil => rfl
  | cons a l => exact (JsonSafe_cons h hp).2

/-- the round trip in the form that goes through by induction on `Rep`: onto any empty receiver -/
def RT (cfg : Sites) (sch : Schema) (black : Bool) (d : Ty) (m : Mask) (P : List APath) : Prop :=
  JsonSafe cfg P = true →
  ∃ r, marshalKids m = .ok r ∧ ∀ (self : Mask) (raw : JRaw), self.Recv →
    ∃ m', transferFrom cfg self (.mk raw m.typ m.isBlack (JOuts.toIns (JOuts.sortedKids r.2).sort)) = .ok m' ∧
      Rep sch black d m' P ∧ m'.typ = m.typ

theorem allq_of_isAll {typ : Ft} {isAll : Bool} (h : isAll = true) :
    (match typ with
      | .struct | .list | .intMap | .strMap => isAll
      | _ => true) = true := by
  cases typ <;> simp [h]

theorem RT_leaf {cfg sch black d m P} (ht : m.typ ≠ .invalid) (hb : m.isBlack = black) (hne : P ≠ [])
    (hall : ∀ p ∈ P, p = []) (hia : m.isAll = true) (hal : m.all = .none) : RT cfg sch black d m P := by
  intro _
  refine ⟨(false, .nil), marshalKids_leaf hia hal, ?_⟩
  intro self raw hrecv
  obtain ⟨styp, sisAll, sisBlack, sall, sfdA, sfd, sintA, sints, sstrA, sstrs⟩ := self
  refine ⟨_, transferFrom_nil ht, ?_, ?_⟩
  · exact Rep.leaf ht hb hne hall rfl hrecv.2.1 hrecv.2.2
  · rfl

theorem RT_star {cfg sch black d m P} (s : PStep) (a : Mask) (cu : Ft × Ty)
    (ht : m.typ ≠ .invalid) (hb : m.isBlack = black) (hne : P ≠ []) (hs : s.isStar = true)
    (hall : ∀ p ∈ P, ∃ t, p = s :: t) (hia : m.isAll = true) (hal : m.all = .some a)
    (hcu : stepCur sch m.typ d s = some cu) (hat : a.typ = cu.1)
    (hr : Rep sch black cu.2 a (P.map List.tail)) (ih : RT cfg sch black cu.2 a (P.map List.tail)) :
    RT cfg sch black d m P := by
  intro hsafe
  obtain ⟨ra, hma, htr⟩ := ih (JsonSafe_map_tail hsafe)
  refine ⟨(true, .cons (.mk .any a.typ a.isBlack ra.1 ra.2) .nil), ?_, ?_⟩
  · rw [marshalKids_star hia hal hr.typ_ne, hma, Res.ok_bind]
  · intro self raw hrecv
    obtain ⟨a', ha', hra', hta'⟩ := htr Mask.zero JPath.any.toRaw Mask.zero_recv
    obtain ⟨styp, sisAll, sisBlack, sall, sfdA, sfd, sintA, sints, sstrA, sstrs⟩ := self
    refine ⟨_, by rw [wire_singleton, transferFrom_cons ht List.mem_cons_self, transferKids_any rfl, ha', Res.ok_bind], ?_, ?_⟩
    · exact Rep.star s a' cu ht hb hne hs hall rfl rfl hrecv.2.2 hcu (by rw [hta', hat]) hra'
    · rfl

/-- a child as it arrives at the unmarshaller -/
def wireOf (kc : Key × Mask) : JIn :=
  .mk kc.1.toJPath.toRaw kc.2.typ kc.2.isBlack (JOuts.toIns (JOuts.sortedKids (mkOf kc.2).2).sort)

theorem wireOf_eq (kc : Key × Mask) : (nodeOf kc).sorted.toIn = wireOf kc := rfl

theorem toList_wire {J : JOuts} {K : Kids} (h : J.toList = K.toList.map nodeOf) :
    (JOuts.toIns (JOuts.sortedKids J).sort).toList.Perm (K.toList.map wireOf) := by
  rw [JOuts.toList_toIns]
  have := (JOuts.toList_sort (JOuts.sortedKids J)).map JOut.toIn
  rw [JOuts.toList_sortedKids, h, List.map_map, List.map_map] at this
  exact this

theorem cell_roundtrip {cfg : Sites} {sch : Schema} {black : Bool} {d : Ty} {m : Mask} {P : List APath}
    {kind : Nat} {key : Key} {c : Mask}
    (hsafe : JsonSafe cfg P = true) (h : Rep sch black d m P) (hall : AllSpec P)
    (ih : ∀ k c cu, m.kid k = .some c → stepCur sch m.typ d k = some cu → tailsOf k P ≠ [] →
         RT cfg sch black cu.2 c (tailsOf k P))
    (hmem : (key, c) ∈ (m.kidsAt kind).toList) :
    c.typ ≠ .invalid ∧ (∃ r, marshalKids c = .ok r) ∧
      NodeOK cfg sch black d m.typ kind (wireOf (key, c)) (keyStep kind key) (tailsOf (keyStep kind key) P) := by
  have hsn := h.spec_inv hall
  obtain ⟨hk, hkid⟩ := Mask.kid_of_cell hsn.wf hmem
  have htl : tailsOf (keyStep kind key) P ≠ [] := by
    intro e
    rw [hsn.absent _ hk e] at hkid
    cases hkid
  obtain ⟨c', cu, hkid', hcu, hct⟩ := hsn.present _ hk htl
  rw [hkid] at hkid'
  cases hkid'
  obtain ⟨rc, hrc, htrc⟩ := ih _ _ _ hkid hcu htl (JsonSafe_tailsOf _ hsafe)
  obtain ⟨h1, h2, h3⟩ := stepOfKind_toRaw hk (JsonSafe_head hsafe htl)
  refine ⟨(hsn.child _ _ _ hkid hcu htl).typ_ne, ⟨rc, hrc⟩, h2, h1, hk, hsn.kind _ hk htl, h3, cu, hcu, hct, htl, ?_⟩
  intro recv hrv
  have hmo : mkOf c = rc := by simp only [mkOf, hrc]
  subst hmo
  exact htrc recv key.toJPath.toRaw hrv

/-- a node with children under specific steps: every cell of the child map of its type goes out as `nodeOf`,
comes back as `wireOf` (in sorted order), and the loop of its kind puts the children back one by one -/
theorem RT_spec {cfg : Sites} {sch : Schema} {black : Bool} {d : Ty} {m : Mask} {P : List APath}
    (h : Rep sch black d m P) (hall : AllSpec P)
    (ih : ∀ k c cu, m.kid k = .some c → stepCur sch m.typ d k = some cu → tailsOf k P ≠ [] →
         RT cfg sch black cu.2 c (tailsOf k P)) :
    RT cfg sch black d m P := by
  intro hsafe
  have hsn := h.spec_inv hall
  obtain ⟨kind, hkd⟩ : ∃ kind, kindOf m.typ = kind := ⟨_, rfl⟩
  have hcell : ∀ kc ∈ (m.kidsAt kind).toList, kc.2.typ ≠ .invalid ∧ (∃ r, marshalKids kc.2 = .ok r) ∧
      NodeOK cfg sch black d m.typ kind (wireOf kc) (keyStep kind kc.1) (tailsOf (keyStep kind kc.1) P) :=
    fun kc hkc => cell_roundtrip hsafe h hall ih hkc
  have hsurj : ∀ k, k.isStar = false → tailsOf k P ≠ [] → ∃ kc ∈ (m.kidsAt kind).toList, keyStep kind kc.1 = k := by
    intro k hk htl
    obtain ⟨c, _, hkid, _, _⟩ := hsn.present k hk htl
    have hc := Mask.cell_of_kid hk (hsn.kind k hk htl) hkid
    rw [hkd] at hc
    exact ⟨(k.toKey, c), hc.1, hc.2⟩
  obtain ⟨k0, hk0, htl0⟩ := hall.exists_tails h.ne_nil
  obtain ⟨kc0, hmem0, _⟩ := hsurj k0 hk0 htl0
  obtain ⟨J, hJ, hJl⟩ := marshalList_ok (m.kidsAt kind) (fun kc hkc => ⟨(hcell kc hkc).1, (hcell kc hkc).2.1⟩)
  refine ⟨(true, J), ?_, ?_⟩
  · rw [marshalKids_spec hsn.isAll hsn.fdOk (hkd ▸ hmem0), hkd, hJ, Res.ok_bind]
  intro self raw hrecv
  have hperm := toList_wire hJl
  rw [transferFrom_cons h.typ_ne (hperm.mem_iff.mpr (List.mem_map.mpr ⟨kc0, hmem0, rfl⟩)), hkd]
  obtain ⟨hself, htyp⟩ := hrecv.fresh m.typ h.isBlack_eq
  -- the step of a child, read off the wire; `obtain` keeps `s` opaque, only `hsd` unfolds it
  obtain ⟨s, hsd⟩ : ∃ s : JIn → PStep, ∀ n, s n = (stepOfKind kind n.path).getD .any := ⟨_, fun _ => rfl⟩
  have hs : ∀ kc ∈ (m.kidsAt kind).toList, s (wireOf kc) = keyStep kind kc.1 := by
    intro kc hkc
    rw [hsd, (hcell kc hkc).2.2.step, Option.getD_some]
  have hpw : (JOuts.toIns (JOuts.sortedKids J).sort).toList.Pairwise (fun a b => s a ≠ s b) := by
    refine (hperm.pairwise_iff (fun h e => h e.symm)).mpr (List.pairwise_map.mpr ?_)
    refine (Mask.kidsAt_pairwise hsn.wf kind).imp_of_mem ?_
    intro a b ha hb hab
    rw [hs a ha, hs b hb]
    exact hab
  have hwire : ∀ n ∈ (JOuts.toIns (JOuts.sortedKids J).sort).toList,
      NodeOK cfg sch black d m.typ kind n (s n) (tailsOf (s n) P) := by
    intro n hn
    obtain ⟨kc, hkc, rfl⟩ := List.mem_map.mp (hperm.mem_iff.mp hn)
    rw [hs kc hkc]
    exact (hcell kc hkc).2.2
  obtain ⟨m', hm', hr', ht'⟩ := transferKids_rep s (fun n => tailsOf (s n) P)
    (JOuts.toIns (JOuts.sortedKids J).sort) ((self.setTyp m.typ).setIsBlack m.isBlack) []
    (Or.inl ⟨rfl, hself⟩) (fun p hp => nomatch hp) (by rw [htyp]; exact h.typ_ne)
    (by rw [htyp]; exact hwire) (fun n _ => rfl) hpw
  refine ⟨m', hm', ?_, by rw [ht', htyp]⟩
  rw [List.nil_append] at hr'
  have hmem : ∀ p, p ∈ (JOuts.toIns (JOuts.sortedKids J).sort).toList.flatMap (fun n => (tailsOf (s n) P).map (s n :: ·)) ↔ p ∈ P := by
    intro p
    simp only [List.mem_flatMap, List.mem_map]
    constructor
    · rintro ⟨n, _, t, ht, rfl⟩
      exact mem_tailsOf.mp ht
    · intro hp
      obtain ⟨k, t, rfl, hk⟩ := hall p hp
      obtain ⟨kc, hkc, hkk⟩ := hsurj k hk (List.ne_nil_of_mem (mem_tailsOf.mpr hp))
      refine ⟨wireOf kc, hperm.mem_iff.mpr (List.mem_map.mpr ⟨kc, hkc, rfl⟩), t, ?_, ?_⟩
      · rw [hs kc hkc, hkk]
        exact mem_tailsOf.mpr hp
      · rw [hs kc hkc, hkk]
  exact (hr'.rep (ne_nil_of_mem_iff (fun p => (hmem p).symm) h.ne_nil)).congr hmem

theorem roundtrip_rep {cfg : Sites} {sch : Schema} {black : Bool} {d : Ty} {m : Mask} {P : List APath}
    (h : Rep sch black d m P) : RT cfg sch black d m P := by
  induction h with
  | leaf ht hb hne hall hia hal hnk => exact RT_leaf ht hb hne hall hia hal
  | star s a cu ht hb hne hs hall hia hal hnk hcu hat hr ih => exact RT_star s a cu ht hb hne hs hall hia hal hcu hat hr ih
  | spec ht hb hne hall hia hhc hfd hkind hnd hno hyes hrec ih =>
    exact RT_spec (Rep.spec ht hb hne hall hia hhc hfd hkind hnd hno hyes hrec) hall ih

theorem json_roundtrip_rep {cfg : Sites} {sch : Schema} {black : Bool} {d : Ty} {m : Mask} {P : List APath}
    (h : Rep sch black d m P) (hsafe : JsonSafe cfg P = true) :
    ∃ j, marshal m = .ok j ∧ ∃ m', unmarshal cfg (some j.toIn) = .ok m' ∧ Rep sch black d m' P := by
  obtain ⟨r, hr, htr⟩ := roundtrip_rep (cfg := cfg) h hsafe
  obtain ⟨m', hm', hrm', _⟩ := htr Mask.zero JPath.root.toRaw Mask.zero_recv
  refine ⟨(JOut.mk .root m.typ m.isBlack r.1 r.2).sorted, ?_, m', ?_, hrm'⟩
  · simp only [marshal, hr, Res.ok_bind]
  · simp only [unmarshal, JOut.sorted, JOut.toIn, JIn.path]
    exact hm'

end FieldMask
