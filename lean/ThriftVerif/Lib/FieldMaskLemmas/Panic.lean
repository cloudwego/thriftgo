import ThriftVerif.Lib.FieldMaskLemmas.Query
import ThriftVerif.Lib.FieldMaskLemmas.Build
/-
  Every panic of NewFieldMask, of the queries and of UnmarshalJSON has a concrete cause in the input (but a query's `fieldNilFd`,
  of which only its switch is known); GetPath panics only at a site that is switched on and terminates when every token consumes
  input.  All are read off postconditions `Res.Post C S Q x` (Res.lean), proved by running once through each definition with the
  rules for `>>=` and `if`.
-/
namespace FieldMask

theorem newMask_panic {cfg : Sites} {sch : Schema} {desc : Ty} {black : Bool} {s : Site} (paths : List Bytes) (m : Mask)
    (h : newMask cfg sch desc black paths m = .panic s) : ∃ p ∈ paths, Cause cfg sch p s := by
  suffices ∀ paths m, (newMask cfg sch desc black paths m).PanicsIn (fun s => ∃ p ∈ paths, Cause cfg sch p s) from
    (this paths m).of_panic h
  intro paths m
  fun_induction newMask cfg sch desc black paths m with
  | case1 => trivial
  | case2 p ps m ih =>
    refine .bind (Q := fun _ => True) ?_ fun m' _ => (ih m').mono_panic fun s ⟨q, hq, hc⟩ => ⟨q, List.mem_cons_of_mem _ hq, hc⟩
    unfold addPath
    exact (liftO_post _).bind fun d _ => (addLoop_panic ..).mono_panic fun s hc => ⟨p, List.mem_cons_self, hc⟩

theorem walk_panic {cfg : Sites} {s : Site} (q : List QStep) (cur : MaskOpt) (h : walk cfg cur q = .panic s) :
    (s = .headNeg ∧ cfg.headNeg = true ∧ ∃ id, QStep.field id ∈ q ∧ id < 0) ∨ (s = .fieldNilFd ∧ cfg.fieldNilFd = true) := by
  suffices ∀ q cur, (walk cfg cur q).Post False (fun s => (s = .headNeg ∧ cfg.headNeg = true ∧
      ∃ id, QStep.field id ∈ q ∧ id < 0) ∨ (s = .fieldNilFd ∧ cfg.fieldNilFd = true)) fun _ => True from
    (this q cur).of_panic h
  intro q cur
  fun_induction walk cfg cur q with
  | case1 => trivial
  | case2 cur st qs ih =>
    refine .bind (query_post.mono_panic fun s ⟨i, hq, h⟩ => ?_) fun ⟨nxt, ok⟩ _ => .ite (fun _ => ?_) fun _ => trivial
    · exact h.imp_left fun ⟨a, b, c⟩ => ⟨a, b, i, hq ▸ List.mem_cons_self, c⟩
    · exact (ih nxt).mono_panic fun s h => h.imp_left fun ⟨a, b, i, c, d⟩ => ⟨a, b, i, List.mem_cons_of_mem _ c, d⟩

theorem forEachChild_panic {cfg : Sites} {cur : MaskOpt} {s : Site} (h : forEachChild cfg cur = .panic s) :
    cfg.enabled s = true := by
  suffices (forEachChild cfg cur).PanicsIn cfg.On from this.of_panic h
  -- cases of forEachChild: of its ten exits the third and the ninth panic, each under its switch
  fun_cases forEachChild cfg cur
  case case3 hc | case9 hc => exact hc
  all_goals trivial

mutual
/-- the path of some node of the document, the root's and those `transferKids` never reads included, decodes to a negative int32 -/
def JIn.negId : JIn → Bool
  | .mk p _ _ ks => (match p.i32 with | some id => decide (id < 0) | none => false) || JIns.negId ks
def JIns.negId : JIns → Bool
  | .nil => false
  | .cons j r => j.negId || JIns.negId r
end

/-- `B` is whatever the caller draws from a negative id in the part of the document read here; the recursive calls hand it
on, so that no answer has to be weakened on the way up -/
theorem transfer_post {cfg : Sites} {B : Prop} :
    (∀ (m : Mask) (j : JIn), (j.negId = true → B) →
      (transferFrom cfg m j).PanicsIn (fun s => s = .headNeg ∧ cfg.headNeg = true ∧ B)) ∧
    ∀ (kind : Nat) (m : Mask) (js : JIns), (js.negId = true → B) →
      (transferKids cfg kind m js).PanicsIn (fun s => s = .headNeg ∧ cfg.headNeg = true ∧ B) := by
  apply transferFrom.mutual_induct_unfolding cfg
    (fun _ j r => (j.negId = true → B) → r.PanicsIn (fun s => s = .headNeg ∧ cfg.headNeg = true ∧ B))
    (fun _ _ js r => (js.negId = true → B) → r.PanicsIn (fun s => s = .headNeg ∧ cfg.headNeg = true ∧ B))
  -- cases of transferFrom: invalid type (1); no children (2); the loop for Scalar, Struct, List, IntMap, StrMap (3–7); the dead arm (8);
  -- of transferKids: end of list (9); a '*' child (10); then for Struct, List/IntMap, StrMap: the key does not decode
  -- (11, 13, 15), a child under its key (12, 14, 16); any other child of a Scalar (17)
  case case3 | case4 | case5 | case6 | case7 =>
    intro m p black j r _ _ ih hB
    exact ih fun h => hB (by simp [JIn.negId, h])
  case case10 =>
    intro kind m n r _ ih hB
    exact (ih fun h => hB (by simp [JIns.negId, h])).bind fun _ _ => trivial
  case case12 =>
    intro m n r _ id hid ihn ihr hB
    refine (siteHead_post.mono_panic fun s ⟨h1, h2, h3⟩ => ⟨h1, h2, hB ?_⟩).bind fun _ _ =>
      (ihn fun h => hB (by simp [JIns.negId, h])).bind fun _ _ => ihr _ fun h => hB (by simp [JIns.negId, h])
    cases n with
    | mk p t b ks =>
      simp only [JIn.path] at hid
      simp [JIns.negId, JIn.negId, hid, h3]
  case case14 | case16 =>
    intro m n r _ id _ _ ihn ihr hB
    exact (ihn fun h => hB (by simp [JIns.negId, h])).bind fun _ _ => ihr _ fun h => hB (by simp [JIns.negId, h])
  all_goals
    intros
    trivial

theorem transferKids_panic {cfg : Sites} {s : Site} : ∀ (js : JIns) (kind : Nat) (m : Mask), transferKids cfg kind m js = .panic s →
    s = .headNeg ∧ cfg.headNeg = true ∧ js.negId = true :=
  fun js kind m h => (transfer_post.2 kind m js id).of_panic h

theorem unmarshal_panic {cfg : Sites} {s : Site} {doc : Option JIn} (h : unmarshal cfg doc = .panic s) :
    s = .headNeg ∧ cfg.headNeg = true ∧ ∃ j, doc = some j ∧ j.negId = true := by
  suffices (unmarshal cfg doc).PanicsIn (fun s => s = .headNeg ∧ cfg.headNeg = true ∧ ∃ j, doc = some j ∧ j.negId = true) from
    this.of_panic h
  -- cases of unmarshal: `null`; not the root; the root
  fun_cases unmarshal cfg doc with
  | case1 => trivial
  | case2 => trivial
  | case3 j => exact transfer_post.1 _ _ fun h => ⟨_, rfl, h⟩

/-- holds with `cfg.litStall` off; with it on, fails when some suffix starts with a backslash (`lit()` stops there without
advancing) — also for a backslash inside a quoted key, a suffix the tokenizer never starts a token at -/
def Progress (cfg : Sites) (p0 : Bytes) : Prop :=
  ∀ r, r <:+ p0 → ∀ t r', next cfg r = .ok (t, r') → r ≠ [] → r'.length < r.length

/-- one unit of fuel pays for the token read at `p`, whatever suffix `q'` of the rest the loop resumes at -/
theorem Progress.fuel {cfg : Sites} {p q q' : Bytes} {t : Tok} {f : Nat} (hn : next cfg p = .ok (t, q))
    (hne : ¬p.isEmpty = true) (hs : q' <:+ q) (h : Progress cfg q' → f ≤ q'.length) (hp : Progress cfg p) :
    f + 1 ≤ p.length :=
  Nat.lt_of_le_of_lt
    (Nat.le_trans (h fun r hr => hp r (hr.trans (hs.trans (next_suffix hn)))) hs.length_le)
    (hp p (List.suffix_refl _) t q hn (mt List.isEmpty_iff.2 hne))

def BackSuffix (rest : Bytes) : Option (MaskOpt × Bytes) → Prop
  | some (_, r') => r' <:+ rest
  | none => True

theorem BackSuffix.mono {p q : Bytes} (hpq : p <:+ q) : ∀ {o}, BackSuffix p o → BackSuffix q o
  | none, _ => trivial
  | some _, h => List.IsSuffix.trans h hpq

/-- path.go GetPath: `tok := it.Next(); if tok.Err() != nil { return nil, false }` -/
theorem Res.Post.tok {γ C Q cfg p} {no : Res γ} {f : Tok → Bytes → Res γ}
    (hno : no.Post C cfg.On Q) (hk : ∀ t r, next cfg p = .ok (t, r) → (f t r).Post C cfg.On Q) :
    Post C cfg.On Q (match next cfg p with
      | .err _ => no
      | .panic s => .panic s
      | .crash => .crash
      | .ok (t, r) => f t r) := by
  cases hn : next cfg p with
  | err e => exact hno
  | panic s => exact (next_post cfg p).of_panic hn
  | crash => exact absurd hn next_ne_crash
  | ok tr => exact hk tr.1 tr.2 hn

/-- crash is running out of fuel: only if some token consumes nothing or the fuel is no more than what is left to read -/
theorem gpIndex_post {cfg : Sites} {cur : Mask} : ∀ (f : Nat) (rest : Bytes) (nxt : MaskOpt),
    (gpIndex cfg cur f rest nxt).Post (Progress cfg rest → f ≤ rest.length) cfg.On (BackSuffix rest) := by
  intro f
  induction f with
  | zero => intro rest nxt _; exact Nat.zero_le _
  | succ f ih =>
    intro rest nxt
    rw [gpIndex]
    refine .ite (fun _ => List.suffix_refl _) fun hne => .tok trivial fun tok rest' hn => ?_
    have hs := next_suffix hn
    have ih' := fun nxt => (ih rest' nxt).mono (Progress.fuel hn hne (List.suffix_refl _)) (fun _ => id)
      fun _ => BackSuffix.mono hs
    refine .ite (fun _ => trivial) fun _ => .ite (fun _ => hs) fun _ => .ite (fun _ => ih' _) fun _ => ?_
    split
    · exact query_safe.bind fun ⟨fm, ex⟩ _ => .ite (fun _ => trivial) fun _ => ih' fm
    · trivial

theorem gpKeys_post {cfg : Sites} {cur : Mask} : ∀ (f : Nat) (rest : Bytes) (nxt : MaskOpt),
    (gpKeys cfg cur f rest nxt).Post (Progress cfg rest → f ≤ rest.length) cfg.On (BackSuffix rest) := by
  intro f
  induction f with
  | zero => intro rest nxt _; exact Nat.zero_le _
  | succ f ih =>
    intro rest nxt
    rw [gpKeys]
    refine .ite (fun _ => List.suffix_refl _) fun hne => .tok trivial fun tok rest' hn => ?_
    have hs := next_suffix hn
    have ih' := fun nxt => (ih rest' nxt).mono (Progress.fuel hn hne (List.suffix_refl _)) (fun _ => id)
      fun _ => BackSuffix.mono hs
    refine .ite (fun _ => trivial) fun _ => .ite (fun _ => hs) fun _ => .ite (fun _ => ih' _) fun _ => ?_
    split
    · exact .ite (fun _ => trivial) fun _ =>
        query_safe.bind fun ⟨fm, ex⟩ _ => .ite (fun _ => trivial) fun _ => ih' fm
    · exact .ite (fun _ => trivial) fun _ =>
        query_safe.bind fun ⟨fm, ex⟩ _ => .ite (fun _ => trivial) fun _ => ih' fm
    · trivial

theorem gpLoop_post {cfg : Sites} {sch : Schema} : ∀ (f : Nat) (last cur : MaskOpt) (path : Bytes) (desc : Ty),
    (gpLoop cfg sch f last cur path desc).Post (Progress cfg path → f ≤ path.length) cfg.On fun _ => True := by
  intro f
  induction f with
  | zero => intro _ _ path _ _; exact Nat.zero_le _
  | succ f ih =>
    intro last cur path desc
    unfold gpLoop
    refine .ite (fun _ => trivial) fun hne => ?_
    cases cur with
    | none => trivial
    | some c =>
    refine .tok trivial fun stok rest hn => ?_
    have ih' : ∀ {q}, q <:+ rest → ∀ last cur desc, (gpLoop cfg sch f last cur q desc).Post
        (Progress cfg path → f + 1 ≤ path.length) cfg.On fun _ => True :=
      fun hs last cur desc => (ih last cur _ desc).mono_crash (Progress.fuel hn hne hs)
    cases stok with
    | root => exact ih' (List.suffix_refl _) ..
    | field =>
      cases sch.structOf desc with
      | none => trivial
      | some fs =>
        refine .ite (fun _ => trivial) fun _ => .tok trivial fun tok rest2 hn2 => ?_
        have hs2 := next_suffix hn2
        cases tok with
        | litInt n =>
          dsimp only
          cases h32 : siteInt32 cfg n with
          | err e => trivial
          | panic s =>
            obtain ⟨rfl, hc, _⟩ := (siteInt32_post (C := False)).of_panic h32
            exact hc
          | crash => exact ((siteInt32_post (C := False)).of_crash h32).elim
          | ok id =>
            dsimp only
            cases fieldById fs id with
            | none => trivial
            | some fd => exact query_safe.bind fun ⟨fm, ex⟩ _ => .ite (fun _ => trivial) fun _ => ih' hs2 ..
        | litStr name =>
          dsimp only
          cases fieldByName fs name with
          | none => trivial
          | some fd => exact query_safe.bind fun ⟨fm, ex⟩ _ => .ite (fun _ => trivial) fun _ => ih' hs2 ..
        | any => exact .ite (fun _ => trivial) fun _ => .ite (fun hc => hc) fun _ => ih' hs2 ..
        | _ => trivial
    | indexL =>
      cases desc with
      | list e =>
        refine .ite (fun _ => trivial) fun _ => ?_
        refine ((gpIndex_post f rest c.all).mono_crash (Progress.fuel hn hne (List.suffix_refl _))).bind fun o ho => ?_
        cases o with
        | none => trivial
        | some nr =>
          obtain ⟨nxt, rest'⟩ := nr
          exact ih' ho ..
      | _ => trivial
    | mapL =>
      cases desc with
      | map k v =>
        refine .ite (fun _ => trivial) fun _ => ?_
        refine ((gpKeys_post f rest c.all).mono_crash (Progress.fuel hn hne (List.suffix_refl _))).bind fun o ho => ?_
        cases o with
        | none => trivial
        | some nr =>
          obtain ⟨nxt, rest'⟩ := nr
          exact ih' ho ..
      | _ => trivial
    | _ => trivial

theorem getPath_panic {cfg : Sites} {sch : Schema} {m : MaskOpt} {desc : Ty} {path : Bytes} {s : Site}
    (h : getPath cfg sch m desc path = .panic s) : cfg.enabled s = true :=
  (gpLoop_post ..).of_panic h

theorem getPath_total {cfg : Sites} {sch : Schema} {m : MaskOpt} {desc : Ty} {path : Bytes} (hp : Progress cfg path) :
    getPath cfg sch m desc path ≠ .crash :=
  fun h => Nat.not_succ_le_self _ ((gpLoop_post ..).of_crash h hp)

theorem mem_suffixes {r l : Bytes} (h : r <:+ l) : r ∈ suffixes l := by
  fun_induction suffixes l with
  | case1 => exact List.mem_singleton.mpr (List.eq_nil_of_suffix_nil h)
  | case2 a l ih =>
    rcases List.suffix_cons_iff.mp h with e | h
    · exact e ▸ List.mem_cons_self
    · exact List.mem_cons_of_mem _ (ih h)

theorem all_suffixes {f : Bytes → Bool} {p r : Bytes} (h : (suffixes p).all f = true) (hr : r <:+ p) : f r = true :=
  List.all_eq_true.mp h r (mem_suffixes hr)

theorem cause_absurd {cfg : Sites} {sch : Schema} {p : Bytes} {s : Site}
    (hids : cfg.headNeg = true → idsNonneg sch = true) (htok : tokSafe cfg p = true) (h : Cause cfg sch p s) : False := by
  rcases h with ⟨r, hr, h⟩ | ⟨_, hc, r, n, r', hr, h, hn⟩ | ⟨_, hc, st, hst, f, hf, hneg⟩
  · have := all_suffixes htok hr
    simp [h] at this
  · have := all_suffixes htok hr
    simp [h, hc] at this
    omega
  · have := List.all_eq_true.mp (List.all_eq_true.mp (hids hc) st hst) f hf
    simp at this
    omega

theorem progress_of_progressB {cfg : Sites} {p : Bytes} (h : progressB cfg p = true) : Progress cfg p := by
  intro r hr t r' hn hne
  have := all_suffixes h hr
  cases r with
  | nil => exact absurd rfl hne
  | cons a l => simpa [hn] using this

theorem progress_of_repaired {cfg : Sites} (h : cfg.litStall = false) (p : Bytes) : Progress cfg p :=
  fun r _ _ _ hn hne => ((next_post cfg r).of_ok hn).2 h hne

end FieldMask
