import ThriftVerif.Lib.FieldMaskLemmas.Res
/-
  The tokenizer and the two loops that read a bracketed set: where they can panic, what they leave unread and what they
  return; `Cause`, the ways NewFieldMask can panic.
-/
namespace FieldMask

/-- which switch of `Sites` a panic site hangs on (`marshalNilFd` has none: only MarshalJSON can reach it,
and only on a struct node that is neither "all" nor has a field map) -/
def Sites.enabled (cfg : Sites) : Site → Bool
  | .headNeg => cfg.headNeg | .atoi => cfg.atoi | .int32 => cfg.int32 | .errTok => cfg.errTok
  | .strSlice => cfg.strSlice | .getPathStar => cfg.getPathStar | .fieldNilFd => cfg.fieldNilFd
  | .foreachNilFd => cfg.foreachNilFd | .foreachInvalid => cfg.foreachInvalid | .marshalNilFd => false

abbrev Sites.On (cfg : Sites) (s : Site) : Prop := cfg.enabled s = true

theorem siteHead_post {cfg : Sites} {f : Int} {C} :
    (siteHead cfg f).Post C (fun s => s = .headNeg ∧ cfg.headNeg = true ∧ f < 0) fun _ => True := by
  unfold siteHead
  refine .ite (fun h => ?_) fun _ => trivial
  rw [Bool.and_eq_true, decide_eq_true_eq] at h
  exact ⟨rfl, h⟩

theorem siteInt32_post {cfg : Sites} {n : Nat} {C} :
    (siteInt32 cfg n).Post C (fun s => s = .int32 ∧ cfg.int32 = true ∧ n > 2147483647) fun _ => True := by
  unfold siteInt32
  exact .ite (fun hn => .ite (fun hc => ⟨rfl, hc, hn⟩) fun _ => trivial) fun _ => trivial

theorem siteAtoi_post {cfg : Sites} {n : Nat} {C} : (siteAtoi cfg n).Post C cfg.On fun _ => True := by
  unfold siteAtoi
  exact .ite (fun _ => .ite (fun hc => hc) fun _ => trivial) fun _ => trivial

theorem siteErrTok_post {cfg : Sites} {α C} {Q : α → Prop} : (siteErrTok cfg).Post C cfg.On Q := by
  unfold siteErrTok
  exact .ite (fun hc => hc) fun _ => trivial

theorem siteStrSlice_post {cfg : Sites} {α C} {Q : α → Prop} : (siteStrSlice cfg).Post C cfg.On Q := by
  unfold siteStrSlice
  exact .ite (fun hc => hc) fun _ => siteErrTok_post

theorem litSpan_append : ∀ (l : Bytes), (litSpan l).1 ++ (litSpan l).2 = l
  | [] => rfl
  | c :: r => by
    rw [litSpan]
    split
    · rfl
    · exact congrArg (c :: ·) (litSpan_append r)

theorem strEnd_ge (l : Bytes) (o : Bool) (i : Nat) : i ≤ strEnd l o i := by
  fun_induction strEnd l o i <;> omega

def Unread (cfg : Sites) (p : Bytes) (tr : Tok × Bytes) : Prop :=
  tr.2 <:+ p ∧ (cfg.litStall = false → p ≠ [] → tr.2.length < p.length)

theorem nextStr_post {cfg : Sites} {r : Bytes} : (nextStr cfg (34 :: r)).Post False cfg.On (Unread cfg (34 :: r)) := by
  -- cases of nextStr: slice out of range; not a Go string literal; a string
  fun_cases nextStr cfg (34 :: r) with
  | case1 => exact siteStrSlice_post
  | case2 => exact siteErrTok_post
  | case3 n _ v _ =>
    refine ⟨List.drop_suffix _ _, fun _ _ => ?_⟩
    have : 1 ≤ n := by
      unfold n strEnd
      exact strEnd_ge r true 1
    simp only [List.length_drop, List.length_cons]
    omega

theorem nextLit_post {cfg : Sites} {c : Nat} {r : Bytes} : (nextLit cfg c r).Post False cfg.On (Unread cfg (c :: r)) := by
  have ha := litSpan_append (c :: r)
  rw [nextLit]
  generalize litSpan (c :: r) = vr at ha
  obtain ⟨v, rest⟩ := vr
  have hl := congrArg List.length ha
  refine .ite (fun _ => ⟨List.suffix_cons c r, fun _ _ => Nat.lt_succ_self _⟩) fun hv => ?_
  -- a literal that is not cut short is empty only when `lit()` stalls
  have hu : ∀ t, Unread cfg (c :: r) (t, rest) := fun t => ⟨⟨v, ha⟩, fun hst _ => by
    cases v with
    | nil => simp [hst] at hv
    | cons a l => simp only [List.length_append, List.length_cons] at hl ⊢; omega⟩
  exact .ite (fun _ => siteAtoi_post.bind fun n _ => hu _) fun _ => hu _

theorem next_post (cfg : Sites) (p : Bytes) : (next cfg p).Post False cfg.On (Unread cfg p) := by
  -- cases of next: end of input; eight one-byte tokens, each reading its byte; a quote; a literal
  fun_cases next cfg p
  case case1 => exact ⟨List.suffix_refl _, fun _ h => absurd rfl h⟩
  case case10 => exact nextStr_post
  case case11 => exact nextLit_post
  all_goals exact ⟨List.suffix_cons _ _, fun _ _ => Nat.lt_succ_self _⟩

theorem next_suffix {cfg : Sites} {p r : Bytes} {t : Tok} (h : next cfg p = .ok (t, r)) : r <:+ p :=
  ((next_post cfg p).of_ok h).1

theorem next_ne_crash {cfg : Sites} {r : Bytes} : next cfg r ≠ .crash := (next_post cfg r).of_crash

def TokCause (cfg : Sites) (path : Bytes) (s : Site) : Prop := ∃ r, r <:+ path ∧ next cfg r = .panic s

theorem TokCause.mono {cfg s} {p q : Bytes} (hpq : p <:+ q) : TokCause cfg p s → TokCause cfg q s
  | ⟨r, hr, h⟩ => ⟨r, hr.trans hpq, h⟩

def Int32Cause (cfg : Sites) (path : Bytes) : Prop :=
  cfg.int32 = true ∧ ∃ r n r', r <:+ path ∧ next cfg r = .ok (.litInt n, r') ∧ n > 2147483647
def HeadCause (cfg : Sites) (sch : Schema) : Prop :=
  cfg.headNeg = true ∧ ∃ st ∈ sch.structs, ∃ f ∈ st.2, f.id < 0

def Cause (cfg : Sites) (sch : Schema) (path : Bytes) (s : Site) : Prop :=
  TokCause cfg path s ∨ (s = .int32 ∧ Int32Cause cfg path) ∨ (s = .headNeg ∧ HeadCause cfg sch)

theorem Cause.mono {cfg sch s} {p q : Bytes} (hpq : p <:+ q) : Cause cfg sch p s → Cause cfg sch q s
  | .inl h => .inl (h.mono hpq)
  | .inr (.inl ⟨hs, hc, r, n, r', hr, h⟩) => .inr (.inl ⟨hs, hc, r, n, r', hr.trans hpq, h⟩)
  | .inr (.inr h) => .inr (.inr h)

theorem Cause.enabled {cfg sch p s} (h : Cause cfg sch p s) : cfg.enabled s = true := by
  rcases h with ⟨r, _, h⟩ | ⟨rfl, hc, _⟩ | ⟨rfl, hc, _⟩
  · exact (next_post cfg r).of_panic h
  · exact hc
  · exact hc

theorem Res.Post.cause_mono {cfg sch α} {x : Res α} {p q : Bytes}
    (h : x.PanicsIn (Cause cfg sch p)) (hpq : p <:+ q) : x.PanicsIn (Cause cfg sch q) :=
  h.mono_panic fun _ h => h.mono hpq

/-- The last conjunct is for `addIndex_sim`: the code enters the loop with `all = cur.All()`, `shadow` with `false`.
A run that ends with `all` set and has appended no id (the `[*]` case) has tested the flag it was entered with nowhere:
entered with any other flag `a` it returns the same. -/
theorem scanIndex_post {cfg : Sites} : ∀ (fuel : Nat) (rest : Bytes) (all star empty : Bool) (ids : List Nat) (a : Bool),
    (scanIndex cfg fuel rest all star empty ids).Post True (TokCause cfg rest) fun sc =>
      sc.rest <:+ rest ∧ (∃ more, sc.ids = ids ++ more) ∧ (all = star → sc.all = sc.star) ∧
      (sc.ids = ids → sc.all = true → (all = true → a = true) → scanIndex cfg fuel rest a star empty ids = .ok sc) := by
  intro fuel
  induction fuel with
  | zero => intros; trivial
  | succ f ih =>
    intro rest all star empty ids a
    have here : ∃ more, ids = ids ++ more := ⟨[], (List.append_nil _).symm⟩
    have back : ∀ {r : Bytes}, all = true → (all = true → a = true) →
        (Res.ok ⟨a, star, ids, [], r⟩ : Res SetScan) = .ok ⟨all, star, ids, [], r⟩ :=
      fun hall ha => by rw [ha hall, hall]
    -- once for the run itself, once for the run entered with `a` inside the postcondition
    rw [scanIndex, scanIndex]
    refine .ite (fun hr => ⟨List.suffix_refl _, here, id, fun _ hall ha => (if_pos hr).trans (back hall ha)⟩) fun hr => ?_
    rw [if_neg hr]
    refine .bind_of (fun _ => trivial) (fun s h => ⟨rest, List.suffix_refl _, h⟩) fun ⟨tok, rest'⟩ hn => ?_
    have hs := next_suffix hn
    rw [hn, Res.ok_bind]
    have ih' := fun x y z w a' => (ih rest' x y z w a').mono_panic fun _ h => h.mono hs
    cases tok with
    | indexR =>
      exact .ite (fun _ => trivial) fun he => ⟨hs, here, id, fun _ hall ha => (if_neg he).trans (back hall ha)⟩
    | elem => exact (ih' ..).mono id (fun _ => id) fun sc ⟨h0, h⟩ => ⟨h0.trans hs, h⟩
    | any =>
      exact (ih' ..).mono id (fun _ => id) fun sc ⟨h0, h1, h3, h4⟩ =>
        ⟨h0.trans hs, h1, fun _ => h3 rfl, fun e hall _ => h4 e hall fun _ => rfl⟩
    | litInt n =>
      refine .ite (fun _ => trivial) fun _ => (ih' _ _ _ _ a).mono id (fun _ => id) fun sc ⟨h0, ⟨more, h1⟩, h3, _⟩ =>
        ⟨h0.trans hs, ⟨[n] ++ more, by rw [h1, List.append_assoc]⟩, h3, fun e => ?_⟩
      -- a run that appended an id does not end with the ids it began with
      rw [e] at h1
      simp at h1
    | eof => trivial
    | _ => exact .ite (fun _ => trivial) fun _ => trivial

theorem scanKeys_post {cfg : Sites} {isInt isStr : Bool} : ∀ (fuel : Nat) (rest : Bytes) (all star empty : Bool)
    (ids : List Nat) (strs : List Bytes) (a : Bool),
    (scanKeys cfg isInt isStr fuel rest all star empty ids strs).Post True (TokCause cfg rest) fun sc =>
      sc.rest <:+ rest ∧ (∃ more, sc.ids = ids ++ more) ∧ (∃ more, sc.strs = strs ++ more) ∧
      (all = true → sc.all = true) ∧ (all = star → sc.all = sc.star) ∧
      (sc.ids = ids → sc.strs = strs → sc.all = true → (all = true → a = true) →
        scanKeys cfg isInt isStr fuel rest a star empty ids strs = .ok sc) := by
  intro fuel
  induction fuel with
  | zero => intros; trivial
  | succ f ih =>
    intro rest all star empty ids strs a
    have here : ∀ {α} (l : List α), ∃ more, l = l ++ more := fun l => ⟨[], (List.append_nil l).symm⟩
    have back : ∀ {r : Bytes}, all = true → (all = true → a = true) →
        (Res.ok ⟨a, star, ids, strs, r⟩ : Res SetScan) = .ok ⟨all, star, ids, strs, r⟩ :=
      fun hall ha => by rw [ha hall, hall]
    rw [scanKeys, scanKeys]
    refine .ite (fun hr => ⟨List.suffix_refl _, here _, here _, id, id, fun _ _ hall ha => (if_pos hr).trans (back hall ha)⟩)
      fun hr => ?_
    rw [if_neg hr]
    refine .bind_of (fun _ => trivial) (fun s h => ⟨rest, List.suffix_refl _, h⟩) fun ⟨tok, rest'⟩ hn => ?_
    have hs := next_suffix hn
    rw [hn, Res.ok_bind]
    have ih' := fun x y z w v a' => (ih rest' x y z w v a').mono_panic fun _ h => h.mono hs
    cases tok with
    | mapR =>
      exact .ite (fun _ => trivial) fun he =>
        ⟨hs, here _, here _, id, id, fun _ _ hall ha => (if_neg he).trans (back hall ha)⟩
    | elem => exact (ih' ..).mono id (fun _ => id) fun sc ⟨h0, h⟩ => ⟨h0.trans hs, h⟩
    | any =>
      exact (ih' ..).mono id (fun _ => id) fun sc ⟨h0, h1, h2, h3, h4, h5⟩ =>
        ⟨h0.trans hs, h1, h2, fun _ => h3 rfl, fun _ => h4 rfl, fun e e' hall _ => h5 e e' hall fun _ => rfl⟩
    | litInt n =>
      refine .ite (fun _ => trivial) fun _ => .ite (fun _ => trivial) fun _ => (ih' _ _ _ _ _ a).mono id (fun _ => id)
        fun sc ⟨h0, ⟨more, h1⟩, h2, h3, h4, _⟩ =>
          ⟨h0.trans hs, ⟨[n] ++ more, by rw [h1, List.append_assoc]⟩, h2, h3, h4, fun e _ => ?_⟩
      rw [e] at h1
      simp at h1
    | str s =>
      refine .ite (fun _ => trivial) fun _ => .ite (fun _ => trivial) fun _ => (ih' _ _ _ _ _ a).mono id (fun _ => id)
        fun sc ⟨h0, h1, ⟨more, h2⟩, h3, h4, _⟩ =>
          ⟨h0.trans hs, h1, ⟨[s] ++ more, by rw [h2, List.append_assoc]⟩, h3, h4, fun _ e => ?_⟩
      rw [e] at h2
      simp at h2
    | eof => trivial
    | _ => exact .ite (fun _ => trivial) fun _ => trivial

end FieldMask
