import ThriftVerif.Lib.FieldMask
/-
  The outcome monad `Res` of the field-mask model: postconditions `Res.Post C S Q x` (crash only if `C`, panic only at
  sites in `S`, values in `Q`, errors unconstrained) with one rule per construct of the `do` blocks, and `Res.Sim` for a
  program walked side by side with a run of its specification.
-/
namespace FieldMask

@[simp] theorem Res.ok_bind {α β} (a : α) (f : α → Res β) : (Res.ok a >>= f) = f a := rfl
@[simp] theorem Res.err_bind {α β} (e : Err) (f : α → Res β) : (Res.err e >>= f) = .err e := rfl
@[simp] theorem Res.panic_bind {α β} (s : Site) (f : α → Res β) : (Res.panic s >>= f) = .panic s := rfl
@[simp] theorem Res.crash_bind {α β} (f : α → Res β) : ((Res.crash : Res α) >>= f) = .crash := rfl
@[simp] theorem Res.pure_eq {α} (a : α) : (pure a : Res α) = .ok a := rfl

theorem Res.bind_eq_ok {α β} {x : Res α} {f : α → Res β} {b : β} :
    (x >>= f) = .ok b ↔ ∃ a, x = .ok a ∧ f a = .ok b := by
  cases x <;> simp

theorem liftO_bind_eq_ok {α β} {o : Option α} {f : α → Res β} {b : β} :
    (liftO o >>= f) = .ok b ↔ ∃ a, o = some a ∧ f a = .ok b := by
  cases o <;> simp [liftO]

theorem Res.ite_err_eq_ok {α} {c : Prop} [Decidable c] {e : Err} {y : Res α} {a : α} :
    (if c then .err e else y) = .ok a ↔ ¬c ∧ y = .ok a := by
  split <;> simp [*]

def Res.Post {α} (C : Prop) (S : Site → Prop) (Q : α → Prop) : Res α → Prop
  | .ok a => Q a
  | .err _ => True
  | .panic s => S s
  | .crash => C

namespace Res.Post
variable {α β : Type} {C C' : Prop} {S S' : Site → Prop} {Q Q' : α → Prop} {x : Res α}

theorem of_ok {a : α} (h : Post C S Q x) (e : x = .ok a) : Q a := by rw [e] at h; exact h
theorem of_panic {s : Site} (h : Post C S Q x) (e : x = .panic s) : S s := by rw [e] at h; exact h
theorem of_crash (h : Post C S Q x) (e : x = .crash) : C := by rw [e] at h; exact h

theorem mono (h : Post C S Q x) (hC : C → C') (hS : ∀ s, S s → S' s) (hQ : ∀ a, Q a → Q' a) : Post C' S' Q' x := by
  cases x with
  | ok a => exact hQ a h
  | err e => trivial
  | panic s => exact hS s h
  | crash => exact hC h

theorem mono_panic (h : Post C S Q x) (hS : ∀ s, S s → S' s) : Post C S' Q x := h.mono id hS fun _ => id
theorem mono_crash (h : Post C S Q x) (hC : C → C') : Post C' S Q x := h.mono hC (fun _ => id) fun _ => id

theorem bind_of {R : β → Prop} {f : α → Res β} (hc : x = .crash → C) (hp : ∀ s, x = .panic s → S s)
    (hk : ∀ a, x = .ok a → Post C S R (f a)) : Post C S R (x >>= f) := by
  cases x with
  | ok a => exact hk a rfl
  | err e => trivial
  | panic s => exact hp s rfl
  | crash => exact hc rfl

theorem bind {R : β → Prop} {f : α → Res β} (hx : Post C S Q x) (hk : ∀ a, Q a → Post C S R (f a)) :
    Post C S R (x >>= f) :=
  bind_of hx.of_crash (fun _ => hx.of_panic) fun a e => hk a (hx.of_ok e)

theorem ite {c : Prop} [Decidable c] {y : Res α} (hx : c → Post C S Q x) (hy : ¬c → Post C S Q y) :
    Post C S Q (if c then x else y) := by
  split
  · exact hx ‹_›
  · exact hy ‹_›

end Res.Post

abbrev Res.PanicsIn {α} (S : Site → Prop) (x : Res α) : Prop := x.Post True S fun _ => True

theorem liftO_post {α S} (o : Option α) : (liftO o).Post True S fun a => o = some a := by
  cases o
  · trivial
  · exact rfl

theorem Res.Post.refl {α} (x : Res α) : x.Post True (fun s => x = .panic s) fun a => x = .ok a := by
  cases x <;> first | rfl | trivial

/-- The code `x` against a run `y` of its specification on the same input; `T x b` is what `x` owes to the answer `b`
(errors of the specification are free).  Where both are the same `do` text, one case split serves both (`bind_same`). -/
structure Res.Sim {α β} (S : Site → Prop) (T : Res α → β → Prop) (x : Res α) (y : Res β) : Prop where
  panicsIn : x.PanicsIn S
  of_ok : ∀ b, y = .ok b → T x b

namespace Res.Sim
variable {α β γ : Type} {S : Site → Prop} {T : Res α → β → Prop}

theorem bind_same {Q : γ → Prop} {x0 : Res γ} {f : γ → Res α} {g : γ → Res β} (h0 : x0.Post True S Q)
    (h : ∀ c, x0 = .ok c → Q c → Sim S T (f c) (g c)) : Sim S T (x0 >>= f) (x0 >>= g) := by
  cases x0 with
  | ok c => exact h c rfl h0
  | err e => exact ⟨trivial, nofun⟩
  | panic s => exact ⟨h0, nofun⟩
  | crash => exact ⟨trivial, nofun⟩

theorem ite_same {c : Prop} [Decidable c] {x x' : Res α} {y y' : Res β} (h1 : c → Sim S T x y)
    (h2 : ¬c → Sim S T x' y') : Sim S T (if c then x else x') (if c then y else y') := by
  split
  · exact h1 ‹_›
  · exact h2 ‹_›

theorem of_err {x : Res α} {e : Err} (h : x.PanicsIn S) : Sim S T x (.err e : Res β) := ⟨h, nofun⟩

theorem ite_right {c : Prop} [Decidable c] {x : Res α} {e : Err} {y : Res β} (h : ¬c → Sim S T x y) (hp : x.PanicsIn S) :
    Sim S T x (if c then .err e else y) := by
  split
  · exact of_err hp
  · exact h ‹_›

theorem map_right {g : γ → β} {x : Res α} {y : Res γ} (h : Sim S (fun x c => T x (g c)) x y) :
    Sim S T x (y >>= fun c => .ok (g c)) := by
  refine ⟨h.panicsIn, fun b e => ?_⟩
  obtain ⟨c, hc, e⟩ := Res.bind_eq_ok.mp e
  cases e
  exact h.of_ok c hc

theorem mono {S' : Site → Prop} {T' : Res α → β → Prop} {x x' : Res α} {y : Res β} (h : Sim S T x y)
    (hp : x.PanicsIn S → x'.PanicsIn S') (hT : ∀ b, T x b → T' x' b) : Sim S' T' x' y :=
  ⟨hp h.panicsIn, fun b e => hT b (h.of_ok b e)⟩

end Res.Sim

end FieldMask
