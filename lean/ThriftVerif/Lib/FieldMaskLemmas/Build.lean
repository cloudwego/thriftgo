import ThriftVerif.Lib.FieldMaskLemmas.Rep
import ThriftVerif.Lib.FieldMaskLemmas.Tok
import ThriftVerif.Core.Assoc
/-
  NewFieldMask establishes `Rep`.  `addLoop` simulates `shadow` (a `Res.Sim`): it panics only for a cause in the path, and
  where `shadow` gives the path a meaning it establishes `Rep` for that meaning.  The two are the same text over a node and
  over its type tag, so each branch of the loop is walked side by side with its branch of `shadow` (the index and key
  scans twice, for the panic half and for the value half, which enter the scan differently).  What a branch does to the trie is
  one of three descents (`RecSim.viaKid`, `.viaAll`, `.viaKeys`), each stated as what it adds (`Adds`) to the paths the node
  represents; absence of conflict (`NC`) says how the old paths begin and that behind the step they stay without conflict.
-/
namespace FieldMask

def NC (a b : APath) : Prop := noConf a b = true

theorem noConf_symm : ∀ (a b : APath), noConf a b = noConf b a
  | [], [] => rfl
  | [], _ :: _ => rfl
  | _ :: _, [] => rfl
  | a :: p, b :: q => by
    simp only [noConf]
    rw [noConf_symm p q, Bool.or_comm a.isStar, Bool.and_comm (a == .any), BEq.comm (a := a) (b := b)]

theorem NoStarConflict_iff (L : List APath) : NoStarConflict L = true ↔ L.Pairwise NC := by
  induction L with
  | nil => simp [NoStarConflict]
  | cons p l ih =>
    simp only [NoStarConflict, Bool.and_eq_true, List.pairwise_cons, ih, noConfAll, List.all_eq_true, NC]

theorem NC_nil_right {p : APath} (h : NC p []) : p = [] := by
  cases p with
  | nil => rfl
  | cons a t => simp [NC, noConf] at h

/-- the two branches of `noConf` at equal heads: a shared star must be `[*]`/`{*}`, a shared specific step is passed over -/
theorem NC_tail {k : PStep} {a b : APath} (h : NC (k :: a) (k :: b)) : NC a b := by
  rw [NC, noConf] at h
  by_cases hc : (k.isStar || k.isStar) = true
  · rw [if_pos hc, Bool.and_eq_true] at h
    exact h.2
  · rwa [if_neg hc, if_pos (beq_self_eq_true k)] at h

theorem pairwise_tailsOf (k : PStep) {L : List APath} (h : L.Pairwise NC) : (tailsOf k L).Pairwise NC := by
  refine h.filterMap _ fun a a' haa b hb b' hb' => ?_
  cases a with
  | nil => cases hb
  | cons ka ta =>
    cases a' with
    | nil => cases hb'
    | cons kb tb =>
      obtain ⟨rfl, e⟩ := Option.ite_none_right_eq_some.mp hb
      obtain ⟨rfl, e'⟩ := Option.ite_none_right_eq_some.mp hb'
      cases e
      cases e'
      exact NC_tail haa

/-- behind any step the paths stay without conflict (for `.*` because it admits no second path) -/
theorem NC_behind {P X : List APath} (k : PStep) (h : (P ++ X.map (k :: ·)).Pairwise NC) :
    (tailsOf k P ++ X).Pairwise NC := by
  have := pairwise_tailsOf k h
  rwa [tailsOf_append_map, if_pos rfl] at this

theorem NC_new_head {P X : List APath} {k : PStep} (hX : X ≠ []) (h : (P ++ X.map (k :: ·)).Pairwise NC) {p : APath}
    (hp : p ∈ P) : ∃ a t, p = a :: t ∧ (a = .any ∧ k = .any ∨ a.isStar = false ∧ k.isStar = false) := by
  obtain ⟨x0, hx0⟩ := List.exists_mem_of_ne_nil X hX
  have h := (List.pairwise_append.mp h).2.2 p hp _ (List.mem_map_of_mem hx0)
  cases p with
  | nil => cases h
  | cons a t =>
    refine ⟨a, t, rfl, ?_⟩
    rw [NC, noConf] at h
    by_cases hc : (a.isStar || k.isStar) = true
    · rw [if_pos hc, Bool.and_eq_true, Bool.and_eq_true, beq_iff_eq, beq_iff_eq] at h
      exact .inl h.1
    · rw [Bool.or_eq_true, not_or, Bool.not_eq_true, Bool.not_eq_true] at hc
      exact .inr hc

theorem NC_spec_new {P X : List APath} {k : PStep} (hk : k.isStar = false) (hX : X ≠ [])
    (h : (P ++ X.map (k :: ·)).Pairwise NC) : AllSpec P := by
  intro p hp
  obtain ⟨a, t, rfl, ⟨_, rfl⟩ | ⟨ha, _⟩⟩ := NC_new_head hX h hp
  · cases hk
  · exact ⟨a, t, rfl, ha⟩

theorem NC_star_new {P X : List APath} {s : PStep} (hs : s.isStar = true) (hX : X ≠ [])
    (h : (P ++ X.map (s :: ·)).Pairwise NC) : AllStar s P ∧ (s = .anyField → P = []) := by
  have old : ∀ p ∈ P, s = .any ∧ ∃ t, p = s :: t := by
    intro p hp
    obtain ⟨a, t, rfl, ⟨rfl, rfl⟩ | ⟨_, hk⟩⟩ := NC_new_head hX h hp
    · exact ⟨rfl, t, rfl⟩
    · cases hs.symm.trans hk
  refine ⟨fun p hp => (old p hp).2, fun e => ?_⟩
  cases P with
  | nil => rfl
  | cons p P' => cases e.symm.trans (old p List.mem_cons_self).1

theorem map_cons_ne_nil {X : List APath} (k : PStep) (h : X ≠ []) : X.map (k :: ·) ≠ [] :=
  fun e => h (List.map_eq_nil_iff.mp e)

theorem flatMap_cons_ne_nil {α} {l : List α} {X : List APath} (f : α → PStep) (hl : l ≠ []) (hX : X ≠ []) :
    l.flatMap (fun a => X.map (f a :: ·)) ≠ [] := by
  cases l with
  | nil => exact absurd rfl hl
  | cons a l' =>
    rw [List.flatMap_cons]
    exact fun h => map_cons_ne_nil (f a) hX (List.append_eq_nil_iff.mp h).1

theorem ftAfter_of_ne {sch : Schema} {d : Ty} {ft : Ft} (h : ft ≠ .invalid) : ftAfter sch d ft = ft := by
  simp [ftAfter, h]

theorem assoc_get {α} : Assoc.IsGet (assoc (α := α)) := ⟨fun _ => rfl, fun _ _ _ => if_pos rfl, fun _ _ => (if_neg ·)⟩

theorem structOf_mem {sch : Schema} {d : Ty} {fs : List FieldD} (h : sch.structOf d = some fs) :
    ∃ n, (n, fs) ∈ sch.structs := by
  cases d with
  | named n =>
    simp only [Schema.structOf] at h
    split at h
    · simp at h
    · exact ⟨n, assoc_get.mem h⟩
  | list e => simp [Schema.structOf] at h
  | map k v => simp [Schema.structOf] at h

theorem fieldById_self {sch : Schema} (huniq : sch.uniqueIds = true) {d : Ty} {fs : List FieldD}
    (hso : sch.structOf d = some fs) {f : FieldD} (hf : f ∈ fs) : fieldById fs f.id = some f := by
  obtain ⟨n, hmem⟩ := structOf_mem hso
  have := List.all_eq_true.mp (List.all_eq_true.mp huniq _ hmem) f hf
  simpa using this

theorem Mask.allQ_eq_isAll {m : Mask} (h1 : m.typ ≠ .invalid) (h2 : m.typ ≠ .scalar) : m.allQ = m.isAll := by
  unfold Mask.allQ
  cases h : m.typ
  · exact absurd h h1
  · exact absurd h h2
  all_goals rfl

theorem Mask.allQ_scalar {m : Mask} (h : m.typ = .scalar) : m.allQ = true := by
  unfold Mask.allQ
  rw [h]

theorem Mask.setTyp_self (m : Mask) : m.setTyp m.typ = m := by
  obtain ⟨typ, isAll, isBlack, all, fdA, fd, intA, ints, strA, strs⟩ := m
  rfl

theorem Mask.endPath_eq {m : Mask} (cfg : Sites) (hal : m.all = .none) (hnk : m.NoKids) :
    m.endPath cfg = m.setIsAll true := by
  cases m
  cases hal
  obtain ⟨rfl, rfl, rfl, rfl, rfl, rfl⟩ := hnk
  unfold Mask.endPath
  split <;> rfl

/-- end of path, for either behaviour of `prefixKeeps`: a node at which a complete path may end without
conflict has nothing below it, so there is nothing to drop -/
theorem endPath_ok {sch : Schema} {black : Bool} {m : Mask} {d : Ty} {P : List APath} (cfg : Sites)
    (hm : RepF sch black d m P) (ht : m.typ ≠ .invalid) (hnc : (P ++ [[]]).Pairwise NC) :
    Rep sch black d (m.endPath cfg) (P ++ [[]]) := by
  have hall : ∀ p ∈ P, p = [] :=
    fun p hp => NC_nil_right ((List.pairwise_append.mp hnc).2.2 p hp [] (List.mem_singleton.mpr rfl))
  have hshape : m.all = .none ∧ m.NoKids := hm.elim (fun hf => ⟨hf.2.2.1, hf.2.2.2.2⟩) (·.leaf_inv hall)
  rw [Mask.endPath_eq cfg hshape.1 hshape.2, Mask.setIsAll_eq]
  exact Rep.leaf ht hm.isBlack_eq (by simp) (List.forall_mem_append.mpr ⟨hall, List.forall_mem_singleton.mpr rfl⟩) rfl
    hshape.1 hshape.2

/-- What a piece `x` of `addLoop` owes to the paths `Y` that the rest of the path string denotes.  `side` is what the piece
shows of the node on the way (the code's conflict test `cur.All()` fails).  `RepF` and `uniqueIds` stand inside, so that the
panic half of a `Res.Sim` over `Adds` needs neither. -/
structure Adds (sch : Schema) (black : Bool) (d : Ty) (m : Mask) (P : List APath) (side : Prop)
    (x : Res Mask) (Y : List APath) : Prop where
  ne : Y ≠ []
  run : RepF sch black d m P → sch.uniqueIds = true → (P ++ Y).Pairwise NC →
    side ∧ ∃ m', x = .ok m' ∧ Rep sch black d m' (P ++ Y) ∧ m'.typ = ftAfter sch d m.typ

theorem Adds.conv {sch black d m P Y} {side side' : Prop} {x x' : Res Mask} (h : Adds sch black d m P side x Y)
    (hs : side → side' ∧ x' = x) : Adds sch black d m P side' x' Y :=
  ⟨h.ne, fun hm huniq hnc => by
    obtain ⟨s, r⟩ := h.run hm huniq hnc
    rw [(hs s).2]
    exact ⟨(hs s).1, r⟩⟩

/-- what the branch lemmas assume of the recursive calls (the induction hypothesis of `addLoop_sim`) -/
structure RecSim (cfg : Sites) (sch : Schema) (black : Bool)
    (rec : Mask → Bytes → Ty → Res Mask) (srec : Ft → Ty → Bytes → Res ATree) : Prop where
  sim : ∀ (m : Mask) (p : Bytes) (d : Ty) (P : List APath),
    Res.Sim (Cause cfg sch p) (fun x t => Adds sch black d m P True x t.expand) (rec m p d) (srec m.typ d p)

theorem Res.Sim.cause_mono {cfg sch α β T x y} {p q : Bytes} (h : @Res.Sim α β (Cause cfg sch p) T x y) (hpq : p <:+ q) :
    Res.Sim (Cause cfg sch q) T x y :=
  h.mono (·.cause_mono hpq) fun _ => id

theorem forKeys_panic {add : Mask → Res Mask} {ft : Ft} {getK setK} {S : Site → Prop}
    (hadd : ∀ c, (add c).PanicsIn S) :
    ∀ (ks : List Key) (cur : Mask), (forKeys add ft ks cur getK setK).PanicsIn S
  | [], _ => trivial
  | k :: ks, cur => by
    rw [forKeys]
    exact (hadd _).bind fun _ _ => forKeys_panic hadd ks _

section
variable {cfg : Sites} {sch : Schema} {black : Bool} {rec : Mask → Bytes → Ty → Res Mask}
  {srec : Ft → Ty → Bytes → Res ATree} (hsim : RecSim cfg sch black rec srec) {m : Mask} {d : Ty} {P : List APath}
include hsim

theorem RecSim.pan (m : Mask) (p : Bytes) (d : Ty) : (rec m p d).PanicsIn (Cause cfg sch p) :=
  (hsim.sim m p d []).panicsIn

theorem RecSim.ne {ft : Ft} {d : Ty} {p : Bytes} {A : ATree} (e : srec ft d p = .ok A) : A.expand ≠ [] :=
  ((hsim.sim (Mask.new ft black) p d []).of_ok A e).ne

theorem RecSim.ins (huniq : sch.uniqueIds = true) (m : Mask) (p : Bytes) (d : Ty) (P : List APath) (A : ATree)
    (hm : RepF sch black d m P) (e : srec m.typ d p = .ok A) (hnc : (P ++ A.expand).Pairwise NC) :
    ∃ m', rec m p d = .ok m' ∧ Rep sch black d m' (P ++ A.expand) ∧ m'.typ = ftAfter sch d m.typ :=
  (((hsim.sim m p d P).of_ok A e).run hm huniq hnc).2

theorem RecSim.viaKid {k : PStep} {ft' : Ft} {d' : Ty} {rest : Bytes} (hk : k.isStar = false) (ht : m.typ ≠ .invalid)
    (hkk : kindOK m.typ k = true) (hinv : ft' ≠ .invalid)
    (hcu : sch.uniqueIds = true → stepCur sch m.typ d k = some (ft', d')) :
    Res.Sim (Cause cfg sch rest) (fun x t => Adds sch black d m P (m.isAll = false) x (t.expand.map (k :: ·)))
      (do let c' ← rec (m.kidChild k ft' m.isBlack) rest d'
          .ok (m.putKid k c'))
      (srec ft' d' rest) := by
  refine ⟨(hsim.pan _ _ _).bind fun _ _ => trivial, fun t hsr => ?_⟩
  have hX := hsim.ne hsr
  refine ⟨map_cons_ne_nil _ hX, fun hm huniq hnc => ?_⟩
  have hP := NC_spec_new hk hX hnc
  obtain ⟨hcr, hct⟩ := child_RepF hm hP hk (hcu huniq)
  obtain ⟨c', hc', hrc', htc'⟩ := hsim.ins huniq _ rest d' _ t hcr (by rw [hct]; exact hsr) (NC_behind k hnc)
  rw [hct, ftAfter_of_ne hinv] at htc'
  rw [hm.isBlack_eq, hc']
  exact ⟨(hm.spec_inv hP).isAll, _, rfl, Rep_putKid hm hP hk ht hkk (hcu huniq) htc' hrc' hX,
    (Mask.putKid_typ _ _ _).trans (ftAfter_of_ne ht).symm⟩

/-- `cur1` is the node after `cur.isAll = true` and the `Reset()` of its kid maps: a no-op, since a node below which a
star may be added has no kids -/
theorem RecSim.viaAll {s : PStep} {cur1 : Mask} {ft' : Ft} {d' : Ty} {rest : Bytes} {side : Prop} (hs : s.isStar = true)
    (ht : m.typ ≠ .invalid) (hinv : ft' ≠ .invalid) (hcu : stepCur sch m.typ d s = some (ft', d'))
    (hcur1 : m.NoKids → cur1 = m.setIsAll true) (hside : (s = .anyField → m.isAll = false) → side) :
    Res.Sim (Cause cfg sch rest) (fun x t => Adds sch black d m P side x (t.expand.map (s :: ·)))
      (do let c' ← rec (cur1.allChild ft') rest d'
          .ok (cur1.setAllM (.some c')))
      (srec ft' d' rest) := by
  refine ⟨(hsim.pan _ _ _).bind fun _ _ => trivial, fun t hsr => ?_⟩
  have hX := hsim.ne hsr
  refine ⟨map_cons_ne_nil _ hX, fun hm huniq hnc => ?_⟩
  obtain ⟨hP, hnil⟩ := NC_star_new hs hX hnc
  obtain ⟨hcr, hct, hnk⟩ := allChild_RepF hm hs hP hcu
  obtain ⟨c', hc', hrc', htc'⟩ := hsim.ins huniq _ rest d' _ t hcr (by rw [hct]; exact hsr) (NC_behind s hnc)
  rw [hct, ftAfter_of_ne hinv] at htc'
  rw [hcur1 hnk, hc']
  refine ⟨hside fun e => ?_, _, rfl, Rep_setAll hm.isBlack_eq hnk hs hP ht hcu htc' hrc' hX, ?_⟩
  · rw [hnil e] at hm
    exact hm.fresh_of_nil.1
  · rw [ftAfter_of_ne ht]; cases m; rfl

/-- the keys `xs` of a bracketed set of either kind: `key`/`step` name the child-map key and the path step of one -/
theorem RecSim.viaKeys {rest' : Bytes} {et et' : Ty} {nextFt : Ft} {t : ATree} {α} {xs : List α}
    (key : α → Key) (step : α → PStep) (getK : Mask → Kids) (setK : Kids → Mask → Mask)
    (hget : ∀ (m : Mask) a, (getK m).get (key a) = m.kid (step a))
    (hset : ∀ (m : Mask) a c, setK ((getK m).put (key a) c) m = m.putKid (step a) c)
    (ht : m.typ ≠ .invalid) (hinv : nextFt ≠ .invalid) (het' : sch.unwrap et = some et') (hxs : xs ≠ [])
    (hcu : ∀ a, (step a).isStar = false ∧ stepCur sch m.typ d (step a) = some (nextFt, et') ∧ kindOK m.typ (step a) = true)
    (hsr : srec nextFt et' rest' = .ok t) :
    Adds sch black d m P (m.isAll = false)
      (forKeys (fun c => do let et' ← liftO (sch.unwrap et); rec c rest' et') nextFt (xs.map key) m getK setK)
      (xs.flatMap fun a => t.expand.map (step a :: ·)) := by
  have hY := flatMap_cons_ne_nil step hxs (hsim.ne hsr)
  refine ⟨hY, fun hm huniq hnc => ?_⟩
  have loop : ∀ (xs : List α) (m' : Mask) (P : List APath),
      m'.typ = m.typ → RepF sch black d m' P → (P ++ xs.flatMap fun a => t.expand.map (step a :: ·)).Pairwise NC →
      (xs ≠ [] → m'.isAll = false) ∧ ∃ m'', forKeys (fun c => rec c rest' et') nextFt (xs.map key) m' getK setK = .ok m'' ∧
        RepF sch black d m'' (P ++ xs.flatMap fun a => t.expand.map (step a :: ·)) ∧ m''.typ = m.typ := by
    intro xs
    induction xs with
    | nil =>
      intro m' P hty hm _
      exact ⟨fun h => absurd rfl h, m', rfl, by simpa using hm, hty⟩
    | cons a xs ih =>
      intro m' P hty hm hnc
      obtain ⟨hk, hcua, hkk⟩ := hcu a
      rw [← hty] at ht hcua hkk
      simp only [List.flatMap_cons] at hnc ⊢
      rw [← List.append_assoc] at hnc ⊢
      obtain ⟨hia, m1, h1, hr1, ht1⟩ := ((hsim.viaKid hk ht hkk hinv fun _ => hcua).of_ok t hsr).run hm huniq
        (List.pairwise_append.mp hnc).1
      obtain ⟨c', hc', e⟩ := Res.bind_eq_ok.mp h1
      cases e
      obtain ⟨_, m'', h2, hr2, ht2⟩ := ih _ _ ((ht1.trans (ftAfter_of_ne ht)).trans hty) (.inr hr1) hnc
      refine ⟨fun _ => hia, m'', ?_, hr2, ht2⟩
      have hchild : (getK m').child (key a) nextFt m'.isBlack = m'.kidChild (step a) nextFt m'.isBlack := by
        rw [Kids.child, hget]
        rfl
      simp only [List.map_cons, forKeys, hchild, hc', Res.ok_bind, hset]
      exact h2
  obtain ⟨hia, m', h1, hr1, ht1⟩ := loop xs m P rfl hm hnc
  simp only [het', liftO, Res.ok_bind]
  exact ⟨hia hxs, m', h1, hr1.rep fun h => hY (List.append_eq_nil_iff.mp h).2, ht1.trans (ftAfter_of_ne ht).symm⟩

theorem addViaField_sim {rest2 : Bytes} {fs : List FieldD} {f : FieldD}
    (hso : sch.structOf d = some fs) (hf : f ∈ fs) (htyp : m.typ = .struct) :
    Res.Sim (Cause cfg sch rest2) (fun x t => Adds sch black d m P (m.isAll = false) x t.expand)
      (addViaField cfg sch rec m rest2 f) (shViaField cfg sch srec rest2 f) := by
  unfold addViaField shViaField
  refine .bind_same (liftO_post _) fun d' _ hd' => .bind_same (liftO_post _) fun ft' _ hft' => .bind_same
    (siteHead_post.mono_panic fun s h => ?_) fun _ _ _ => .ite_right (fun hinv => ?_) ((hsim.pan _ _ _).bind fun _ _ => trivial)
  · obtain ⟨n, hn⟩ := structOf_mem hso
    exact .inr (.inr ⟨h.1, h.2.1, (n, fs), hn, f, hf, h.2.2⟩)
  exact .map_right (hsim.viaKid (k := .field f.id) rfl (by simp [htyp]) (by simp [kindOK, htyp]) hinv fun huniq => by
    simp [stepCur, hso, fieldById_self huniq hso hf, hd', hft'])

theorem addFieldStar_sim {rest2 : Bytes} {fs : List FieldD}
    (hso : sch.structOf d = some fs) (htyp : m.typ = .struct) :
    Res.Sim (Cause cfg sch rest2) (fun x t => Adds sch black d m P (m.isAll = false) x t.expand)
      (addFieldStar sch rec m rest2 d fs) (shFieldStar sch srec rest2 d fs) := by
  unfold addFieldStar shFieldStar
  cases fs with
  | nil => exact .of_err trivial
  | cons f0 fs' =>
    refine .bind_same (liftO_post _) fun ft' _ hft' => .ite_right (fun hinv => ?_) ((hsim.pan _ _ _).bind fun _ _ => trivial)
    exact .map_right (hsim.viaAll (s := .anyField) rfl (by simp [htyp]) hinv (by simp [stepCur, hso, hft'])
      (fun h => by rw [h.reset.1, Mask.setIsAll_eq]) fun h => h rfl)

theorem addField_sim {rest : Bytes} :
    Res.Sim (Cause cfg sch rest) (fun x t => Adds sch black d m P True x t.expand)
      (addField cfg sch rec m rest d) (shField cfg sch srec m.typ rest d) := by
  unfold addField shField
  cases hso : sch.structOf d with
  | none => exact .of_err trivial
  | some fs =>
    refine .ite_same (fun _ => .of_err trivial) fun htyp => ?_
    have htyp : m.typ = .struct := by simpa using htyp
    refine .bind_same ((Res.Post.refl _).mono_panic fun s h => .inl ⟨rest, List.suffix_refl _, h⟩) fun ⟨tok, rest2⟩ hn _ => ?_
    have hs := next_suffix hn
    have hq : m.allQ = m.isAll := Mask.allQ_eq_isAll (by rw [htyp]; decide) (by rw [htyp]; decide)
    refine .ite_same (fun _ => .of_err trivial) fun _ => ?_
    -- the code's extra test `cur.All()` passes because each branch below shows `isAll = false`
    refine Res.Sim.mono (T := fun x t => Adds sch black d m P (m.isAll = false) x t.expand) ?_
      (fun hp => .ite (fun _ => trivial) fun _ => hp) fun A hA => hA.conv fun hia => ⟨trivial, by rw [hq, hia]; rfl⟩
    cases tok with
    | litInt n =>
      refine .bind_same (siteInt32_post.mono_panic fun s h => ?_) fun id _ _ => ?_
      · exact .inr (.inl ⟨h.1, h.2.1, rest, _, rest2, List.suffix_refl _, hn, h.2.2⟩)
      · cases hfb : fieldById fs id with
        | none => exact .of_err trivial
        | some f => exact (addViaField_sim hsim hso (List.mem_of_find?_eq_some hfb) htyp).cause_mono hs
    | litStr name =>
      dsimp only
      cases hfb : fieldByName fs name with
      | none => exact .of_err trivial
      | some f => exact (addViaField_sim hsim hso (List.mem_of_find?_eq_some hfb) htyp).cause_mono hs
    | any => exact (addFieldStar_sim hsim hso htyp).cause_mono hs
    | _ => exact .of_err trivial

theorem addIndex_sim {fuel : Nat} {rest : Bytes} :
    Res.Sim (Cause cfg sch rest) (fun x t => Adds sch black d m P True x t.expand)
      (addIndex cfg sch fuel rec m rest d) (shIndex cfg sch fuel srec m.typ rest d) := by
  unfold addIndex shIndex
  cases d with
  | named n => exact .of_err trivial
  | map k v => exact .of_err trivial
  | list e =>
    refine .ite_same (fun _ => .of_err trivial) fun htyp => .bind_same (liftO_post _) fun et _ het =>
      .bind_same (liftO_post _) fun nextFt _ hnft => .ite_same (fun _ => .of_err trivial) fun hinv => ⟨?_, fun A hA => ?_⟩
    · -- the code's scan starts from `cur.All()`, the specification's from `false`: here the two runs part
      refine ((scanIndex_post _ _ _ _ _ _ true).mono_panic fun _ => .inl).bind fun sc ⟨hs, _⟩ => ?_
      have hrec' := fun m d => (hsim.pan m sc.rest d).cause_mono hs
      refine .ite (fun _ => (hrec' _ _).bind fun _ _ => trivial) fun _ => ?_
      exact forKeys_panic (fun c => (liftO_post _).bind fun _ _ => hrec' _ _) _ _
    have htyp : m.typ = .list := by simpa using htyp
    have htne : m.typ ≠ .invalid := by rw [htyp]; decide
    have hq : m.allQ = m.isAll := Mask.allQ_eq_isAll htne (by rw [htyp]; decide)
    obtain ⟨sc, hsc, hA⟩ := Res.bind_eq_ok.mp hA
    obtain ⟨_, _, hall, hany⟩ := (scanIndex_post _ _ _ _ _ _ m.allQ).of_ok hsc
    have hall : sc.all = sc.star := hall rfl
    cases hstar : sc.star with
    | true =>
      rw [hstar] at hall
      rw [hstar, if_pos rfl] at hA
      obtain ⟨hids, hA⟩ := Res.ite_err_eq_ok.mp hA
      rw [hany (by simpa using hids) hall nofun, Res.ok_bind]
      simp only [hstar, hall, ↓reduceIte]
      obtain ⟨t, ht, hA⟩ := Res.bind_eq_ok.mp hA
      cases hA
      exact (hsim.viaAll (s := .any) rfl htne hinv (by simp [stepCur, het, hnft])
        (fun h => by rw [h.reset.2.1, Mask.setIsAll_eq]) fun _ => trivial).of_ok t ht
    | false =>
      rw [hstar] at hall
      rw [hstar, if_neg Bool.false_ne_true] at hA
      obtain ⟨hids, hA⟩ := Res.ite_err_eq_ok.mp hA
      obtain ⟨et', het', hA⟩ := liftO_bind_eq_ok.mp hA
      obtain ⟨t, ht, hA⟩ := Res.bind_eq_ok.mp hA
      cases hA
      simp only [ATree.expand, List.flatMap_map]
      refine Adds.conv (hsim.viaKeys (fun n => Key.i (Int.ofNat n)) (fun n => PStep.idx (Int.ofNat n)) Mask.ints Mask.setInts
        (fun _ _ => rfl) (fun _ _ _ => rfl) htne hinv het' (by simpa using hids)
        (fun n => ⟨rfl, by simp [stepCur, het, hnft, het'], by simp [kindOK, htyp]⟩) ht) fun hia => ⟨trivial, ?_⟩
      simp only [hq, hia, hsc, Res.ok_bind, hstar, hall, Bool.false_eq_true, ↓reduceIte]

theorem addMap_sim {fuel : Nat} {rest : Bytes} :
    Res.Sim (Cause cfg sch rest) (fun x t => Adds sch black d m P True x t.expand)
      (addMap cfg sch fuel rec m rest d) (shMap cfg sch fuel srec m.typ rest d) := by
  unfold addMap shMap
  cases d with
  | named n => exact .of_err trivial
  | list e => exact .of_err trivial
  | map kt v =>
    refine .ite_same (fun _ => .of_err trivial) fun htyp => .bind_same (liftO_post _) fun et _ het =>
      .bind_same (liftO_post _) fun nextFt _ hnft => .ite_same (fun _ => .of_err trivial) fun hinv => ⟨?_, fun A hA => ?_⟩
    · refine ((scanKeys_post _ _ _ _ _ _ _ true).mono_panic fun _ => .inl).bind fun sc ⟨hs, _⟩ => ?_
      have hrec' := fun m d => (hsim.pan m sc.rest d).cause_mono hs
      refine .ite (fun _ => (hrec' _ _).bind fun _ _ => trivial) fun _ => ?_
      have hadd : ∀ c, (liftO (sch.unwrap et) >>= rec c sc.rest).PanicsIn (Cause cfg sch rest) :=
        fun c => (liftO_post _).bind fun et' _ => hrec' c et'
      exact .ite (fun _ => forKeys_panic hadd _ _) fun _ => .ite (fun _ => forKeys_panic hadd _ _) fun _ => trivial
    have htne : m.typ ≠ .invalid := fun h => htyp (by rw [h]; rfl)
    dsimp only at hA ⊢
    obtain ⟨sc, hsc, hA⟩ := Res.bind_eq_ok.mp hA
    obtain ⟨_, _, _, hall1, hall, hany⟩ := (scanKeys_post _ _ _ _ _ _ _ m.allQ).of_ok hsc
    cases hstar : sc.star with
    | true =>
      rw [hstar, if_pos rfl] at hA
      obtain ⟨hids, hA⟩ := Res.ite_err_eq_ok.mp hA
      have hids : sc.ids = [] ∧ sc.strs = [] := by simpa using hids
      -- `shadow` enters its scan with `all` set on a scalar-typed node, where `cur.All()` holds, and nowhere else
      have hallt : sc.all = true := by
        cases hsca : m.typ == .scalar with
        | true => exact hall1 hsca
        | false => rw [hall hsca, hstar]
      rw [hany hids.1 hids.2 hallt fun h => Mask.allQ_scalar (eq_of_beq h), Res.ok_bind]
      simp only [hstar, hallt, ↓reduceIte]
      obtain ⟨t, ht, hA⟩ := Res.bind_eq_ok.mp hA
      cases hA
      exact (hsim.viaAll (s := .any) rfl htne hinv (by simp [stepCur, het, hnft])
        (fun h => by rw [h.reset.2.1, h.reset.2.2, Mask.setIsAll_eq]) fun _ => trivial).of_ok t ht
    | false =>
      rw [hstar, if_neg Bool.false_ne_true] at hA
      obtain ⟨hsca, hA⟩ := Res.ite_err_eq_ok.mp hA
      obtain ⟨et', het', hA⟩ := liftO_bind_eq_ok.mp hA
      obtain ⟨t, ht, hA⟩ := Res.bind_eq_ok.mp hA
      have hsca : (m.typ == .scalar) = false := by simpa using hsca
      have hq : m.allQ = m.isAll := Mask.allQ_eq_isAll htne (by simpa using hsca)
      rw [hsca] at hsc
      have hall : sc.all = false := by rw [hall hsca, hstar]
      cases hint : m.typ == .intMap with
      | true =>
        rw [hint, if_pos rfl] at hA
        obtain ⟨hids, hA⟩ := Res.ite_err_eq_ok.mp hA
        cases hA
        simp only [ATree.expand, List.flatMap_map]
        refine Adds.conv (hsim.viaKeys (fun n => Key.i (Int.ofNat n)) (fun n => PStep.idx (Int.ofNat n)) Mask.ints
          Mask.setInts (fun _ _ => rfl) (fun _ _ _ => rfl) htne hinv het' (by simpa using hids)
          (fun n => ⟨rfl, by simp [stepCur, het, hnft, het'], by simp [kindOK, eq_of_beq hint]⟩) ht) fun hia => ⟨trivial, ?_⟩
        rw [hint] at hsc
        simp only [hq, hia, hsc, Res.ok_bind, hstar, hall, Bool.false_eq_true, ↓reduceIte]
      | false =>
        cases hstr : m.typ == .strMap with
        | true =>
          rw [hint, if_neg Bool.false_ne_true] at hA
          obtain ⟨hids, hA⟩ := Res.ite_err_eq_ok.mp hA
          cases hA
          simp only [ATree.expand]
          refine Adds.conv (hsim.viaKeys Key.s PStep.key Mask.strs Mask.setStrs (fun _ _ => rfl) (fun _ _ _ => rfl)
            htne hinv het' (by simpa using hids)
            (fun s => ⟨rfl, by simp [stepCur, het, hnft, het'], by simp [kindOK, eq_of_beq hstr]⟩) ht) fun hia => ⟨trivial, ?_⟩
          rw [hint, hstr] at hsc
          simp only [hq, hia, hsc, Res.ok_bind, hstar, hall, Bool.false_eq_true, ↓reduceIte]
        | false => exact absurd (by rw [bne, bne, bne, hint, hstr, hsca]; rfl) htyp

end

theorem addLoop_sim {cfg : Sites} {sch : Schema} {black : Bool} :
    ∀ fuel, RecSim cfg sch black (addLoop cfg sch fuel) (shadow cfg sch fuel) := by
  intro fuel
  induction fuel with
  | zero => exact ⟨fun m p d P => ⟨trivial, nofun⟩⟩
  | succ f ih =>
    refine ⟨fun m p d P => ?_⟩
    rw [addLoop, shadow]
    refine .ite_same (fun hp => .ite_right (fun ht => ⟨trivial, fun A hA => ?_⟩) trivial) fun hp =>
      .bind_same ((Res.Post.refl _).mono_panic fun s h => .inl ⟨p, List.suffix_refl _, h⟩) fun ⟨stok, rest⟩ hn _ => ?_
    · cases hA
      refine ⟨List.cons_ne_nil _ _, fun hm _ hnc => ⟨trivial, _, rfl, endPath_ok cfg hm ht (by simpa [ATree.expand] using hnc), ?_⟩⟩
      rw [ftAfter_of_ne ht]
      cases m
      unfold Mask.endPath
      split <;> rfl
    have hs := next_suffix hn
    cases stok with
    | root =>
      refine .bind_same (liftO_post _) fun ft' _ hft' => .ite_right (fun hcond => ?_) ((ih.pan _ _ _).cause_mono hs)
      -- `$` leaves a typed node as it is and types an untyped one, which is a fresh one
      by_cases hty : m.typ = ft'
      · subst hty
        rw [Mask.setTyp_self]
        exact (ih.sim m rest d P).cause_mono hs
      · have hinv : m.typ = .invalid := Decidable.not_not.mp fun h => hcond ⟨h, hty⟩
        have htyp : (m.setTyp ft').typ = ft' := by cases m; rfl
        have h := (ih.sim (m.setTyp ft') rest d P).cause_mono hs
        rw [htyp] at h
        refine h.mono id fun A hA => ⟨hA.ne, fun hm huniq hnc => ?_⟩
        have hm' : RepF sch black d (m.setTyp ft') P :=
          hm.elim (fun hf => .inl (by cases m; exact hf)) fun hr => absurd hinv hr.typ_ne
        obtain ⟨_, m', h1, h2, h3⟩ := hA.run hm' huniq hnc
        refine ⟨trivial, m', h1, h2, ?_⟩
        rw [h3, htyp, hinv]
        simp [ftAfter, hft']
    | field => exact (addField_sim ih).cause_mono hs
    | indexL => exact (addIndex_sim ih).cause_mono hs
    | mapL => exact (addMap_sim ih).cause_mono hs
    | _ => exact .of_err trivial

theorem addLoop_panic {cfg : Sites} {sch : Schema} (fuel : Nat) (m : Mask) (path : Bytes) (d : Ty) :
    (addLoop cfg sch fuel m path d).PanicsIn (Cause cfg sch path) :=
  (addLoop_sim (black := false) fuel).pan m path d

theorem expandAll_cons (t : ATree) (ts : List ATree) : expandAll (t :: ts) = t.expand ++ expandAll ts := by
  simp [expandAll]

theorem newMask_rep {cfg : Sites} {sch : Schema} {black : Bool} (huniq : sch.uniqueIds = true)
    {desc d : Ty} (hd : sch.unwrap desc = some d) :
    ∀ (paths : List Bytes) (m : Mask) (P : List APath) (ts : List ATree),
      RepF sch black d m P → pathsMeaning cfg sch d m.typ paths = .ok ts →
      (P ++ expandAll ts).Pairwise NC →
      ∃ m', newMask cfg sch desc black paths m = .ok m' ∧ RepF sch black d m' (P ++ expandAll ts) ∧
        (P ++ expandAll ts = [] → m' = m) := by
  intro paths
  induction paths with
  | nil =>
    intro m P ts hm hmean _
    cases hmean
    exact ⟨m, rfl, by simpa [expandAll] using hm, fun _ => rfl⟩
  | cons p ps ih =>
    intro m P ts hm hmean hnc
    rw [pathsMeaning] at hmean
    obtain ⟨t, ht, hmean⟩ := Res.bind_eq_ok.mp hmean
    obtain ⟨ts', hts', hmean⟩ := Res.bind_eq_ok.mp hmean
    cases hmean
    rw [expandAll_cons, ← List.append_assoc] at hnc ⊢
    have hsim := addLoop_sim (cfg := cfg) (sch := sch) (black := black) (p.length + 1)
    obtain ⟨m1, h1, h2, h3⟩ := hsim.ins huniq m p d P t hm ht (List.pairwise_append.mp hnc).1
    obtain ⟨m', h4, h5, _⟩ := ih m1 _ ts' (Or.inr h2) (by rw [h3]; exact hts') hnc
    refine ⟨m', ?_, h5, fun h => ?_⟩
    · simp only [newMask, addPath, hd, liftO, Res.ok_bind, h1]
      exact h4
    · exact absurd (List.append_eq_nil_iff.mp (List.append_eq_nil_iff.mp h).1).2 (hsim.ne ht)

theorem Mask.zero_fresh (black : Bool) : (Mask.zero.setIsBlack black).Fresh black :=
  ⟨rfl, rfl, rfl, rfl, rfl, rfl, rfl, rfl, rfl⟩

theorem newFieldMask_rep {cfg : Sites} {sch : Schema} (huniq : sch.uniqueIds = true) {desc : Ty} (black : Bool)
    {paths : List Bytes} {ts : List ATree} (hmean : meaning cfg sch desc paths = .ok ts)
    (hnc : NoStarConflict (expandAll ts) = true) :
    ∃ m, newFieldMask cfg sch desc black paths = .ok m ∧
      ((expandAll ts = [] ∧ m.typ = .invalid) ∨ ∃ d, Rep sch black d m (expandAll ts)) := by
  unfold meaning at hmean
  rw [liftO_bind_eq_ok] at hmean
  obtain ⟨d, hd, hmean⟩ := hmean
  obtain ⟨m, hm, hrep, hnil⟩ := newMask_rep (cfg := cfg) (black := black) huniq hd paths (Mask.zero.setIsBlack black)
    [] ts (Or.inl ⟨rfl, Mask.zero_fresh black⟩) hmean (by simpa using (NoStarConflict_iff _).mp hnc)
  refine ⟨m, hm, ?_⟩
  rw [List.nil_append] at hrep hnil
  cases hrep with
  | inl hf => exact Or.inl ⟨hf.1, by rw [hnil hf.1]; rfl⟩
  | inr hr => exact Or.inr ⟨d, hr⟩

end FieldMask
