import ThriftVerif.Lib.FieldMaskLemmas.Rep
import ThriftVerif.Lib.FieldMaskLemmas.Tok
/-
  Queries on a trie satisfying `Rep` answer as `Sel` prescribes, by induction on the node: the first query either ends the
  walk with the answer the path set `P` prescribes or leads to a child that represents what is left of `P` behind the step,
  where the walk goes on.
-/
namespace FieldMask

theorem any_congr_mem {α} {l : List α} {f g : α → Bool} (h : ∀ a ∈ l, f a = g a) : l.any f = l.any g := by
  rw [Bool.eq_iff_iff, List.any_eq_true, List.any_eq_true]
  exact ⟨fun ⟨a, ha, e⟩ => ⟨a, ha, h a ha ▸ e⟩, fun ⟨a, ha, e⟩ => ⟨a, ha, (h a ha).symm ▸ e⟩⟩

theorem any_leaf {P : List APath} (f : APath → Bool) (hne : P ≠ []) (hall : ∀ p ∈ P, p = []) :
    P.any f = f [] := by
  obtain ⟨p, hp⟩ := List.exists_mem_of_ne_nil P hne
  rw [Bool.eq_iff_iff, List.any_eq_true]
  exact ⟨fun ⟨q, hq, h⟩ => hall q hq ▸ h, fun h => ⟨p, hp, (hall p hp).symm ▸ h⟩⟩

theorem any_congr_set {α} {l l' : List α} (h : ∀ a, a ∈ l ↔ a ∈ l') (f : α → Bool) : l.any f = l'.any f := by
  rw [Bool.eq_iff_iff, List.any_eq_true, List.any_eq_true]
  exact ⟨fun ⟨a, ha, e⟩ => ⟨a, (h a).mp ha, e⟩, fun ⟨a, ha, e⟩ => ⟨a, (h a).mpr ha, e⟩⟩

theorem walk_none (cfg : Sites) (q : List QStep) : walk cfg .none q = .ok true := by
  induction q with
  | nil => rfl
  | cons s qs ih =>
    simp only [walk, query, bind, ih]
    rfl

/-- `Sel` at a node: the set `P` of suffixes there is never empty, so the white list needs no "empty mask" case -/
def SelN (black : Bool) (P : List APath) (q : List QStep) : Bool :=
  if black then !(P.any (covers · q)) else P.any (compat · q)

theorem SelN_leaf {black} {P : List APath} (hne : P ≠ []) (hall : ∀ p ∈ P, p = []) (s : QStep) (qs : List QStep) :
    SelN black P (s :: qs) = !black := by
  unfold SelN
  rw [any_leaf _ hne hall, any_leaf _ hne hall]
  cases black <;> simp [covers, compat]

theorem any_star {P : List APath} {st : PStep} (hall : ∀ p ∈ P, ∃ t, p = st :: t)
    (f : APath → Bool) (g : APath → Bool) (hfg : ∀ t, f (st :: t) = g t) :
    P.any f = (P.map List.tail).any g := by
  rw [List.any_map]
  refine any_congr_mem fun p hp => ?_
  obtain ⟨t, rfl⟩ := hall p hp
  exact hfg t

theorem SelN_star {black} {P : List APath} {st : PStep} (hs : st.isStar = true) (hall : ∀ p ∈ P, ∃ t, p = st :: t)
    (s : QStep) (qs : List QStep) : SelN black P (s :: qs) = SelN black (P.map List.tail) qs := by
  unfold SelN
  rw [any_star hall (covers · (s :: qs)) (covers · qs) (by intro t; simp [covers, PStep.matchQ, hs])]
  rw [any_star hall (compat · (s :: qs)) (compat · qs) (by intro t; simp [compat, PStep.matchQ, hs])]

theorem any_spec {P : List APath} (hall : ∀ p ∈ P, ∃ k t, p = k :: t ∧ k.isStar = false) (k0 : PStep)
    (f : APath → Bool) (g : APath → Bool) (hfg : ∀ k t, k.isStar = false → f (k :: t) = (k == k0 && g t)) :
    P.any f = (tailsOf k0 P).any g := by
  unfold tailsOf
  rw [List.any_filterMap]
  refine any_congr_mem fun p hp => ?_
  obtain ⟨k, t, rfl, hk⟩ := hall p hp
  rw [hfg k t hk]
  by_cases hkk : k = k0 <;> simp [hkk]

theorem SelN_spec {black} {P : List APath} (hall : ∀ p ∈ P, ∃ k t, p = k :: t ∧ k.isStar = false)
    (s : QStep) (qs : List QStep) : SelN black P (s :: qs) = SelN black (tailsOf s.toP P) qs := by
  unfold SelN
  rw [any_spec hall s.toP (covers · (s :: qs)) (covers · qs) (by intro k t hk; simp [covers, PStep.matchQ, hk])]
  rw [any_spec hall s.toP (compat · (s :: qs)) (compat · qs) (by intro k t hk; simp [compat, PStep.matchQ, hk])]

theorem Rep.hasChild_iff {sch black d m P} (h : Rep sch black d m P) :
    m.hasChild = !(P.any List.isEmpty) := by
  cases h with
  | leaf ht hb hne hall hia hal hnk =>
    obtain ⟨_, _, _, h4, h5, h6⟩ := hnk
    have : P.any List.isEmpty = true := any_leaf _ hne hall
    simp [Mask.hasChild_def, hal, h4, h5, h6, this]
  | star s a cu ht hb hne hs hall hia hal hnk hcu hat hr =>
    have : P.any List.isEmpty = false :=
      List.any_eq_false.mpr fun p hp => by obtain ⟨t, rfl⟩ := hall p hp; simp
    simp [Mask.hasChild_def, hal, this, ht]
  | spec ht hb hne hall hia hhc hfd hkind hnd hno hyes hrec =>
    have : P.any List.isEmpty = false :=
      List.any_eq_false.mpr fun p hp => by obtain ⟨k, t, rfl, _⟩ := hall p hp; simp
    simp [hhc, this]

/-- on the empty query: the answer `query` gives for the child it hands back (`!black || c.hasChild`), read on the child's
path set by `Rep.hasChild_iff` -/
theorem SelN_nil {black : Bool} {P : List APath} (hne : P ≠ []) : SelN black P [] = (!black || !(P.any List.isEmpty)) := by
  unfold SelN
  cases black with
  | true =>
    rw [if_pos rfl, List.any_congr rfl (q := List.isEmpty) fun (p : APath) => by cases p <;> rfl]
    rfl
  | false =>
    cases P with
    | nil => exact absurd rfl hne
    | cons p P' => cases p <;> simp [compat]

theorem NoTerminalStar_tailsOf {P : List APath} {k : PStep} (h : NoTerminalStar P = true) : NoTerminalStar (tailsOf k P) = true := by
  unfold NoTerminalStar at *
  rw [List.all_eq_true] at *
  intro t ht
  have := h _ (mem_tailsOf.mp ht)
  cases t with
  | nil => simp
  | cons a t' => simpa [List.getLast?_cons_cons] using this

theorem NoTerminalStar_tails_star {P : List APath} {st : PStep} (hs : st.isStar = true)
    (hall : ∀ p ∈ P, ∃ t, p = st :: t) (h : NoTerminalStar P = true) :
    NoTerminalStar (P.map List.tail) = true ∧ (P.map List.tail).any List.isEmpty = false := by
  refine ⟨AllStar.map_tail hall ▸ NoTerminalStar_tailsOf h, List.any_eq_false.mpr fun t ht => ?_⟩
  obtain ⟨p, hp, rfl⟩ := List.mem_map.mp ht
  obtain ⟨t, rfl⟩ := hall p hp
  have := List.all_eq_true.mp h _ hp
  cases t with
  | nil => simp [hs] at this
  | cons a t' => exact Bool.false_ne_true

theorem QStep.toP_not_star (s : QStep) : s.toP.isStar = false := by cases s <;> rfl

theorem siteHead_ok {cfg : Sites} {f : Int} {u : Unit} (h : siteHead cfg f = .ok u) : True := trivial

theorem fdGet_post {cfg : Sites} {m : Mask} {i : Int} :
    (fdGet cfg m i).Post False (fun s => (s = .headNeg ∧ cfg.headNeg = true ∧ i < 0) ∨
      (s = .fieldNilFd ∧ cfg.fieldNilFd = true))
      fun fm => (m.fdA = true ∨ m.fd = .nil) → fm = m.fd.getExist (.i i) := by
  -- cases of fdGet: nil map, unguarded; nil map, guarded; a map
  fun_cases fdGet cfg m i with
  | case1 _ hc => exact (siteHead_post.mono_panic fun _ => .inl).bind fun _ _ => .inr ⟨rfl, hc⟩
  | case2 hfa _ =>
    intro hfd
    rcases hfd with h | h
    · rw [h] at hfa
      cases hfa
    · rw [h]
      rfl
  | case3 => exact (siteHead_post.mono_panic fun _ => .inl).bind fun _ _ _ => rfl

namespace Mask

theorem passAll_none {cfg : Sites} {m : Mask} (hal : m.all = .none) (hnk : m.NoKids) : m.passAll cfg = false := by
  obtain ⟨_, _, _, h4, h5, h6⟩ := hnk
  unfold passAll
  cases cfg.blackStar <;> simp [hasChild_def, hal, h4, h5, h6]

/-- while `blackStar` is set `passAll` looks at the node itself, which has the child `all` -/
theorem passAll_some {cfg : Sites} {m a : Mask} (ht : m.typ ≠ .invalid) (hal : m.all = .some a) :
    m.passAll cfg = (cfg.blackStar || a.hasChild) := by
  unfold passAll
  cases cfg.blackStar with
  | false => rw [hal]; rfl
  | true => rw [if_pos rfl, hasChild_def, hal, bne_iff_ne.mpr ht]; rfl

theorem ret_some (m c : Mask) : m.ret (.some c) = (.some c, !m.isBlack || c.hasChild) := by
  unfold ret
  cases m.isBlack <;> rfl

theorem ret_none (m : Mask) : m.ret .none = (.none, m.isBlack) := by
  unfold ret
  cases m.isBlack <;> rfl

end Mask

theorem query_all {cfg : Sites} {m : Mask} (ht : m.typ ≠ .invalid) (hia : m.isAll = true) (q : QStep) :
    query cfg (.some m) q = .ok (m.all, !m.isBlack || m.passAll cfg) := by
  simp only [query, ht, hia, ↓reduceIte]

theorem query_post {cfg : Sites} {cur : MaskOpt} {q : QStep} :
    (query cfg cur q).Post False (fun s => ∃ id, q = .field id ∧ ((s = .headNeg ∧ cfg.headNeg = true ∧ id < 0) ∨
      (s = .fieldNilFd ∧ cfg.fieldNilFd = true)))
      fun r => ∀ m, cur = .some m → m.typ ≠ .invalid → m.isAll = false → (m.fdA = true ∨ m.fd = .nil) →
        r = m.ret (match m.kid q.toP with | .some c => if c.typ != .invalid then .some c else .none | .none => .none) := by
  -- cases of query: nil receiver; untyped node; "all" node; Field; Int; Str
  fun_cases query cfg cur q with
  | case1 => exact nofun
  | case2 q m ht =>
    intro _ e hne
    cases e
    exact absurd ht hne
  | case3 q m _ hia =>
    intro _ e _ hf
    cases e
    rw [hia] at hf
    cases hf
  | case4 =>
    refine (fdGet_post.mono_panic fun s h => ⟨_, rfl, h⟩).bind fun fm hfm _ e _ _ hfd => ?_
    cases e
    rw [hfm hfd]
    rfl
  | case5 | case6 =>
    intro _ e _ _ _
    cases e
    rfl

theorem query_safe {cfg : Sites} {cur : MaskOpt} {q : QStep} {C} : (query cfg cur q).Post C cfg.On fun _ => True :=
  query_post.mono False.elim (fun s ⟨_, _, h⟩ => by rcases h with ⟨rfl, h, _⟩ | ⟨rfl, h⟩ <;> exact h) fun _ _ => trivial

theorem SelN_of_gate_false {black : Bool} {P : List APath} (h : (!black || !(P.any List.isEmpty)) = false)
    (qs : List QStep) : SelN black P qs = false := by
  cases black with
  | false => cases h
  | true =>
    -- a path that ends here covers every query
    have : P.any (covers · qs) = true := List.any_eq_true.mpr ⟨[], by simpa using h, rfl⟩
    simp [SelN, this]

/-- the black list goes on below `c` iff `c` has children: it stops with `false` at a child where a path ends -/
theorem walk_descend {cfg : Sites} {sch : Schema} {black : Bool} {d : Ty} {c : Mask} {P' : List APath}
    {qs : List QStep}
    (ih : qs ≠ [] → (walk cfg (.some c) qs).Post True (fun _ => True) fun b => b = SelN black P' qs)
    (hr : Rep sch black d c P') :
    (if (!black || c.hasChild) = true then walk cfg (.some c) qs else .ok false).Post True (fun _ => True)
      fun b => b = SelN black P' qs := by
  rw [hr.hasChild_iff]
  cases hg : (!black || !(P'.any List.isEmpty)) with
  | false => exact (SelN_of_gate_false hg qs).symm
  | true =>
    rw [if_pos rfl]
    cases qs with
    | nil => exact ((SelN_nil hr.ne_nil).trans hg).symm
    | cons s qs' => exact ih (List.cons_ne_nil _ _)

theorem walk_rep {cfg : Sites} {sch : Schema} {black : Bool} {d : Ty} {m : Mask} {P : List APath}
    (hrep : Rep sch black d m P) : ∀ {q : List QStep},
      (black = true → cfg.blackStar = true → NoTerminalStar P = true) → q ≠ [] →
      (walk cfg (.some m) q).Post True (fun _ => True) fun b => b = SelN black P q := by
  induction hrep with
  | leaf ht hb hne hall hia hal hnk =>
    intro q _ hq
    obtain ⟨s, qs, rfl⟩ := List.exists_cons_of_ne_nil hq
    simp only [walk, query_all ht hia, Res.ok_bind]
    rw [Mask.passAll_none hal hnk, hal, hb, Bool.or_false, walk_none, SelN_leaf hne hall]
    cases black <;> rfl
  | @star d m P st a cu ht hb hne hs hall hia hal hnk hcu hat hr ih =>
    intro q hnts hq
    obtain ⟨s, qs, rfl⟩ := List.exists_cons_of_ne_nil hq
    have hok : (!m.isBlack || m.passAll cfg) = (!black || a.hasChild) := by
      rw [hb, Mask.passAll_some ht hal]
      cases hbk : black with
      | false => rfl
      | true =>
        cases hbs : cfg.blackStar with
        | false => rfl
        | true =>
          -- without a final '*' some path goes on below the `all` child
          rw [hr.hasChild_iff, (NoTerminalStar_tails_star hs hall (hnts hbk hbs)).2]
          rfl
    rw [walk, query_all ht hia, Res.ok_bind, hok, hal, SelN_star hs hall]
    exact walk_descend (ih fun hbk hbs => (NoTerminalStar_tails_star hs hall (hnts hbk hbs)).1) hr
  | @spec d m P ht hb hne hall hia hhc hfd hkind hnd hno hyes hrec ih =>
    intro q hnts hq
    obtain ⟨s, qs, rfl⟩ := List.exists_cons_of_ne_nil hq
    have hks := QStep.toP_not_star s
    rw [walk, SelN_spec hall]
    refine .bind_of (fun _ => trivial) (fun _ _ => trivial) fun ⟨nxt, ok⟩ hq => ?_
    have hr := query_post.of_ok hq m rfl ht hia hfd
    by_cases htl : tailsOf s.toP P = []
    · -- no child under the step: the black list passes everything below, the white list nothing
      rw [hno _ hks htl, Mask.ret_none, hb] at hr
      cases hr
      rw [htl]
      cases black
      · rfl
      · show (walk cfg .none qs).Post _ _ _
        rw [walk_none]
        rfl
    · obtain ⟨c, cu, hkid, hcu, hct⟩ := hyes _ hks htl
      have hrc := hrec _ c cu hkid hcu htl
      have hcne : (c.typ != .invalid) = true := by simp [hrc.typ_ne]
      rw [hkid] at hr
      simp only [hcne, ↓reduceIte] at hr
      rw [Mask.ret_some, hb] at hr
      cases hr
      exact walk_descend (ih _ c cu hkid hcu htl fun hbk hbs => NoTerminalStar_tailsOf (hnts hbk hbs)) hrc

theorem Sel_eq_SelN {black : Bool} {P : List APath} (h : P ≠ []) (q : List QStep) : Sel black P q = SelN black P q := by
  unfold Sel SelN
  cases black with
  | true => rfl
  | false =>
    cases P with
    | nil => exact absurd rfl h
    | cons p P' => simp

theorem Sel_congr {black : Bool} {L L' : List APath} (h : ∀ p, p ∈ L ↔ p ∈ L') (q : List QStep) :
    Sel black L q = Sel black L' q := by
  -- emptiness, too, is a question about members
  have hemp : ∀ l : List APath, l.isEmpty = !l.any fun _ => true := fun l => by cases l <;> rfl
  unfold Sel
  rw [hemp L, hemp L', any_congr_set h, any_congr_set h, any_congr_set h]

theorem walk_untyped {cfg : Sites} {m : Mask} (h : m.typ = .invalid) (q : List QStep) :
    walk cfg (.some m) q = .ok true := by
  cases q with
  | nil => rfl
  | cons s qs =>
    simp only [walk, query, h, ↓reduceIte, Res.ok_bind, walk_none]

theorem walk_rep_sel {cfg : Sites} {sch : Schema} {black : Bool} {d : Ty} {m : Mask} {P : List APath} {q : List QStep}
    {b : Bool} (hr : Rep sch black d m P) (hnts : black = true → cfg.blackStar = true → NoTerminalStar P = true)
    (hq : q ≠ []) (hw : walk cfg (.some m) q = .ok b) : b = Sel black P q := by
  rw [Sel_eq_SelN hr.ne_nil]
  exact (walk_rep hr hnts hq).of_ok hw

end FieldMask
