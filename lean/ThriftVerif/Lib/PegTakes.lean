import ThriftVerif.Lib.PegMono
/-
  `Takes` / `Fails`: what the matcher answers on an expression and a remaining input, at every position and whatever
  tree it builds.  The end position is left out because the two inputs determine it (`Runs.pos_eq`), so the rules
  compose by transitivity on the remaining input: a derivation carries no position arithmetic and no tree.
  `Takes.runs` leads back to a `Runs` statement at a position.  `Cls`: the one-character expressions with the class each
  stands for, so that a loop over one is read off the grammar.
-/
namespace Peg
variable {g : Grammar}

theorem Runs.pos_eq {e : Expr} {pos p' : Nat} {s s' : List Nat} {t : T} (h : Runs g e pos s (.ok p' s' t)) :
    p' + s'.length = pos + s.length :=
  (h.ok.consumes (nulSound_nil g)).2.1

def Takes (g : Grammar) (e : Expr) (s s' : List Nat) : Prop := ∀ pos, ∃ p' t, Runs g e pos s (.ok p' s' t)

def Fails (g : Grammar) (e : Expr) (s : List Nat) : Prop := ∀ pos, Runs g e pos s .fail

theorem Takes.runs {e : Expr} {w rest : List Nat} (h : Takes g e (w ++ rest) rest) (pos : Nat) :
    ∃ t, Runs g e pos (w ++ rest) (.ok (pos + w.length) rest t) := by
  obtain ⟨p', t, hr⟩ := h pos
  have := hr.pos_eq
  rw [List.length_append] at this
  obtain rfl : p' = pos + w.length := by omega
  exact ⟨t, hr⟩

namespace Takes
variable {e a b : Expr} {s s1 s2 r : List Nat} {c : Nat}

theorem any : Takes g .any (c :: r) r := fun _ => ⟨_, _, .any_ok⟩
theorem call {i : Nat} (hb : g.rules[i]? = some e) (h : Takes g e s s1) : Takes g (.call i) s s1 :=
  fun pos => let ⟨_, _, h1⟩ := h pos; ⟨_, _, .call_ok hb h1⟩
theorem seq (ha : Takes g a s s1) (hb : Takes g b s1 s2) : Takes g (.seq a b) s s2 :=
  fun pos => let ⟨p1, _, h1⟩ := ha pos; let ⟨_, _, h2⟩ := hb p1; ⟨_, _, .seq_ok h1 h2⟩
theorem alt_l (ha : Takes g a s s1) : Takes g (.alt a b) s s1 :=
  fun pos => let ⟨_, _, h1⟩ := ha pos; ⟨_, _, .alt_l h1⟩
theorem alt_r (ha : Fails g a s) (hb : Takes g b s s1) : Takes g (.alt a b) s s1 :=
  fun pos => let ⟨_, _, h1⟩ := hb pos; ⟨_, _, .alt_r (ha pos) h1⟩
theorem star_nil (he : Fails g e s) : Takes g (.star e) s s := fun pos => ⟨_, _, .star_nil (he pos)⟩
theorem star_cons (he : Takes g e s s1) (hs : Takes g (.star e) s1 s2) : Takes g (.star e) s s2 :=
  fun pos => let ⟨p1, _, h1⟩ := he pos; let ⟨_, _, h2⟩ := hs p1; ⟨_, _, .star_cons h1 h2⟩
theorem plus (he : Takes g e s s1) (hs : Takes g (.star e) s1 s2) : Takes g (.plus e) s s2 :=
  fun pos => let ⟨p1, _, h1⟩ := he pos; let ⟨_, _, h2⟩ := hs p1; ⟨_, _, .plus_ok h1 h2⟩
theorem not (he : Fails g e s) : Takes g (.notP e) s s := fun pos => ⟨_, _, .not_ok (he pos)⟩

theorem star_while {rest : List Nat} (P : List Nat → Prop) (htl : ∀ c r, P (c :: r) → P r)
    (hstep : ∀ c r, P (c :: r) → Takes g e (c :: r ++ rest) (r ++ rest)) (hstop : Fails g e rest) :
    ∀ body, P body → Takes g (.star e) (body ++ rest) rest
  | [], _ => star_nil hstop
  | c :: r, h => star_cons (hstep c r h) (star_while P htl hstep hstop r (htl c r h))

end Takes

namespace Fails
variable {e a b : Expr} {s s1 : List Nat}

theorem any_nil : Fails g .any [] := fun _ => .any_nil
theorem call {i : Nat} (hb : g.rules[i]? = some e) (h : Fails g e s) : Fails g (.call i) s := fun pos => .call_fail hb (h pos)
theorem seq1 (ha : Fails g a s) : Fails g (.seq a b) s := fun pos => .seq_fail1 (ha pos)
theorem seq2 (ha : Takes g a s s1) (hb : Fails g b s1) : Fails g (.seq a b) s :=
  fun pos => let ⟨p1, _, h1⟩ := ha pos; .seq_fail2 h1 (hb p1)
theorem alt (ha : Fails g a s) (hb : Fails g b s) : Fails g (.alt a b) s := fun pos => .alt_r (ha pos) (hb pos)
theorem plus (he : Fails g e s) : Fails g (.plus e) s := fun pos => .plus_fail (he pos)
theorem not (he : Takes g e s s1) : Fails g (.notP e) s := fun pos => let ⟨_, _, h1⟩ := he pos; .not_fail h1

end Fails

/-- `e` is a one-character expression for the class `P`: what the generator prints for `[…]`, a quoted character, a rule of
such, or `!e .`. -/
structure Cls (g : Grammar) (e : Expr) (P : Nat → Prop) : Prop where
  ok : ∀ {c r}, P c → Takes g e (c :: r) r
  no : ∀ {c r}, ¬ P c → Fails g e (c :: r)
  nil : Fails g e []

namespace Cls
variable {e a b : Expr} {P Q : Nat → Prop}

theorem rng {lo hi : Nat} : Cls g (.rng lo hi) (fun c => lo ≤ c ∧ c ≤ hi) :=
  ⟨fun h _ => ⟨_, _, .rng_ok h⟩, fun h _ => .rng_fail h, fun _ => .rng_nil⟩

theorem congr (h : Cls g e P) (hpq : ∀ c, Q c ↔ P c) : Cls g e Q :=
  ⟨fun hc => h.ok ((hpq _).mp hc), fun hc => h.no fun hp => hc ((hpq _).mpr hp), h.nil⟩

theorem chr {k : Nat} : Cls g (.rng k k) (· = k) :=
  rng.congr fun _ => ⟨fun h => h ▸ ⟨Nat.le_refl _, Nat.le_refl _⟩, fun h => Nat.le_antisymm h.2 h.1⟩

theorem call {i : Nat} (hb : g.rules[i]? = some e) (h : Cls g e P) : Cls g (.call i) P :=
  ⟨fun hc => .call hb (h.ok hc), fun hc => .call hb (h.no hc), .call hb h.nil⟩

theorem alt [DecidablePred P] (ha : Cls g a P) (hb : Cls g b Q) : Cls g (.alt a b) (fun c => P c ∨ Q c) where
  ok {c _} h := if hp : P c then .alt_l (ha.ok hp) else .alt_r (ha.no hp) (hb.ok (h.resolve_left hp))
  no h := .alt (ha.no fun hp => h (.inl hp)) (hb.no fun hq => h (.inr hq))
  nil := .alt ha.nil hb.nil

theorem anyBut [DecidablePred P] (h : Cls g e P) : Cls g (.seq (.notP e) .any) (fun c => ¬ P c) where
  ok hc := .seq (.not (h.no hc)) .any
  no hc := .seq1 (.not (h.ok (Decidable.not_not.mp hc)))
  nil := .seq2 (.not h.nil) .any_nil

theorem star {rest : List Nat} (h : Cls g e P) (hstop : Fails g e rest) (body : List Nat) (hb : ∀ c ∈ body, P c) :
    Takes g (.star e) (body ++ rest) rest :=
  Takes.star_while (∀ c ∈ ·, P c) (fun _ _ hb => (List.forall_mem_cons.mp hb).2)
    (fun _ _ hb => h.ok (List.forall_mem_cons.mp hb).1) hstop body hb

end Cls
end Peg
