import ThriftVerif.Lib.WalkerSafe
/-
  Layout at the walker level: a ListSeparator node is invisible to the seven loops of parser.go below (`docLoop` rejects one,
  `enumValueAt` looks for one), a Skip or SkipLine node to `fieldLoop` and `docLoop`. The `_sep` proofs are `simp` with the generated
  id equations: ListSeparator's id differs from every id the loop tests.
-/
namespace Walker
open Peg Generated.C03

variable (buf : Array Nat) (fuel : Nat) {r b e : Nat} {up next : T}

theorem annLoop_sep (acc : Anns) :
    annLoop ids buf acc (.node ids.rListSeparator b e up next) = annLoop ids buf acc next := by
  simp [annLoop]

theorem fieldLoop_sep (f : Field) :
    fieldLoop ids buf fuel f (.node ids.rListSeparator b e up next) = fieldLoop ids buf fuel f next := by
  rw [fieldLoop.eq_def]
  simp

theorem fieldsLoop_sep (post : Field → Field) (acc : List Field) :
    fieldsLoop ids buf fuel post acc (.node ids.rListSeparator b e up next) = fieldsLoop ids buf fuel post acc next := by
  rw [fieldsLoop.eq_def]
  simp

theorem functionLoop_sep (f : Function) :
    functionLoop ids buf fuel f (.node ids.rListSeparator b e up next) = functionLoop ids buf fuel f next := by
  rw [functionLoop.eq_def]
  simp

theorem functionsLoop_sep (acc : List Function) :
    functionsLoop ids buf fuel acc (.node ids.rListSeparator b e up next) = functionsLoop ids buf fuel acc next := by
  rw [functionsLoop.eq_def]
  simp

theorem constListLoop_sep :
    constListLoop ids buf (fuel + 1) (.node ids.rListSeparator b e up next) = constListLoop ids buf fuel next := by
  simp [constListLoop]

theorem constMapLoop_sep :
    constMapLoop ids buf (fuel + 1) (.node ids.rListSeparator b e up next) = constMapLoop ids buf fuel next := by
  simp [constMapLoop]

variable (h : r = ids.rSkip ∨ r = ids.rSkipLine)
include h

theorem fieldLoop_skip (f : Field) : fieldLoop ids buf fuel f (.node r b e up next) = fieldLoop ids buf fuel f next := by
  rw [fieldLoop.eq_def]
  exact if_pos h

theorem docLoop_skip (t : Thrift) : docLoop ids buf fuel t (.node r b e up next) = docLoop ids buf fuel t next := by
  rw [docLoop.eq_def]
  exact if_pos h

end Walker
