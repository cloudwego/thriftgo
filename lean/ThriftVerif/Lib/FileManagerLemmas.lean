import ThriftVerif.Lib.FileManager
import ThriftVerif.Core.Assoc
/- Lemmas about generator/file_manager.go as modelled in Lib/FileManager.lean, for Props/C12.lean, in three independent
parts: the names Feed derives are injective in (name, k); a round of FileLoop keeps the invariant `Inv` of the manager
state; the insertion-point replacer renders the scanned content. -/
namespace FileManager

theorem decF_fuel : ∀ (f g n : Nat), n < f → n < g → decF f n = decF g n := by
  intro f
  induction f with
  | zero => intro g n h; omega
  | succ f ih =>
    intro g n h1 h2
    cases g with
    | zero => omega
    | succ g =>
      unfold decF
      by_cases h : n < 10
      · simp [h]
      · simp only [h, if_false]
        rw [ih g (n / 10) (by omega) (by omega)]

theorem dec_rec (n : Nat) : dec n = if n < 10 then [48 + n] else dec (n / 10) ++ [48 + n % 10] := by
  unfold dec
  rw [decF]
  by_cases h : n < 10
  · simp [h]
  · simp only [h, if_false]
    rw [decF_fuel n (n / 10 + 1) (n / 10) (by omega) (by omega)]

theorem dec_digits (n : Nat) : ∀ c ∈ dec n, 48 ≤ c ∧ c ≤ 57 := by
  induction n using Nat.strongRecOn with
  | _ n ih =>
    intro c hc
    rw [dec_rec] at hc
    by_cases h : n < 10
    · simp [h] at hc; omega
    · simp only [h, if_false, List.mem_append, List.mem_singleton] at hc
      rcases hc with hc | hc
      · exact ih (n / 10) (by omega) c hc
      · omega

theorem dec_foldl (n : Nat) : (dec n).foldl (fun a c => a * 10 + (c - 48)) 0 = n := by
  induction n using Nat.strongRecOn with
  | _ n ih =>
    rw [dec_rec]
    by_cases h : n < 10
    · simp [h]
    · simp only [h, if_false, List.foldl_append, List.foldl_cons, List.foldl_nil, ih (n / 10) (by omega),
        Nat.add_sub_cancel_left, Nat.div_add_mod']

theorem dec_inj (n m : Nat) (h : dec n = dec m) : n = m := by
  have := congrArg (List.foldl (fun a c => a * 10 + (c - 48)) 0) h
  rwa [dec_foldl, dec_foldl] at this

def IsSep (x : Nat) : Prop := x = 46 ∨ x = 47

theorem revdec_not_sep (k : Nat) : ∀ x ∈ (dec k).reverse, ¬ IsSep x := by
  intro x hx hs
  have := dec_digits k x (List.mem_reverse.mp hx)
  rcases hs with hs | hs <;> omega

theorem revdec_not_us (k : Nat) : ∀ x ∈ (dec k).reverse, (x != 95) = true := by
  intro x hx
  have := dec_digits k x (List.mem_reverse.mp hx)
  exact bne_iff_ne.2 (by omega)

theorem tail_unique (k j : Nat) (p q : Bytes) (h : (dec k).reverse ++ 95 :: p = (dec j).reverse ++ 95 :: q) :
    k = j ∧ p = q := by
  obtain ⟨e1, e3⟩ := List.append_cons_inj_of_all (· != 95) (revdec_not_us k) (revdec_not_us j) rfl rfl h
  exact ⟨dec_inj _ _ (List.reverse_inj.mp e1), e3⟩

theorem extRev_append {t : Bytes} (ht : ∀ x ∈ t, ¬ IsSep x) (r : Bytes) :
    extRev (t ++ r) = (extRev r).map fun ep => (t ++ ep.1, ep.2) := by
  induction t with
  | nil => cases h : extRev r <;> simp [h]
  | cons c t ih =>
    obtain ⟨hc, ht⟩ := List.forall_mem_cons.1 ht
    have h1 : c ≠ 46 := fun e => hc (.inl e)
    have h2 : c ≠ 47 := fun e => hc (.inr e)
    rw [List.cons_append, extRev, if_neg h1, if_neg h2, ih ht]
    cases extRev r <;> rfl

theorem extRev_some {rn e p : Bytes} (h : extRev rn = some (e, p)) : rn = e ++ p ∧ ∀ q, extRev (e ++ q) = some (e, q) := by
  -- cases: empty | '.' | '/' | another byte with an extension behind it | … with none
  fun_induction extRev rn generalizing e with
  | case1 => cases h
  | case2 r => cases h; exact ⟨rfl, fun q => rfl⟩
  | case3 r => cases h
  | case4 c r h1 h2 e' p' hr ih =>
    cases h
    obtain ⟨e1, e2⟩ := ih hr
    exact ⟨congrArg (c :: ·) e1, fun q => by rw [List.cons_append, extRev, if_neg h1, if_neg h2, e2]⟩
  | case5 c r h1 h2 hr => cases h

/-- `filepath.Ext(name_k) = filepath.Ext(name)`: digits and '_' are no separators -/
theorem extRev_sibRev (rn : Bytes) (k : Nat) :
    extRev (sibRev rn k) = (extRev rn).map fun ep => (ep.1, (dec k).reverse ++ 95 :: ep.2) := by
  unfold sibRev
  cases h : extRev rn with
  | none =>
    have h95 : extRev (95 :: rn) = none := by simp [extRev, h]
    rw [extRev_append (revdec_not_sep k), h95]; rfl
  | some ep =>
    simp only [List.append_assoc, Option.map_some]
    exact (extRev_some h).2 _

theorem sibRev_inj (a b : Bytes) (k j : Nat) (h : sibRev a k = sibRev b j) : a = b ∧ k = j := by
  -- equal derived names have equal extensions, so `a` and `b` have the same, or both none
  have he := congrArg extRev h
  rw [extRev_sibRev, extRev_sibRev] at he
  unfold sibRev at h
  cases ha : extRev a with
  | none =>
    cases hb : extRev b with
    | none =>
      rw [ha, hb] at h
      exact (tail_unique k j a b h).symm
    | some _ => rw [ha, hb] at he; cases he
  | some ea =>
    cases hb : extRev b with
    | none => rw [ha, hb] at he; cases he
    | some eb =>
      rw [ha, hb] at he
      obtain ⟨e1, e2⟩ := Prod.mk.inj (Option.some.inj he)
      obtain ⟨ek, ep⟩ := tail_unique k j _ _ e2
      have e1 : ea.1 = eb.1 := e1
      exact ⟨by rw [(extRev_some ha).1, (extRev_some hb).1, e1, ep], ek⟩

theorem sib_inj (a b : Bytes) (k j : Nat) (h : sib a k = sib b j) : a = b ∧ k = j := by
  unfold sib at h
  obtain ⟨e1, e2⟩ := sibRev_inj _ _ _ _ (List.reverse_inj.mp h)
  exact ⟨List.reverse_inj.mp e1, e2⟩

theorem sib_ne_nil (name : Bytes) (k : Nat) : sib name k ≠ [] := by
  unfold sib sibRev
  split <;> simp

def renameSt (st : St) (name renamed content : Bytes) : St :=
  { addFile st renamed content with count := upd st.count name (st.count name + 1) }

/-- the positions in `files` that `probe` visits -/
def chain (st : St) (name : Bytes) : Nat → Nat → Nat → List Nat
  | 0, _, _ => []
  | fuel + 1, idx, cnt =>
    idx :: match st.index (sib name cnt) with
      | none => []
      | some next => chain st name fuel next (cnt + 1)

def siblings (st : St) (name : Bytes) (idx : Nat) : List Nat := chain st name (st.files.length + 1) idx 1

def contentAt (st : St) (i : Nat) : Option Bytes := (st.files[i]?).map (·.2)

theorem feedLoop_skip_unnamed (ups rest : List Item) (hu : ∀ u ∈ ups, u.name = none) (st : St) (last : Bytes) :
    feedLoop st last true (ups ++ rest) = feedLoop st last true rest := by
  induction ups with
  | nil => rfl
  | cons u us ih =>
    rw [List.cons_append, feedLoop, hu u List.mem_cons_self]
    exact ih fun x hx => hu x (List.mem_cons_of_mem _ hx)

theorem feedAll_append (a b : List (List Item)) : ∀ st : St,
    feedAll st (a ++ b) = feedAll (feedAll st a) b := by
  induction a with
  | nil => intro st; rfl
  | cons c cs ih => intro st; simp [feedAll, ih]

theorem eq_append_of_prefix {α : Type} {l l' : List α} (h : l <+: l') : ∃ ex, l' = l ++ ex :=
  let ⟨ex, e⟩ := h
  ⟨ex, e.symm⟩

def Grows (st st' : St) : Prop := st.files <+: st'.files ∧ ∀ n, st.patch n <+: st'.patch n

theorem Grows.refl (st : St) : Grows st st := ⟨List.prefix_refl _, fun _ => List.prefix_refl _⟩

theorem Grows.trans {a b c : St} (h : Grows a b) (h' : Grows b c) : Grows a c :=
  ⟨h.1.trans h'.1, fun n => (h.2 n).trans (h'.2 n)⟩

theorem addPatch_grows (st : St) (t : Bytes) (f : Item) : Grows st (addPatch st t f) := by
  refine ⟨List.prefix_refl _, fun n => ?_⟩
  unfold addPatch upd
  by_cases h : n = t
  · subst h; simp
  · simp [h]

theorem addFile_grows (st : St) (name content : Bytes) : Grows st (addFile st name content) :=
  ⟨List.prefix_append _ _, fun _ => List.prefix_refl _⟩

/- The cases of `feedLoop`, as `fun_induction` numbers them. 1: no item left. An unnamed item: 2 while skipping, 3 without a target
(outcome `err`), 4 as a patch of `last`. 5: a new name. A known name: 6 with an insertion point; without one 7 a duplicate, 8 panic,
9 hang, 10 stored under a fresh name. -/

theorem feedLoop_grows (items : List Item) (st : St) (last : Bytes) (skip : Bool) : Grows st (feedLoop st last skip items).1 := by
  fun_induction feedLoop st last skip items with
  | case1 | case3 | case8 | case9 => exact .refl _
  | case2 st last f rest hn ih | case7 st last skip f rest name hn idx hi hip hp ih => exact ih
  | case4 st last skip f rest hn hs hl ih => exact (addPatch_grows st last f).trans ih
  | case6 st last skip f rest name hn idx hi hip ih => exact (addPatch_grows st name f).trans ih
  | case5 st last skip f rest name hn hi ih => exact (addFile_grows st name f.content).trans ih
  | case10 st last skip f rest name hn idx hi hip r hp ih => exact (addFile_grows st r f.content).trans ih

theorem feedAll_files_prefix (calls : List (List Item)) : ∀ st : St, st.files <+: (feedAll st calls).files := by
  induction calls with
  | nil => intro st; exact List.prefix_refl _
  | cons c cs ih => intro st; exact (feedLoop_grows c st [] false).1.trans (ih _)

theorem probe_fresh_spec {st : St} {name content : Bytes} {fuel idx cnt : Nat} {r : Bytes}
    (h : probe st name content fuel idx cnt = .fresh r) :
    ∃ k, cnt ≤ k ∧ r = sib name k ∧ st.index r = none ∧ ∀ j, cnt ≤ j → j < k → st.index (sib name j) ≠ none := by
  fun_induction probe st name content fuel idx cnt with
  | case1 => cases h
  | case2 => cases h
  | case3 => cases h
  | case4 fuel idx cnt _ c hf hc hnone =>
    cases h
    exact ⟨cnt, Nat.le_refl _, rfl, hnone, fun j h1 h2 => absurd h2 (Nat.not_lt.2 h1)⟩
  | case5 fuel idx cnt _ c hf hc next hsome ih =>
    obtain ⟨k, hk, hr, hn, hall⟩ := ih h
    refine ⟨k, Nat.le_of_succ_le hk, hr, hn, fun j h1 h2 => ?_⟩
    rcases Nat.eq_or_lt_of_le h1 with rfl | h1
    · rw [hsome]; nofun
    · exact hall j h1 h2

theorem probe_hang {st : St} {name content : Bytes} {fuel idx cnt : Nat}
    (h : probe st name content fuel idx cnt = .hang) : ∀ j, j < fuel → st.index (sib name (cnt + j)) ≠ none := by
  fun_induction probe st name content fuel idx cnt with
  | case1 => nofun
  | case2 => cases h
  | case3 => cases h
  | case4 => cases h
  | case5 fuel idx cnt _ c hf hc next hsome ih =>
    intro j hj
    cases j with
    | zero => rw [Nat.add_zero, hsome]; nofun
    | succ j => rw [← Nat.add_assoc, Nat.add_right_comm]; exact ih h j (Nat.lt_of_succ_lt_succ hj)

theorem probe_valid {st : St} {name content : Bytes} (hidx : ∀ {n i}, st.index n = some i → i < st.files.length)
    {fuel idx cnt : Nat} (hlt : idx < st.files.length) :
    probe st name content fuel idx cnt ≠ .panic ∧
      (probe st name content fuel idx cnt = .dup ↔ ∃ i ∈ chain st name fuel idx cnt, contentAt st i = some content) := by
  fun_induction probe st name content fuel idx cnt with
  | case1 => exact ⟨nofun, nofun, nofun⟩
  | case2 fuel idx cnt hf => exact absurd hlt (Nat.not_lt.2 (List.getElem?_eq_none_iff.1 hf))
  | case3 fuel idx cnt m hf => exact ⟨nofun, fun _ => ⟨idx, List.mem_cons_self, by rw [contentAt, hf]; rfl⟩, fun _ => rfl⟩
  | case4 fuel idx cnt m c hf hc hnone =>
    refine ⟨nofun, nofun, ?_⟩
    rw [chain, hnone]
    rintro ⟨i, hi, h⟩
    rw [List.mem_singleton.1 hi, contentAt, hf] at h
    exact absurd (Option.some.inj h) hc
  | case5 fuel idx cnt m c hf hc next hsome ih =>
    refine ⟨(ih (hidx hsome)).1, ?_⟩
    rw [(ih (hidx hsome)).2, chain, hsome]
    simp only [List.mem_cons, exists_eq_or_imp, contentAt, hf, Option.map_some, Option.some.injEq, hc, false_or]

def Fam (name m : Bytes) : Prop := m = name ∨ ∃ j, 1 ≤ j ∧ m = sib name j

/-- holds of the manager state after every history: `index` is the inverse of the list of stored names -/
structure Inv (st : St) : Prop where
  idx : ∀ n i, st.index n = some i → ∃ c, st.files[i]? = some (n, c)
  nodup : (st.files.map (·.1)).Nodup
  inIdx : ∀ n ∈ st.files.map (·.1), st.index n ≠ none

theorem Inv.init : Inv St.init := ⟨by simp [St.init], by simp [St.init], by simp [St.init]⟩

theorem Inv.addPatch {st : St} (h : Inv st) (t : Bytes) (f : Item) : Inv (addPatch st t f) := ⟨h.idx, h.nodup, h.inIdx⟩

theorem Inv.lt {st : St} (h : Inv st) {n : Bytes} {i : Nat} (hi : st.index n = some i) : i < st.files.length := by
  obtain ⟨c, hc⟩ := h.idx n i hi
  exact (List.getElem?_eq_some_iff.1 hc).1

theorem Inv.addFile {st : St} (h : Inv st) (name c : Bytes) (hfree : st.index name = none) : Inv (addFile st name c) where
  idx := by
    intro n i hi
    simp only [FileManager.addFile, upd] at hi ⊢
    by_cases hn : n = name
    · subst hn
      simp at hi; subst hi
      exact ⟨c, by simp⟩
    · simp only [hn, if_false] at hi
      obtain ⟨c', hc⟩ := h.idx n i hi
      exact ⟨c', by rw [List.getElem?_append_left (h.lt hi)]; exact hc⟩
  nodup := by
    simp only [FileManager.addFile, List.map_append, List.map_cons, List.map_nil]
    refine List.nodup_append.2 ⟨h.nodup, by simp, ?_⟩
    intro a ha b hb e
    rw [← e, List.mem_singleton] at hb
    exact h.inIdx a ha (hb ▸ hfree)
  inIdx := by
    intro n hn
    simp only [FileManager.addFile, List.map_append, List.map_cons, List.map_nil, List.mem_append, List.mem_singleton] at hn
    simp only [FileManager.addFile, upd]
    by_cases e : n = name
    · simp [e]
    · simp only [e, if_false]
      exact h.inIdx n (hn.resolve_right e)

theorem Inv.rename {st : St} (h : Inv st) {name content : Bytes} {fuel idx cnt : Nat} {r : Bytes}
    (hp : probe st name content fuel idx cnt = .fresh r) (c : Bytes) : Inv (renameSt st name r c) := by
  obtain ⟨_, _, _, hfree, _⟩ := probe_fresh_spec hp
  have := h.addFile r c hfree
  exact ⟨this.idx, this.nodup, this.inIdx⟩

theorem Inv.feedLoop {st : St} (h : Inv st) (items : List Item) (last : Bytes) (skip : Bool) :
    Inv (feedLoop st last skip items).1 := by
  fun_induction FileManager.feedLoop st last skip items with
  | case1 | case3 | case8 | case9 => exact h
  | case2 st last f rest hn ih | case7 st last skip f rest name hn idx hi hip hp ih => exact ih h
  | case4 st last skip f rest hn hs hl ih | case6 st last skip f rest name hn idx hi hip ih => exact ih (h.addPatch _ _)
  | case5 st last skip f rest name hn hi ih => exact ih (h.addFile _ _ hi)
  | case10 st last skip f rest name hn idx hi hip r hp ih => exact ih (h.rename hp _)

theorem Inv.feedAll (calls : List (List Item)) : ∀ {st : St}, Inv st → Inv (feedAll st calls) := by
  induction calls with
  | nil => intro st h; exact h
  | cons c cs ih => intro st h; exact ih (h.feedLoop c [] false)

theorem Inv.feedAll_init (calls : List (List Item)) : Inv (FileManager.feedAll St.init calls) := Inv.feedAll calls Inv.init

theorem build_names (cfg : MarkerCfg) (st : St) : (build cfg st).map (·.1) = st.files.map (·.1) := by
  simp [build, List.map_map, Function.comp_def]

theorem chain_fam {st : St} (h : Inv st) (name : Bytes) : ∀ (fuel idx cnt : Nat),
    1 ≤ cnt → (∃ m c, st.files[idx]? = some (m, c) ∧ Fam name m) →
    ∀ i ∈ chain st name fuel idx cnt, ∃ m c, st.files[i]? = some (m, c) ∧ Fam name m := by
  intro fuel
  induction fuel with
  | zero => intro idx cnt _ _ i hi; simp [chain] at hi
  | succ fuel ih =>
    intro idx cnt h1 h0 i hi
    simp only [chain, List.mem_cons] at hi
    rcases hi with rfl | hi
    · exact h0
    · cases hs : st.index (sib name cnt) with
      | none => rw [hs] at hi; simp at hi
      | some next =>
        rw [hs] at hi
        obtain ⟨c, hc⟩ := h.idx _ _ hs
        exact ih next (cnt + 1) (by omega) ⟨_, c, hc, Or.inr ⟨cnt, h1, rfl⟩⟩ i hi

theorem siblings_fam {st : St} (h : Inv st) {name : Bytes} {idx : Nat} (hi : st.index name = some idx) :
    ∀ i ∈ siblings st name idx, ∃ m c, st.files[i]? = some (m, c) ∧ Fam name m := by
  obtain ⟨c, hc⟩ := h.idx _ _ hi
  exact chain_fam h name _ idx 1 (by omega) ⟨name, c, hc, Or.inl rfl⟩

/-- pigeonhole: `len(files) + 1` rounds would need as many taken names `name_1 … name_{len+1}`, pairwise different
(`sib_inj`) and each the name of a stored file. -/
theorem probe_no_hang {st : St} (h : Inv st) (name content : Bytes) (idx : Nat) :
    probe st name content (st.files.length + 1) idx 1 ≠ .hang := by
  intro hh
  have hall := probe_hang hh
  have hsub : (List.range (st.files.length + 1)).map (fun j => sib name (1 + j)) ⊆ st.files.map (·.1) := by
    intro x hx
    obtain ⟨j, hj, rfl⟩ := List.mem_map.mp hx
    cases hs : st.index (sib name (1 + j)) with
    | none => exact absurd hs (hall j (List.mem_range.mp hj))
    | some i =>
      obtain ⟨c, hc⟩ := h.idx _ _ hs
      exact List.mem_map.2 ⟨_, List.mem_of_getElem? hc, rfl⟩
  have hnd : ((List.range (st.files.length + 1)).map (fun j => sib name (1 + j))).Nodup := by
    rw [List.nodup_iff_pairwise_ne, List.pairwise_map]
    exact List.nodup_range.imp fun hab e => hab (by have := (sib_inj _ _ _ _ e).2; omega)
  have := hnd.length_le_of_subset hsub
  simp at this
  omega

theorem feedLoop_no_panic (items : List Item) (st : St) (last : Bytes) (skip : Bool) (h : Inv st) :
    (feedLoop st last skip items).2 ≠ .panic ∧ (feedLoop st last skip items).2 ≠ .hang := by
  fun_induction feedLoop st last skip items with
  | case1 | case3 => exact ⟨nofun, nofun⟩
  | case2 st last f rest hn ih | case7 st last skip f rest name hn idx hi hip hp ih => exact ih h
  | case4 st last skip f rest hn hs hl ih | case6 st last skip f rest name hn idx hi hip ih => exact ih (h.addPatch _ _)
  | case5 st last skip f rest name hn hi ih => exact ih (h.addFile _ _ hi)
  | case8 st last skip f rest name hn idx hi hip hp => exact absurd hp (probe_valid h.lt (h.lt hi)).1
  | case9 st last skip f rest name hn idx hi hip hp => exact absurd hp (probe_no_hang h _ _ _)
  | case10 st last skip f rest name hn idx hi hip r hp ih => exact ih (h.rename hp _)

theorem outcomes_no_panic (calls : List (List Item)) : ∀ (st : St), Inv st →
    Outcome.panic ∉ outcomes st calls ∧ Outcome.hang ∉ outcomes st calls := by
  induction calls with
  | nil => intro st _; simp [outcomes]
  | cons c cs ih =>
    intro st h
    have h1 := feedLoop_no_panic c st [] false h
    have h2 := ih _ (h.feedLoop c [] false)
    simp only [outcomes, List.mem_cons, not_or]
    exact ⟨⟨fun e => h1.1 e.symm, h2.1⟩, ⟨fun e => h1.2 e.symm, h2.2⟩⟩

theorem feedLoop_err (items : List Item) (st : St) (last : Bytes) (skip : Bool)
    (hne : ∀ f ∈ items, f.name ≠ some []) (h : (feedLoop st last skip items).2 = .err) :
    skip = false ∧ last = [] ∧ ∃ f rest, items = f :: rest ∧ f.name = none := by
  -- a round that goes on skips or leaves a target, `last ≠ []`: the rest cannot end in `err`
  fun_induction feedLoop st last skip items with
  | case1 | case8 | case9 => cases h
  | case2 st last f rest hn ih => cases (ih (List.forall_mem_cons.1 hne).2 h).1
  | case3 st skip f rest hn hs => exact ⟨Bool.eq_false_iff.2 hs, rfl, f, rest, rfl, hn⟩
  | case4 st last skip f rest hn hs hl ih => exact absurd (ih (List.forall_mem_cons.1 hne).2 h).2.1 hl
  | case5 st last skip f rest name hn hi ih | case6 st last skip f rest name hn idx hi hip ih =>
    obtain ⟨h0, hne⟩ := List.forall_mem_cons.1 hne
    exact absurd (hn.trans (congrArg some (ih hne h).2.1)) h0
  | case7 st last skip f rest name hn idx hi hip hp ih => cases (ih (List.forall_mem_cons.1 hne).2 h).1
  | case10 st last skip f rest name hn idx hi hip r hp ih =>
    obtain ⟨_, _, rfl, _, _⟩ := probe_fresh_spec hp
    exact absurd (ih (List.forall_mem_cons.1 hne).2 h).2.1 (sib_ne_nil _ _)

def Stored (st : St) (name content : Bytes) : Prop := ∃ m, (m, content) ∈ st.files ∧ Fam name m

theorem Stored.mono {st st' : St} {name content : Bytes} (h : Stored st name content)
    (hp : st.files <+: st'.files) : Stored st' name content := by
  obtain ⟨m, hm, hf⟩ := h
  exact ⟨m, hp.subset hm, hf⟩

theorem addFile_stored (st : St) {n m : Bytes} (h : Fam n m) (c : Bytes) : Stored (addFile st m c) n c :=
  ⟨m, by simp [addFile], h⟩

theorem feedLoop_nothing_lost (items : List Item) (st : St) (last : Bytes) (skip : Bool) (h : Inv st)
    (hok : (feedLoop st last skip items).2 = .ok) :
    ∀ g ∈ items, ∀ n, g.name = some n → g.ip = [] → Stored (feedLoop st last skip items).1 n g.content := by
  -- a file item is stored by its own round (or has been: case 7) and stays so (`feedLoop_grows`); the items behind it by induction
  fun_induction feedLoop st last skip items with
  | case1 => nofun
  | case3 | case8 | case9 => cases hok
  | case2 st last f rest hn ih => exact List.forall_mem_cons.2 ⟨fun n hfn => (nomatch hn.symm.trans hfn), ih h hok⟩
  | case4 st last skip f rest hn hs hl ih =>
    exact List.forall_mem_cons.2 ⟨fun n hfn => (nomatch hn.symm.trans hfn), ih (h.addPatch _ _) hok⟩
  | case5 st last skip f rest name hn hi ih =>
    refine List.forall_mem_cons.2 ⟨fun n hfn _ => ?_, ih (h.addFile _ _ hi) hok⟩
    obtain rfl := Option.some.inj (hn.symm.trans hfn)
    exact (addFile_stored st (.inl rfl) _).mono (feedLoop_grows ..).1
  | case6 st last skip f rest name hn idx hi hip ih =>
    exact List.forall_mem_cons.2 ⟨fun n _ h0 => absurd h0 hip, ih (h.addPatch _ _) hok⟩
  | case7 st last skip f rest name hn idx hi hip hp ih =>
    refine List.forall_mem_cons.2 ⟨fun n hfn _ => ?_, ih h hok⟩
    obtain rfl := Option.some.inj (hn.symm.trans hfn)
    obtain ⟨i, him, hc⟩ := (probe_valid h.lt (h.lt hi)).2.1 hp
    obtain ⟨m, c, hmc, hfam⟩ := siblings_fam h hi i him
    simp only [contentAt, hmc, Option.map_some, Option.some.injEq] at hc
    subst hc
    exact Stored.mono ⟨m, List.mem_of_getElem? hmc, hfam⟩ (feedLoop_grows ..).1
  | case10 st last skip f rest name hn idx hi hip r hp ih =>
    refine List.forall_mem_cons.2 ⟨fun n hfn _ => ?_, ih (h.rename hp _) hok⟩
    obtain rfl := Option.some.inj (hn.symm.trans hfn)
    obtain ⟨k, hk, hr, _, _⟩ := probe_fresh_spec hp
    refine Stored.mono ?_ (feedLoop_grows ..).1
    exact addFile_stored st (.inr ⟨k, hk, hr⟩) _

/-- facts about the regenerated marker description that the theorems need (checked by `decide`) -/
structure CfgOK (cfg : MarkerCfg) : Prop where
  ptPre : cfg.ptPre = cfg.pre
  ptSuf : cfg.ptSuf = [cfg.close]
  close : isWordByte cfg cfg.close = false

def IsWord (cfg : MarkerCfg) (w : Bytes) : Prop := ∀ c ∈ w, isWordByte cfg c = true

def WordPoints (cfg : MarkerCfg) (ps : List Patch) : Prop := ∀ p ∈ ps, IsWord cfg p.ip

instance (cfg : MarkerCfg) (ps : List Patch) : Decidable (WordPoints cfg ps) := by
  unfold WordPoints IsWord; infer_instance

def patchText (cfg : MarkerCfg) (ps : List Patch) (k : Bytes) : Bytes :=
  (ps.filter fun p => pointKey cfg p.ip = k).flatMap (·.content)

def render (cfg : MarkerCfg) (ps : List Patch) : List Seg → Bytes
  | [] => []
  | .lit c :: r => c :: render cfg ps r
  | .chunk k :: r => patchText cfg ps k ++ render cfg ps r

def flatten : List Seg → Bytes
  | [] => []
  | .lit c :: r => c :: flatten r
  | .chunk k :: r => k ++ flatten r

def lits : List Seg → Bytes
  | [] => []
  | .lit c :: r => c :: lits r
  | .chunk _ :: r => lits r

theorem flatten_segment (m : Bytes → Option Nat) (s : Bytes) (n : Nat) : flatten (segment m n s) = s.drop n := by
  -- cases: end of text | inside a chunk | a match | no match
  fun_induction segment m n s with
  | case1 n => exact List.drop_nil.symm
  | case2 n c r ih => exact ih
  | case3 c r n _ ih => rw [flatten, ih, List.take_succ_cons, List.cons_append, List.take_append_drop, List.drop_zero]
  | case4 c r _ ih => rw [flatten, ih, List.drop_zero, List.drop_zero]

theorem segment_skip (m : Bytes → Option Nat) : ∀ (l b : Bytes), segment m l.length (l ++ b) = segment m 0 b := by
  intro l
  induction l with
  | nil => intro b; rfl
  | cons x l ih => intro b; simp only [List.length_cons, List.cons_append, segment]; exact ih b

theorem segment_match (m : Bytes → Option Nat) {k : Bytes} (b : Bytes) (hk : k ≠ [])
    (h : m (k ++ b) = some (k.length - 1)) : segment m 0 (k ++ b) = .chunk k :: segment m 0 b := by
  obtain ⟨x, l, rfl⟩ := List.exists_cons_of_ne_nil hk
  rw [List.cons_append] at h ⊢
  rw [segment, h]
  simp only [List.length_cons, Nat.add_sub_cancel]
  rw [List.take_succ_cons, List.take_left' rfl, segment_skip]

theorem stripPrefix_some {p s r : Bytes} : stripPrefix p s = some r ↔ s = p ++ r := by
  -- cases: `p` is empty | `s` ends first | equal heads | different heads
  fun_induction stripPrefix p s with
  | case1 s => exact ⟨Option.some.inj, congrArg some⟩
  | case2 a p => exact ⟨nofun, nofun⟩
  | case3 p b s ih => simp [ih]
  | case4 a p b s h => exact ⟨nofun, fun e => absurd (List.cons.inj e).1.symm h⟩

/-- the texts the regexp matches -/
def WordKey (cfg : MarkerCfg) (k : Bytes) : Prop := ∃ w, IsWord cfg w ∧ k = cfg.pre ++ w ++ [cfg.close]

theorem markerLen_some {cfg : MarkerCfg} {s : Bytes} {n : Nat} (h : markerLen cfg s = some n) :
    ∃ k r, WordKey cfg k ∧ s = k ++ r ∧ k.length = n + 1 := by
  unfold markerLen at h
  split at h
  · cases h
  · rename_i r hs
    split at h
    · rename_i c r' hd
      split at h
      · rename_i hc
        injection h with h
        refine ⟨_, r', ⟨r.takeWhile (isWordByte cfg), fun x hx => List.all_eq_true.mp List.all_takeWhile x hx, rfl⟩, ?_, ?_⟩
        · rw [stripPrefix_some.1 hs, List.append_assoc, List.append_assoc, List.singleton_append, ← hc, ← hd,
            List.takeWhile_append_dropWhile]
        · rw [← h]; simp [Nat.add_assoc]
      · cases h
    · cases h

theorem markerLen_wordKey {cfg : MarkerCfg} (hclose : isWordByte cfg cfg.close = false) {k : Bytes} (hk : WordKey cfg k)
    (r : Bytes) : markerLen cfg (k ++ r) = some (k.length - 1) := by
  obtain ⟨w, hw, rfl⟩ := hk
  have hc : ¬ isWordByte cfg cfg.close = true := by rw [hclose]; nofun
  have e : cfg.pre ++ w ++ [cfg.close] ++ r = cfg.pre ++ (w ++ cfg.close :: r) := by simp
  rw [e, markerLen, stripPrefix_some.2 rfl]
  simp only [List.takeWhile_append_of_pos hw, List.dropWhile_append_of_pos hw, List.takeWhile_cons_of_neg hc,
    List.dropWhile_cons_of_neg hc, List.append_nil, if_true, List.length_append, List.length_singleton, Nat.add_sub_cancel]

theorem chunks_wordKey (cfg : MarkerCfg) (s : Bytes) (n : Nat) : ∀ k ∈ chunks (segment (markerLen cfg) n s), WordKey cfg k := by
  fun_induction segment (markerLen cfg) n s with
  | case1 => nofun
  | case2 n c r ih => exact ih
  | case3 c r n hm ih =>
    intro k hk
    rcases List.mem_cons.1 hk with rfl | hk
    · obtain ⟨k, r', hk, e, hn⟩ := markerLen_some hm
      rw [e, List.take_left' hn]
      exact hk
    · exact ih k hk
  | case4 c r _ ih => exact ih

def val : List (Bytes × Bytes) → Bytes → Option Bytes
  | [], _ => none
  | (k0, v0) :: m, k => if k0 = k then some v0 else val m k

theorem val_get : Assoc.IsGet fun k m => val m k := ⟨fun _ => rfl, fun _ _ _ => if_pos rfl, fun _ _ => (if_neg ·)⟩

theorem mapAdd_upd (v : Bytes) : Assoc.IsUpd (fun o => o.getD [] ++ v) (mapAdd · v) :=
  ⟨fun _ => rfl, fun _ _ _ => if_pos rfl, fun _ _ => (if_neg ·)⟩

theorem val_foldl_ne_none {α : Type} (key text : α → Bytes) (k : Bytes) : ∀ (l : List α) (m : List (Bytes × Bytes)),
    val (l.foldl (fun m a => mapAdd (key a) (text a) m) m) k ≠ none ↔ val m k ≠ none ∨ k ∈ l.map key := by
  intro l
  induction l with
  | nil => intro m; simp
  | cons a l ih =>
    intro m
    rw [List.foldl_cons, ih, val_get.get_upd (mapAdd_upd _)]
    by_cases e : key a = k
    · simp [e]
    · simp [e, Ne.symm e]

theorem val_foldl_getD {α : Type} (key text : α → Bytes) (k : Bytes) : ∀ (l : List α) (m : List (Bytes × Bytes)),
    (val (l.foldl (fun m a => mapAdd (key a) (text a) m) m) k).getD [] =
      (val m k).getD [] ++ (l.filter fun a => key a = k).flatMap text := by
  intro l
  induction l with
  | nil => intro m; simp
  | cons a l ih =>
    intro m
    rw [List.foldl_cons, ih, val_get.get_upd (mapAdd_upd _)]
    by_cases e : key a = k
    · simp [e]
    · simp [e]

theorem val_replacerOf_ne_none (cfg : MarkerCfg) (content : Bytes) (ps : List Patch) (k : Bytes) :
    val (replacerOf cfg content ps) k ≠ none ↔ (k ∈ findAll cfg content ∨ ∃ p ∈ ps, pointKey cfg p.ip = k) := by
  rw [replacerOf, val_foldl_ne_none (α := Patch) (pointKey cfg ·.ip) (·.content), val_foldl_ne_none (α := Bytes) (fun k => k) fun _ => []]
  simp [val_get.nil]

theorem val_replacerOf_getD (cfg : MarkerCfg) (content : Bytes) (ps : List Patch) (k : Bytes) :
    (val (replacerOf cfg content ps) k).getD [] = patchText cfg ps k := by
  rw [replacerOf, val_foldl_getD (α := Patch) (pointKey cfg ·.ip) (·.content), val_foldl_getD (α := Bytes) (fun k => k) fun _ => []]
  simp [val_get.nil, patchText]

theorem replacerOf_key_ne_nil {cfg : MarkerCfg} (hc : CfgOK cfg) (content : Bytes) (ps : List Patch) :
    ∀ k, val (replacerOf cfg content ps) k ≠ none → k ≠ [] := by
  intro k hk
  rcases (val_replacerOf_ne_none cfg content ps k).1 hk with h | ⟨p, _, e⟩
  · obtain ⟨w, _, rfl⟩ := chunks_wordKey cfg content 0 k h
    simp
  · rw [← e, pointKey, hc.ptSuf]; simp

theorem replacerOf_wordKeys {cfg : MarkerCfg} (hc : CfgOK cfg) (content : Bytes) (ps : List Patch) (hw : WordPoints cfg ps) :
    ∀ k, val (replacerOf cfg content ps) k ≠ none → WordKey cfg k := by
  intro k hk
  rcases (val_replacerOf_ne_none cfg content ps k).1 hk with h | ⟨p, hp, e⟩
  · exact chunks_wordKey cfg content 0 k h
  · exact ⟨p.ip, hw p hp, by rw [← e, pointKey, hc.ptPre, hc.ptSuf]⟩

theorem foldl_mapAdd_keys_nodup {α : Type} (key text : α → Bytes) : ∀ (l : List α) (m : List (Bytes × Bytes)),
    (m.map (·.1)).Nodup → ((l.foldl (fun m a => mapAdd (key a) (text a) m) m).map (·.1)).Nodup := by
  intro l
  induction l with
  | nil => intro m h; exact h
  | cons a l ih => intro m h; exact ih _ (val_get.keys_upd_nodup (mapAdd_upd _) _ h)

theorem replacerOf_keys_nodup (cfg : MarkerCfg) (content : Bytes) (ps : List Patch) :
    ((replacerOf cfg content ps).map (·.1)).Nodup :=
  foldl_mapAdd_keys_nodup (α := Patch) (fun p => pointKey cfg p.ip) (·.content) ps _
    (foldl_mapAdd_keys_nodup (α := Bytes) id (fun _ => []) (findAll cfg content) [] List.nodup_nil)

theorem ne_of_not_prefix {k0 k s r : Bytes} (h0 : ¬ (stripPrefix k0 s).isSome = true) (hs : s = k ++ r) : ¬ k0 = k := by
  intro e
  rw [e, stripPrefix_some.2 hs] at h0
  exact h0 rfl

theorem lookupPrefix_some {m : List (Bytes × Bytes)} {s k v : Bytes} (h : lookupPrefix m s = some (k, v)) :
    val m k = some v ∧ ∃ r, s = k ++ r := by
  fun_induction lookupPrefix m s with
  | case1 => cases h
  | case2 k0 v0 m s hs =>
    cases h
    obtain ⟨r, hr⟩ := Option.isSome_iff_exists.1 hs
    exact ⟨val_get.hit .., r, stripPrefix_some.1 hr⟩
  | case3 k0 v0 m s hs ih =>
    obtain ⟨h1, r, h2⟩ := ih h
    exact ⟨(val_get.miss _ _ (ne_of_not_prefix hs h2)).trans h1, r, h2⟩

theorem lookupPrefix_ne_none (m : List (Bytes × Bytes)) (s k r : Bytes) (h : val m k ≠ none) (hs : s = k ++ r) :
    lookupPrefix m s ≠ none := by
  fun_induction lookupPrefix m s with
  | case1 => exact absurd (val_get.nil k) h
  | case2 => nofun
  | case3 k0 v0 m s hp ih =>
    rw [val_get.miss _ _ (ne_of_not_prefix hp hs)] at h
    exact ih h hs

def PrefixFreeKeys (m : List (Bytes × Bytes)) : Prop :=
  ∀ k k', val m k ≠ none → val m k' ≠ none → (∃ r, k' = k ++ r) → k = k'

theorem lookupPrefix_of_prefixFree {m : List (Bytes × Bytes)} (hpf : PrefixFreeKeys m) {k v : Bytes} (r : Bytes)
    (hval : val m k = some v) : lookupPrefix m (k ++ r) = some (k, v) := by
  have hk : val m k ≠ none := hval ▸ Option.some_ne_none v
  -- some pair is found; its key and `k` are prefixes of the same text, hence equal
  obtain ⟨⟨k', v'⟩, hl⟩ := Option.ne_none_iff_exists'.1 (lookupPrefix_ne_none m (k ++ r) k r hk rfl)
  obtain ⟨hval', r', hpre⟩ := lookupPrefix_some hl
  have hk' : val m k' ≠ none := hval' ▸ Option.some_ne_none v'
  obtain rfl : k = k' := by
    rcases List.prefix_or_prefix_of_prefix (List.prefix_append k r) ⟨r', hpre.symm⟩ with ⟨t, ht⟩ | ⟨t, ht⟩
    · exact hpf k k' hk hk' ⟨t, ht.symm⟩
    · exact (hpf k' k hk' hk ⟨t, ht.symm⟩).symm
  rw [hl, Option.some.inj (hval.symm.trans hval')]

theorem lookupPrefix_eq_some_iff {m : List (Bytes × Bytes)} (hpf : PrefixFreeKeys m) (s k v : Bytes) :
    lookupPrefix m s = some (k, v) ↔ val m k = some v ∧ ∃ r, s = k ++ r :=
  ⟨lookupPrefix_some, fun ⟨hv, r, e⟩ => e ▸ lookupPrefix_of_prefixFree hpf r hv⟩

theorem prefixFree_of_wordKeys {cfg : MarkerCfg} (hclose : isWordByte cfg cfg.close = false) {m : List (Bytes × Bytes)}
    (hk : ∀ k, val m k ≠ none → WordKey cfg k) : PrefixFreeKeys m := by
  intro k k' h1 h2 ⟨r, hr⟩
  obtain ⟨w, hw, rfl⟩ := hk k h1
  obtain ⟨w', hw', rfl⟩ := hk k' h2
  have : w' ++ cfg.close :: [] = w ++ cfg.close :: r := by simpa using hr
  rw [(List.append_cons_inj_of_all (isWordByte cfg) hw' hw hclose hclose this).1]

def prefixFreeList (ks : List Bytes) : Bool :=
  ks.all fun k => ks.all fun k' => !(stripPrefix k k').isSome || k == k'

theorem prefixFreeKeys_of_list (m : List (Bytes × Bytes)) (h : prefixFreeList (m.map (·.1)) = true) : PrefixFreeKeys m := by
  intro k k' h1 h2 ⟨r, hr⟩
  simp only [prefixFreeList, List.all_eq_true] at h
  have := h k (val_get.ne_none_iff.1 h1) k' (val_get.ne_none_iff.1 h2)
  have hs : (stripPrefix k k').isSome = true := by rw [stripPrefix_some.2 hr]; rfl
  simpa [hs] using this

/-! Whatever bytes a patch point has, `Add` puts the literal text `plugin.InsertionPoint(p)` into the
replacer's map, and `Replace` acts on every place where its left-to-right scan meets a key. -/

def keyLen (m : List (Bytes × Bytes)) (s : Bytes) : Option Nat :=
  match lookupPrefix m s with
  | some (k, _) => some (k.length - 1)
  | none => none

def keyScan (cfg : MarkerCfg) (content : Bytes) (ps : List Patch) : List Seg :=
  segment (keyLen (replacerOf cfg content ps)) 0 content

theorem keyLen_of_prefixFree {m : List (Bytes × Bytes)} (hpf : PrefixFreeKeys m) {k : Bytes} (b : Bytes)
    (hk : val m k ≠ none) : keyLen m (k ++ b) = some (k.length - 1) := by
  obtain ⟨v, hv⟩ := Option.ne_none_iff_exists'.1 hk
  rw [keyLen, lookupPrefix_of_prefixFree hpf b hv]

theorem replaceAux_eq_renderKeys (cfg : MarkerCfg) (m : List (Bytes × Bytes)) (ps : List Patch)
    (hne : ∀ k, val m k ≠ none → k ≠ []) (hv : ∀ k, (val m k).getD [] = patchText cfg ps k) (s : Bytes) (n : Nat) :
    replaceAux m n s = render cfg ps (segment (keyLen m) n s) := by
  -- cases: end of text | inside a key | a key is found | none is
  fun_induction replaceAux m n s with
  | case1 n => rw [segment, render]
  | case2 n c r ih => exact ih
  | case3 c r k v hl ih =>
    obtain ⟨hval, r', hpre⟩ := lookupPrefix_some hl
    have hk : k.length - 1 + 1 = k.length :=
      Nat.sub_add_cancel (List.length_pos_iff.2 (hne k (hval ▸ Option.some_ne_none v)))
    simp only [segment, keyLen, hl, render]
    rw [← ih, hk, hpre, List.take_left' rfl, ← hv, hval]
    rfl
  | case4 c r hl ih => simp only [segment, keyLen, hl, render, ih]

theorem replace_eq_renderKeys {cfg : MarkerCfg} (hc : CfgOK cfg) (content : Bytes) (ps : List Patch) :
    replace (replacerOf cfg content ps) content = render cfg ps (keyScan cfg content ps) :=
  replaceAux_eq_renderKeys cfg _ ps (replacerOf_key_ne_nil hc content ps) (val_replacerOf_getD cfg content ps) content 0

theorem replaceAux_congr (m m' : List (Bytes × Bytes)) (h : ∀ s, lookupPrefix m' s = lookupPrefix m s) (s : Bytes) (n : Nat) :
    replaceAux m' n s = replaceAux m n s := by
  fun_induction replaceAux m n s with
  | case1 n => rw [replaceAux]
  | case2 n c r ih => exact ih
  | case3 c r k v hl ih => simp only [replaceAux, h, hl, ih]
  | case4 c r hl ih => simp only [replaceAux, h, hl, ih]

/-- the pairs reach the replacer in the order of a Go map range -/
theorem replace_perm_prefixFree (m m' : List (Bytes × Bytes)) (hp : m'.Perm m) (hn : (m.map (·.1)).Nodup)
    (hpf : PrefixFreeKeys m) (s : Bytes) : replace m' s = replace m s := by
  have hv := val_get.perm hp hn
  have hpf' : PrefixFreeKeys m' := by
    intro k k' h1 h2 h3
    exact hpf k k' (by rw [← hv k]; exact h1) (by rw [← hv k']; exact h2) h3
  refine replaceAux_congr m m' (fun t => Option.ext fun kv => ?_) s 0
  rw [lookupPrefix_eq_some_iff hpf', lookupPrefix_eq_some_iff hpf, hv kv.1]

theorem keyLen_eq_markerLen {cfg : MarkerCfg} (hclose : isWordByte cfg cfg.close = false) {m : List (Bytes × Bytes)}
    (hk : ∀ k, val m k ≠ none → WordKey cfg k) (s : Bytes)
    (hcov : ∀ n, markerLen cfg s = some n → val m (s.take (n + 1)) ≠ none) : keyLen m s = markerLen cfg s := by
  cases hm : markerLen cfg s with
  | some n =>
    obtain ⟨k, r, _, rfl, hn⟩ := markerLen_some hm
    have hv := hcov n hm
    rw [List.take_left' hn] at hv
    rw [keyLen_of_prefixFree (prefixFree_of_wordKeys hclose hk) r hv, hn, Nat.add_sub_cancel]
  | none =>
    unfold keyLen
    cases hl : lookupPrefix m s with
    | none => rfl
    | some kv =>
      obtain ⟨k, v⟩ := kv
      obtain ⟨hval, r, rfl⟩ := lookupPrefix_some hl
      rw [markerLen_wordKey hclose (hk k (hval ▸ Option.some_ne_none v))] at hm
      cases hm

theorem segment_congr {m m' : Bytes → Option Nat} {P : Bytes → Prop}
    (h : ∀ s, (∀ n, m' s = some n → P (s.take (n + 1))) → m s = m' s) (s : Bytes) (n : Nat)
    (hcov : ∀ k ∈ chunks (segment m' n s), P k) : segment m n s = segment m' n s := by
  fun_induction segment m' n s with
  | case1 n => rw [segment]
  | case2 n c r ih => exact ih hcov
  | case3 c r n hm ih =>
    obtain ⟨h0, hcov⟩ := List.forall_mem_cons.1 hcov
    have e := h (c :: r) fun n' e => Option.some.inj (hm.symm.trans e) ▸ h0
    simp only [segment, e, hm, ih hcov]
  | case4 c r hm ih =>
    have e := h (c :: r) fun n' e => nomatch hm.symm.trans e
    simp only [segment, e, hm, ih hcov]

theorem keyScan_eq_scan {cfg : MarkerCfg} (hc : CfgOK cfg) (content : Bytes) (ps : List Patch) (hw : WordPoints cfg ps) :
    keyScan cfg content ps = scan cfg content :=
  segment_congr (keyLen_eq_markerLen hc.close (replacerOf_wordKeys hc content ps hw)) content 0
    fun k hk => (val_replacerOf_ne_none cfg content ps k).2 (.inl hk)

theorem replace_eq_render {cfg : MarkerCfg} (hc : CfgOK cfg) (content : Bytes) (ps : List Patch) (hw : WordPoints cfg ps) :
    replace (replacerOf cfg content ps) content = render cfg ps (scan cfg content) := by
  rw [replace_eq_renderKeys hc, keyScan_eq_scan hc content ps hw]

theorem render_no_text (cfg : MarkerCfg) (ps : List Patch) (h : ∀ p ∈ ps, p.content = []) (segs : List Seg) :
    render cfg ps segs = lits segs := by
  fun_induction render cfg ps segs with
  | case1 => rfl
  | case2 c r ih => exact congrArg (c :: ·) ih
  | case3 k r ih =>
    rw [ih, patchText, List.flatMap_eq_nil_iff.2 fun p hp => h p (List.mem_filter.1 hp).1]
    rfl

theorem lits_sublist_render (cfg : MarkerCfg) (ps : List Patch) (segs : List Seg) : (lits segs).Sublist (render cfg ps segs) := by
  fun_induction render cfg ps segs with
  | case1 => exact .slnil
  | case2 c r ih => exact ih.cons_cons c
  | case3 k r ih => exact ih.trans (List.sublist_append_right _ _)

end FileManager
