import ThriftVerif.Lib.Walker
/-
  Lemmas about the pure parts of the walker: Annotations.Append, field / enum numbering (`fieldsLoop` is a fold of
  `addField` over the parsed fields), the unescape loop, strconv.ParseInt and `fieldIdOf` on decimal, `0x…` and `0o…`
  numerals.
-/
namespace Walker
open Peg

/-- By the induction principle of `annAppend`: no entry, the entry for `k'` in front, another entry in front. -/
theorem annGet_annAppend (a : Anns) (k' v k : Bytes) :
    annGet (annAppend a k' v) k = if k' = k then annGet a k ++ [v] else annGet a k := by
  fun_induction annAppend a k' v with
  | case1 k' v => simp [annGet]
  | case2 vs r k' v =>
    simp only [annGet]
    split <;> rfl
  | case3 k0 vs r k' v h0 ih =>
    simp only [annGet, ih]
    split
    · next h1 => rw [if_neg (h1 ▸ Ne.symm h0)]
    · rfl

def annFold (a : Anns) (kvs : List (Bytes × Bytes)) : Anns := kvs.foldl (fun a kv => annAppend a kv.1 kv.2) a

theorem annGet_annFold (kvs : List (Bytes × Bytes)) (a : Anns) (k : Bytes) :
    annGet (annFold a kvs) k = annGet a k ++ (kvs.filter (fun kv => kv.1 = k)).map (·.2) := by
  induction kvs generalizing a with
  | nil => simp [annFold]
  | cons kv r ih =>
    simp only [annFold, List.foldl_cons] at ih ⊢
    rw [ih, annGet_annAppend]
    by_cases h : kv.1 = k <;> simp [h]

def keysOf (a : Anns) : List Bytes := a.map (·.1)

def addKey (ks : List Bytes) (k : Bytes) : List Bytes := if k ∈ ks then ks else ks ++ [k]

theorem keysOf_annAppend (a : Anns) (k v : Bytes) : keysOf (annAppend a k v) = addKey (keysOf a) k := by
  fun_induction annAppend a k v with
  | case1 => rfl
  | case2 => simp [keysOf, addKey]
  | case3 k0 vs r k v h0 ih =>
    simp only [keysOf, List.map_cons] at ih ⊢
    rw [ih]
    simp only [addKey, List.mem_cons, Ne.symm h0, false_or]
    split <;> rfl

theorem keysOf_annFold (kvs : List (Bytes × Bytes)) (a : Anns) :
    keysOf (annFold a kvs) = (kvs.map (·.1)).foldl addKey (keysOf a) := by
  induction kvs generalizing a with
  | nil => simp [annFold]
  | cons kv r ih =>
    simp only [annFold, List.foldl_cons, List.map_cons] at ih ⊢
    rw [ih, keysOf_annAppend]

theorem addKey_nodup (ks : List Bytes) (k : Bytes) (h : ks.Nodup) : (addKey ks k).Nodup := by
  unfold addKey
  split
  · exact h
  · next hk =>
    refine List.nodup_append.mpr ⟨h, by simp, fun a ha b hb => ?_⟩
    rw [List.mem_singleton.mp hb]
    exact fun e => hk (e ▸ ha)

theorem foldl_addKey_nodup (l ks : List Bytes) (h : ks.Nodup) : (l.foldl addKey ks).Nodup := by
  induction l generalizing ks with
  | nil => exact h
  | cons x r ih => exact ih _ (addKey_nodup ks x h)

/-- `none` = not written; a field written with id -999999 (the NOTSET sentinel) is indistinguishable from an unnumbered one -/
def written (f : Field) : Option Int := if f.id = NOTSET then none else some f.id

def numberSpec : Option Int → List (Option Int) → List Int
  | _, [] => []
  | _, some v :: r => v :: numberSpec (some v) r
  | none, none :: r => 1 :: numberSpec (some 1) r
  | some p, none :: r => wrap32 (p + 1) :: numberSpec (some (wrap32 (p + 1))) r

theorem getLast?_append_singleton {α} (l : List α) (x : α) : (l ++ [x]).getLast? = some x := by
  simp

theorem addField_eq (acc : List Field) (f : Field) :
    ∃ i, addField acc f = acc ++ [{ f with id := i }] ∧
      ∀ ws, numberSpec (acc.getLast?.map (·.id)) (written f :: ws) = i :: numberSpec (some i) ws := by
  unfold addField written
  by_cases h : f.id = NOTSET
  · cases acc.getLast? with
    | none => exact ⟨1, by simp [h], fun _ => by simp [h, numberSpec]⟩
    | some l => exact ⟨wrap32 (l.id + 1), by simp [h], fun _ => by simp [h, numberSpec]⟩
  · exact ⟨f.id, by simp [h], fun _ => by simp [h, numberSpec]⟩

theorem foldl_addField_ids (fs acc : List Field) :
    (fs.foldl addField acc).map (·.id) =
      acc.map (·.id) ++ numberSpec (acc.getLast?.map (·.id)) (fs.map written) := by
  induction fs generalizing acc with
  | nil => simp [numberSpec]
  | cons f r ih =>
    obtain ⟨i, he, hs⟩ := addField_eq acc f
    rw [List.foldl_cons, ih, he, List.map_cons, hs]
    simp

theorem foldl_addField_rest (fs acc : List Field) :
    (fs.foldl addField acc).map (fun x => { x with id := 0 }) = (acc ++ fs).map (fun x => { x with id := 0 }) := by
  induction fs generalizing acc with
  | nil => simp
  | cons f r ih =>
    obtain ⟨i, he, -⟩ := addField_eq acc f
    rw [List.foldl_cons, ih, he]
    simp

def enumSpec : Option Int → List (Option Int) → List Int
  | _, [] => []
  | _, some v :: r => v :: enumSpec (some v) r
  | none, none :: r => 0 :: enumSpec (some 0) r
  | some p, none :: r => wrap64 (p + 1) :: enumSpec (some (wrap64 (p + 1))) r

/-- one turn of the enum loop reduced to what numbering sees (`w`: the explicit value if one is written).  No theorem
relates it to `enumLoop`: the two share `implicitEnumValue`. -/
def enumStep (values : List EnumValue) (name : Bytes) (w : Option Int) : List EnumValue :=
  values ++ [{ name := name, value := (match w with | some v => v | none => implicitEnumValue values), anns := [], comments := [] }]

theorem foldl_enumStep_values (ws : List (Bytes × Option Int)) (acc : List EnumValue) :
    (ws.foldl (fun a w => enumStep a w.1 w.2) acc).map (·.value) =
      acc.map (·.value) ++ enumSpec (acc.getLast?.map (·.value)) (ws.map (·.2)) := by
  induction ws generalizing acc with
  | nil => simp [enumSpec]
  | cons w r ih =>
    simp only [List.foldl_cons, List.map_cons]
    rw [ih]
    obtain ⟨nm, wv⟩ := w
    cases wv with
    | some v => simp [enumStep, enumSpec]
    | none =>
      cases hg : acc.getLast? with
      | none => simp [enumStep, enumSpec, implicitEnumValue, hg]
      | some l => simp [enumStep, enumSpec, implicitEnumValue, hg]

def esc (q : Nat) : List Nat → List Nat
  | [] => []
  | c :: r => if c = q then 92 :: q :: esc q r else c :: esc q r

/-- contents on which the doc's rule ("only the enclosing quote is unescaped") and the code can be compared -/
def Plain (q : Nat) : List Nat → Prop
  | [] => True
  | [c] => c ≠ 92
  | c :: d :: r => (c = 92 → d ≠ q ∧ d ≠ 92) ∧ Plain q (d :: r)

instance decPlain (q : Nat) : (s : List Nat) → Decidable (Plain q s)
  | [] => isTrue trivial
  | [c] => inferInstanceAs (Decidable (c ≠ 92))
  | c :: d :: r =>
    have := decPlain q (d :: r)
    inferInstanceAs (Decidable ((c = 92 → d ≠ q ∧ d ≠ 92) ∧ Plain q (d :: r)))

theorem esc_ne_nil (q c : Nat) (r : List Nat) : esc q (c :: r) ≠ [] := by
  simp only [esc]; split <;> simp

theorem Plain.tail {q c : Nat} : ∀ {r : List Nat}, Plain q (c :: r) → Plain q r
  | [], _ => trivial
  | _ :: _, h => h.2

theorem unescLoop_cons (q : Nat) {c : Nat} (hc : c ≠ 92) (x : List Nat) : unescLoop q (c :: x) = c :: unescLoop q x := by
  cases x <;> simp [unescLoop, hc]

theorem unescLoop_drop (q : Nat) (hq : q ≠ 92) (rest : List Nat) :
    unescLoop q (92 :: q :: rest) = unescLoop q (q :: rest) := by
  simp [unescLoop, hq]

theorem unescLoop_keep_bs (q d : Nat) (rest : List Nat) (h1 : d ≠ 92) (h2 : d ≠ q) :
    unescLoop q (92 :: d :: rest) = 92 :: unescLoop q (d :: rest) := by
  simp [unescLoop, h1, h2]

theorem unescLoop_esc (q : Nat) (hq : q ≠ 92) (s : List Nat) (hp : Plain q s) : unescLoop q (esc q s) = s := by
  fun_induction esc q s with
  | case1 => rfl
  | case2 r ih => rw [unescLoop_drop q hq, unescLoop_cons q hq, ih hp.tail]
  | case3 c r hc ih =>
    have ihr := ih hp.tail
    by_cases h92 : c = 92
    · subst h92
      cases r with
      | nil => exact absurd rfl hp
      | cons d r' =>
        obtain ⟨hdq, hd92⟩ := hp.1 rfl
        rw [esc, if_neg hdq] at ihr ⊢
        rw [unescLoop_keep_bs q d _ hd92 hdq, ihr]
    · rw [unescLoop_cons q h92, ihr]

open GoStrconv

def decVal : List Nat → Nat := List.foldl (fun n d => n * 10 + d) 0

def digitsOK (ds : List Nat) : Prop := ∀ d ∈ ds, d < 10

instance (ds : List Nat) : Decidable (digitsOK ds) := by unfold digitsOK; infer_instance

theorem digitVal_dec (d : Nat) (h : d < 10) : digitVal (d + 48) = some d := by
  unfold digitVal
  have : 48 ≤ d + 48 ∧ d + 48 ≤ 57 := by omega
  simp [this]

/-- `cs` spells the digits `ds` in base `base` (any mix of upper / lower case letters) -/
def Spells (base : Nat) : List Nat → List Nat → Prop
  | [], [] => True
  | c :: cs, d :: ds => digitVal c = some d ∧ d < base ∧ Spells base cs ds
  | _, _ => False

instance decSpells (base : Nat) : (cs ds : List Nat) → Decidable (Spells base cs ds)
  | [], [] => isTrue trivial
  | [], _ :: _ => isFalse (fun h => h)
  | _ :: _, [] => isFalse (fun h => h)
  | c :: cs, d :: ds =>
    have := decSpells base cs ds
    inferInstanceAs (Decidable (digitVal c = some d ∧ d < base ∧ Spells base cs ds))

def valIn (base : Nat) (ds : List Nat) : Nat := ds.foldl (fun n d => n * base + d) 0

theorem foldl_ge {base : Nat} (hb : 1 ≤ base) : ∀ (l : List Nat) (a : Nat), a ≤ l.foldl (fun n d => n * base + d) a
  | [], _ => Nat.le_refl _
  | x :: xs, a =>
    Nat.le_trans (Nat.le_trans (Nat.le_mul_of_pos_right a hb) (Nat.le_add_right _ x)) (foldl_ge hb xs (a * base + x))

theorem uintLoop_spells (base maxVal : Nat) (hb : 1 ≤ base) : ∀ (cs ds : List Nat) (n : Nat), Spells base cs ds →
    ds.foldl (fun n d => n * base + d) n ≤ maxVal →
    uintLoop base maxVal n cs = .ok (ds.foldl (fun n d => n * base + d) n) := by
  intro cs ds
  fun_induction Spells base cs ds with
  | case1 => intro n _ _; rfl
  | case2 c cs d ds ih =>
    intro n ⟨h1, h2, h3⟩ hmax
    -- the value read so far never exceeds the final one, so no step reports a range error
    have hle := foldl_ge hb ds (n * base + d)
    rw [List.foldl_cons] at hmax ⊢
    simp only [uintLoop, h1, show ¬ d ≥ base by omega, show ¬ n * base + d > maxVal by omega, if_false]
    exact ih _ h3 hmax
  | case3 => intro n h; exact h.elim

theorem spells_dec : ∀ ds : List Nat, digitsOK ds → Spells 10 (ds.map (· + 48)) ds
  | [], _ => trivial
  | d :: r, h => ⟨digitVal_dec d (h d (by simp)), h d (by simp), spells_dec r (fun x hx => h x (by simp [hx]))⟩

theorem parseUint_dec (ds : List Nat) (hne : ds ≠ []) (hd : digitsOK ds) (h : decVal ds ≤ 2 ^ 32 - 1) :
    parseUint (ds.map (· + 48)) 10 32 = .ok (decVal ds) := by
  have hne' : ¬ ds.map (· + 48) = [] := by simpa using hne
  simp only [parseUint, if_neg hne', ne_eq, show ¬ (10 : Nat) = 0 by decide, not_false_eq_true, if_true]
  exact uintLoop_spells 10 (2 ^ 32 - 1) (by decide) _ ds 0 (spells_dec ds hd) h

theorem parseInt_unsigned {c : Nat} {r : List Nat} {base bits V : Nat} (hc : c ≠ 43 ∧ c ≠ 45)
    (hu : parseUint (c :: r) base bits = .ok V) (hV : V < 2 ^ (bits - 1)) :
    parseInt (c :: r) base bits = ((V : Int), false) := by
  simp [parseInt, hc, hu, Nat.not_le.mpr hV]

theorem parseInt_plus {s : List Nat} {base bits V : Nat} (hu : parseUint s base bits = .ok V) (hV : V < 2 ^ (bits - 1)) :
    parseInt (43 :: s) base bits = ((V : Int), false) := by
  simp [parseInt, hu, Nat.not_le.mpr hV]

theorem parseInt_minus {s : List Nat} {base bits V : Nat} (hu : parseUint s base bits = .ok V) (hV : V ≤ 2 ^ (bits - 1)) :
    parseInt (45 :: s) base bits = (-(V : Int), false) := by
  simp [parseInt, hu, Nat.not_lt.mpr hV]

variable (ids : Ids) (buf : Array Nat)

/-- the Field nodes of a sibling chain, parsed in order, before numbering -/
def collectFields (fuel : Nat) : T → W (List Field)
  | .nil => .ok []
  | .node r b e up next =>
    if r = ids.rField then
      match parseField ids buf fuel (.node r b e up next) with
      | .ok f =>
        match collectFields fuel next with
        | .ok fs => .ok (f :: fs)
        | .err => .err | .panic => .panic | .crash => .crash
      | .err => .err | .panic => .panic | .crash => .crash
    else collectFields fuel next

/-- By the induction principle of `fieldsLoop`: the chain ends, a Field node that parses, one that does not (three
outcomes), another node. -/
theorem fieldsLoop_eq (fuel : Nat) (post : Field → Field) (t : T) (acc : List Field) :
    fieldsLoop ids buf fuel post acc t =
      match collectFields ids buf fuel t with
      | .ok fs => .ok ((fs.map post).foldl addField acc)
      | .err => .err | .panic => .panic | .crash => .crash := by
  fun_induction fieldsLoop ids buf fuel post acc t with
  | case1 => rfl
  | case2 acc b e up next f hp ih =>
    rw [collectFields, if_pos rfl, hp, ih]
    cases collectFields ids buf fuel next <;> rfl
  | case3 acc b e up next hp | case4 acc b e up next hp | case5 acc b e up next hp =>
    rw [collectFields, if_pos rfl, hp]
  | case6 acc r b e up next hr ih => rw [collectFields, if_neg hr, ih]

theorem fieldIdOf_hex (c : Nat) (cs ds : List Nat) (h : Spells 16 (c :: cs) ds) (hv : valIn 16 ds < 2 ^ 31) :
    fieldIdOf (48 :: 120 :: c :: cs) = some (valIn 16 ds : Int) := by
  have hl := uintLoop_spells 16 (2 ^ 32 - 1) (by decide) (c :: cs) ds 0 h (by unfold valIn at hv; omega)
  have hu : parseUint (48 :: 120 :: c :: cs) 0 32 = .ok (valIn 16 ds) := by
    simp [parseUint, lower, valIn, hl]
  -- base 10 is tried first and fails: `x` is no decimal digit
  have h10 : parseInt (48 :: 120 :: c :: cs) 10 32 = (0, true) := by
    simp [parseInt, parseUint, uintLoop, digitVal, lower]
  simp [fieldIdOf, h10, parseInt_unsigned (by decide) hu hv]

theorem fieldIdOf_octal (c : Nat) (cs ds : List Nat) (h : Spells 8 (c :: cs) ds) (hv : valIn 8 ds < 2 ^ 31) :
    fieldIdOf (48 :: 111 :: c :: cs) = some (valIn 8 ds : Int) := by
  have hl := uintLoop_spells 8 (2 ^ 32 - 1) (by decide) (c :: cs) ds 0 h (by unfold valIn at hv; omega)
  have hu : parseUint (48 :: 111 :: c :: cs) 0 32 = .ok (valIn 8 ds) := by
    simp [parseUint, lower, valIn, hl]
  have h10 : parseInt (48 :: 111 :: c :: cs) 10 32 = (0, true) := by
    simp [parseInt, parseUint, uintLoop, digitVal, lower]
  simp [fieldIdOf, h10, parseInt_unsigned (by decide) hu hv]

/-- zero-padded numerals too (`010` is 10): base 10 is tried first -/
theorem fieldIdOf_decimal (ds : List Nat) (hne : ds ≠ []) (hd : digitsOK ds) (h : decVal ds < 2 ^ 31) :
    fieldIdOf (ds.map (· + 48)) = some (decVal ds : Int) := by
  have hu := parseUint_dec ds hne hd (by omega)
  cases ds with
  | nil => exact absurd rfl hne
  | cons d r =>
    have hd10 : d < 10 := hd d (by simp)
    rw [List.map_cons] at hu ⊢
    simp [fieldIdOf, parseInt_unsigned ⟨by omega, by omega⟩ hu h]

theorem fieldIdOf_plus (ds : List Nat) (hne : ds ≠ []) (hd : digitsOK ds) (h : decVal ds < 2 ^ 31) :
    fieldIdOf (43 :: ds.map (· + 48)) = some (decVal ds : Int) := by
  simp [fieldIdOf, parseInt_plus (parseUint_dec ds hne hd (by omega)) h]

theorem fieldIdOf_minus (ds : List Nat) (hne : ds ≠ []) (hd : digitsOK ds) (h : decVal ds ≤ 2 ^ 31) :
    fieldIdOf (45 :: ds.map (· + 48)) = some (-(decVal ds : Int)) := by
  simp [fieldIdOf, parseInt_minus (parseUint_dec ds hne hd (by omega)) h]

end Walker
