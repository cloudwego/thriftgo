import ThriftVerif.Lib.Peg
/-
  Lemmas about the PEG matcher `Peg.run`: its successful branches as a relation (`Ok`, the form in which the tree
  lemmas of `PegTree` take a match apart), the consumption invariant, totality under `wf`.
-/
namespace Peg

theorem size_pos (e : Expr) : 0 < size e := by
  cases e <;> simp [size] <;> omega

/-- The successful branches of `run`, one constructor per branch.  That a sub-match failed (second alternative, end of
a loop, `!e`) is not recorded: nothing proved from `Ok` needs it. -/
inductive Ok (g : Grammar) : Expr → Nat → List Nat → Nat → List Nat → T → Prop
  | eps {pos s} : Ok g .eps pos s pos s .nil
  | rng {lo hi c pos r} : lo ≤ c ∧ c ≤ hi → Ok g (.rng lo hi) pos (c :: r) (pos + 1) r .nil
  | any {c pos r} : Ok g .any pos (c :: r) (pos + 1) r .nil
  | call {r body pos s p' s' t} : g.rules[r]? = some body → Ok g body pos s p' s' t →
      Ok g (.call r) pos s p' s' (.node r pos p' t .nil)
  | seq {a b pos s p1 s1 t1 p2 s2 t2} : Ok g a pos s p1 s1 t1 → Ok g b p1 s1 p2 s2 t2 →
      Ok g (.seq a b) pos s p2 s2 (t1.append t2)
  | altL {a b pos s p' s' t} : Ok g a pos s p' s' t → Ok g (.alt a b) pos s p' s' t
  | altR {a b pos s p' s' t} : Ok g b pos s p' s' t → Ok g (.alt a b) pos s p' s' t
  | starNil {e pos s} : Ok g (.star e) pos s pos s .nil
  | starCons {e pos s p1 s1 t1 p2 s2 t2} : Ok g e pos s p1 s1 t1 → Ok g (.star e) p1 s1 p2 s2 t2 →
      Ok g (.star e) pos s p2 s2 (t1.append t2)
  | plus {e pos s p1 s1 t1 p2 s2 t2} : Ok g e pos s p1 s1 t1 → Ok g (.star e) p1 s1 p2 s2 t2 →
      Ok g (.plus e) pos s p2 s2 (t1.append t2)
  | optNil {e pos s} : Ok g (.opt e) pos s pos s .nil
  | optSome {e pos s p' s' t} : Ok g e pos s p' s' t → Ok g (.opt e) pos s p' s' t
  | notP {e pos s} : Ok g (.notP e) pos s pos s .nil
  | andP {e pos s} : Ok g (.andP e) pos s pos s .nil
  | cap {e pos s p' s' t} : Ok g e pos s p' s' t → Ok g (.cap e) pos s p' s' (.node g.pegText pos p' t .nil)

/-- By the induction principle Lean derives from `run`: one goal per arm, numbered in the order of the definition; each
`case` below ends in the constructor of the arm it serves. -/
theorem Ok.of_run {g : Grammar} {fuel : Nat} {e : Expr} {pos : Nat} {s : List Nat} {p' : Nat} {s' : List Nat} {t : T}
    (h : run g fuel e pos s = .ok p' s' t) : Ok g e pos s p' s' t := by
  fun_induction run g fuel e pos s generalizing p' s' t
  case case2 =>
    cases h
    exact .eps
  case case3 hc =>
    cases h
    exact .rng hc
  case case6 =>
    cases h
    exact .any
  case case9 hb _ _ _ h1 ih =>
    cases h
    exact .call hb (ih h1)
  case case11 h1 _ _ _ h2 iha ihb =>
    cases h
    exact .seq (iha h1) (ihb h2)
  case case14 _ ih => exact .altR (ih h)
  case case15 ih => exact .altL (ih h)
  case case16 h1 _ _ _ h2 iha ihb =>
    cases h
    exact .starCons (iha h1) (ihb h2)
  case case18 =>
    cases h
    exact .starNil
  case case20 h1 _ _ _ h2 iha ihb =>
    cases h
    exact .plus (iha h1) (ihb h2)
  case case23 =>
    cases h
    exact .optNil
  case case24 ih => exact .optSome (ih h)
  case case26 =>
    cases h
    exact .notP
  case case28 =>
    cases h
    exact .andP
  case case30 h1 ih =>
    cases h
    exact .cap (ih h1)
  -- the other arms return no match: `fail`, `oof`, or a sub-result that the arm's hypothesis says is no match
  all_goals first | cases h | (exfalso; apply_assumption; exact h)

def NulSound (g : Grammar) (nul : List Bool) : Prop :=
  ∀ i body, g.rules[i]? = some body → nul.getD i true = false → nullable nul body = false

theorem Ok.consumes {g : Grammar} {nul : List Bool} (hn : NulSound g nul) {e : Expr} {pos p' : Nat} {s s' : List Nat} {t : T}
    (h : Ok g e pos s p' s' t) :
    s'.length ≤ s.length ∧ p' + s'.length = pos + s.length ∧ (nullable nul e = false → s'.length < s.length) := by
  induction h with
  | eps | starNil | optNil | notP | andP => exact ⟨Nat.le_refl _, rfl, fun hnul => nomatch hnul⟩
  | rng _ | any => exact ⟨Nat.le_succ _, Nat.add_right_comm .., fun _ => Nat.lt_succ_self _⟩
  | call hb _ ih => exact ⟨ih.1, ih.2.1, fun hnul => ih.2.2 (hn _ _ hb hnul)⟩
  | seq _ _ iha ihb =>
    refine ⟨Nat.le_trans ihb.1 iha.1, ihb.2.1.trans iha.2.1, fun hnul => ?_⟩
    simp only [nullable, Bool.and_eq_false_iff] at hnul
    cases hnul with
    | inl h' => exact Nat.lt_of_le_of_lt ihb.1 (iha.2.2 h')
    | inr h' => exact Nat.lt_of_lt_of_le (ihb.2.2 h') iha.1
  | altL _ ih =>
    refine ⟨ih.1, ih.2.1, fun hnul => ih.2.2 ?_⟩
    simp only [nullable, Bool.or_eq_false_iff] at hnul
    exact hnul.1
  | altR _ ih =>
    refine ⟨ih.1, ih.2.1, fun hnul => ih.2.2 ?_⟩
    simp only [nullable, Bool.or_eq_false_iff] at hnul
    exact hnul.2
  | starCons _ _ iha ihb => exact ⟨Nat.le_trans ihb.1 iha.1, ihb.2.1.trans iha.2.1, fun hnul => nomatch hnul⟩
  | plus _ _ iha ihb =>
    exact ⟨Nat.le_trans ihb.1 iha.1, ihb.2.1.trans iha.2.1, fun hnul => Nat.lt_of_le_of_lt ihb.1 (iha.2.2 hnul)⟩
  | optSome _ ih => exact ⟨ih.1, ih.2.1, fun hnul => nomatch hnul⟩
  | cap _ ih => exact ih

theorem nulSound_nil (g : Grammar) : NulSound g [] := by
  intro i body _ h; simp at h

/-- no hypothesis on the grammar: the empty table marks every rule nullable, so it is sound for any grammar -/
theorem Ok.pos_le {g : Grammar} {e : Expr} {pos p' : Nat} {s s' : List Nat} {t : T} (h : Ok g e pos s p' s' t) : pos ≤ p' := by
  have := h.consumes (nulSound_nil g)
  omega

theorem Ok.pos_lt {g : Grammar} {nul : List Bool} (hn : NulSound g nul) {e : Expr} {pos p' : Nat} {s s' : List Nat} {t : T}
    (h : Ok g e pos s p' s' t) (hne : nullable nul e = false) : pos < p' := by
  have := h.consumes hn
  have := this.2.2 hne
  omega

theorem Ok.nullable_of_empty {g : Grammar} {nul : List Bool} (hn : NulSound g nul) {e : Expr} {pos : Nat} {s s' : List Nat} {t : T}
    (h : Ok g e pos s pos s' t) : nullable nul e = true := by
  cases hne : nullable nul e with
  | true => rfl
  | false => exact absurd (h.pos_lt hn hne) (Nat.lt_irrefl _)

/-- the tables are read with several defaults -/
theorem getD_congr {α : Type} {l : List α} {i : Nat} (h : i < l.length) (d d' : α) : l.getD i d = l.getD i d' := by
  simp [List.getD_eq_getElem?_getD, List.getElem?_eq_getElem h]

structure WF (g : Grammar) (nul : List Bool) (rank : List Nat) : Prop where
  nulLen : nul.length = g.rules.size
  rankLen : rank.length = g.rules.size
  rule : ∀ i, i < g.rules.size → ruleOK g nul rank i = true

theorem wf_unpack {g : Grammar} {nul : List Bool} {rank : List Nat} (h : wf g nul rank = true) : WF g nul rank := by
  simp only [wf, Bool.and_eq_true, beq_iff_eq, List.all_eq_true, List.mem_range] at h
  exact ⟨h.1.1, h.1.2, h.2⟩

structure RuleFacts (g : Grammar) (nul : List Bool) (rank : List Nat) (i : Nat) (body : Expr) : Prop where
  lt : i < g.rules.size
  exprOK : exprOK g.rules.size nul body = true
  headOK : headOK nul rank (rank.getD i 0) body = true
  rankLt : ∀ d, rank.getD i d < g.rules.size
  nulClosed : nullable nul body = true → ∀ d, nul.getD i d = true

theorem WF.facts {g : Grammar} {nul : List Bool} {rank : List Nat} (h : WF g nul rank) {i : Nat} {body : Expr}
    (hb : g.rules[i]? = some body) : RuleFacts g nul rank i body := by
  obtain ⟨hlt, _⟩ := Array.getElem?_eq_some_iff.mp hb
  have hr := h.rule i hlt
  simp only [ruleOK, hb, Bool.and_eq_true, Bool.or_eq_true, Bool.not_eq_true', decide_eq_true_eq] at hr
  obtain ⟨⟨⟨h1, h2⟩, h3⟩, h4⟩ := hr
  refine ⟨hlt, h1, h2, fun d => getD_congr (h.rankLen ▸ hlt) _ d ▸ h3, fun hn d => ?_⟩
  rw [hn] at h4
  exact getD_congr (h.nulLen ▸ hlt) _ d ▸ h4.resolve_left Bool.noConfusion

theorem WF.nulSound {g : Grammar} {nul : List Bool} {rank : List Nat} (h : WF g nul rank) : NulSound g nul := by
  intro i body hb hf
  cases hnb : nullable nul body with
  | false => rfl
  | true => rw [(h.facts hb).nulClosed hnb true] at hf; cases hf

theorem size_le_maxSize {g : Grammar} {i : Nat} {body : Expr} (hb : g.rules[i]? = some body) : size body ≤ maxSize g := by
  have hmem : body ∈ g.rules.toList := Array.mem_toList_iff.mpr (Array.mem_of_getElem? hb)
  unfold maxSize
  generalize g.rules.toList = l at hmem
  induction l with
  | nil => cases hmem
  | cons x xs ih =>
    simp only [List.map_cons, List.foldr_cons]
    cases hmem with
    | head => omega
    | tail _ h' => have := ih h'; omega

/-- level `K` = the number of rules is above every rank: `run_no_oof` restarts there once a rune is consumed -/
theorem headOK_top {nul : List Bool} {rank : List Nat} {K : Nat} (hr : ∀ r, r < K → rank.getD r K < K) :
    ∀ e, exprOK K nul e = true → headOK nul rank K e = true := by
  intro e
  induction e with
  | eps | rng _ _ | any => intro _; rfl
  | call r => intro h; exact decide_eq_true (hr r (of_decide_eq_true h))
  | seq a b iha ihb =>
    intro h
    simp only [exprOK, Bool.and_eq_true] at h
    simp only [headOK, Bool.and_eq_true, Bool.or_eq_true]
    exact ⟨iha h.1, .inr (ihb h.2)⟩
  | alt a b iha ihb =>
    intro h
    simp only [exprOK, Bool.and_eq_true] at h
    simp only [headOK, Bool.and_eq_true]
    exact ⟨iha h.1, ihb h.2⟩
  | star e ih | plus e ih =>
    intro h
    simp only [exprOK, Bool.and_eq_true] at h
    exact ih h.1
  | opt e ih | notP e ih | andP e ih | cap e ih => exact ih

section Total
variable {g : Grammar} {nul : List Bool} {rank : List Nat}

/-- `S`: strictly above every rule body's size (and ≥ 2) -/
def bigS (g : Grammar) : Nat := maxSize g + 2
/-- `W`: the fuel one consumed rune pays for -/
def bigW (g : Grammar) : Nat := (g.rules.size + 2) * bigS g

theorem bigW_eq (g : Grammar) : bigW g = g.rules.size * bigS g + 2 * bigS g := Nat.add_mul ..

theorem rank_top (h : WF g nul rank) (r : Nat) (hr : r < g.rules.size) : rank.getD r g.rules.size < g.rules.size :=
  (h.facts (Array.getElem?_eq_getElem hr)).rankLt _

/-- The measure `|s|·W + k·S + size e` bounds the recursion depth of `run` on `e` at level `k`. -/
theorem run_no_oof (h : WF g nul rank) :
    ∀ (fuel : Nat) (e : Expr) (pos : Nat) (s : List Nat) (k : Nat),
      exprOK g.rules.size nul e = true → headOK nul rank k e = true → size e ≤ bigS g → k ≤ g.rules.size →
      s.length * bigW g + k * bigS g + size e ≤ fuel → run g fuel e pos s ≠ .oof := by
  intro fuel
  induction fuel with
  | zero =>
    intro e pos s k _ _ _ _ hf
    have := size_pos e
    omega
  | succ fuel ih =>
    intro e pos s k hok hhd hsz hk hf
    have shrink : ∀ (e' : Expr) (p1 : Nat) (s1 : List Nat), exprOK g.rules.size nul e' = true → size e' ≤ bigS g →
        s1.length < s.length → run g fuel e' p1 s1 ≠ .oof := by
      intro e' p1 s1 hok' hsz' hlt
      apply ih e' p1 s1 g.rules.size hok' (headOK_top (rank_top h) e' hok') hsz' (Nat.le_refl _)
      have h1 : (s1.length + 1) * bigW g ≤ s.length * bigW g := Nat.mul_le_mul_right _ hlt
      rw [Nat.add_mul, Nat.one_mul] at h1
      have hW := bigW_eq g
      have := size_pos e
      omega
    have same : ∀ (e' : Expr) (p1 : Nat) (s1 : List Nat), exprOK g.rules.size nul e' = true → headOK nul rank k e' = true →
        size e' < size e → s1.length ≤ s.length → run g fuel e' p1 s1 ≠ .oof := by
      intro e' p1 s1 hok' hhd' hsz' hle
      apply ih e' p1 s1 k hok' hhd' (by omega) hk
      have h1 : s1.length * bigW g ≤ s.length * bigW g := Nat.mul_le_mul_right _ hle
      omega
    have inv : ∀ {e' : Expr} {p1 : Nat} {s1 : List Nat} {t1 : T}, run g fuel e' pos s = .ok p1 s1 t1 →
        s1.length ≤ s.length ∧ (nullable nul e' = false → s1.length < s.length) :=
      fun h1 => have c := (Ok.of_run h1).consumes h.nulSound; ⟨c.1, c.2.2⟩
    cases e with
    | eps => simp [run]
    | rng lo hi =>
      cases s with
      | nil => simp [run]
      | cons c r => simp only [run]; split <;> simp
    | any => cases s <;> simp [run]
    | call r =>
      cases hb : g.rules[r]? with
      | none => simp [run, hb]
      | some body =>
        have f := h.facts hb
        have hrk : rank.getD r 0 < k := by
          simp only [headOK, decide_eq_true_eq] at hhd
          exact getD_congr (h.rankLen ▸ f.lt) _ 0 ▸ hhd
        have hbs : size body ≤ bigS g := Nat.le_add_right_of_le (size_le_maxSize hb)
        have hbody : run g fuel body pos s ≠ .oof := by
          apply ih body pos s (rank.getD r 0) f.exprOK f.headOK hbs (Nat.le_of_lt (f.rankLt 0))
          have h1 : (rank.getD r 0 + 1) * bigS g ≤ k * bigS g := Nat.mul_le_mul_right _ hrk
          rw [Nat.add_mul, Nat.one_mul] at h1
          simp only [size] at hf
          omega
        -- where `run` hands a sub-result on (`| x => x`), the goal after `split` is that sub-run's own `≠ oof`
        simp only [run, hb]
        split
        · nofun
        · exact hbody
    | seq a b =>
      simp only [exprOK, Bool.and_eq_true] at hok
      simp only [headOK, Bool.and_eq_true, Bool.or_eq_true, Bool.not_eq_true'] at hhd
      simp only [size] at hsz hf
      simp only [run]
      split
      · next p1 s1 t1 h1 =>
        split
        · nofun
        · cases hhd.2 with
          | inl hna => exact shrink b p1 s1 hok.2 (by omega) ((inv h1).2 hna)
          | inr hhb => exact same b p1 s1 hok.2 hhb (by simp only [size]; omega) (inv h1).1
      · exact same a pos s hok.1 hhd.1 (by simp only [size]; omega) (Nat.le_refl _)
    | alt a b =>
      simp only [exprOK, Bool.and_eq_true] at hok
      simp only [headOK, Bool.and_eq_true] at hhd
      simp only [run]
      split
      · exact same b pos s hok.2 hhd.2 (by simp only [size]; omega) (Nat.le_refl _)
      · exact same a pos s hok.1 hhd.1 (by simp only [size]; omega) (Nat.le_refl _)
    | star e | plus e =>
      have hok' := hok
      simp only [exprOK, Bool.and_eq_true, Bool.not_eq_true'] at hok'
      have ha := same e pos s hok'.1 hhd (by simp only [size]; omega) (Nat.le_refl _)
      simp only [run]
      cases h1 : run g fuel e pos s with
      | oof => exact absurd h1 ha
      | fail => simp
      | ok p1 s1 t1 =>
        -- in the `plus` arm `hok` is `exprOK … (.plus e)`: it serves for `.star e` because `exprOK` has the same clause for both
        have hb : run g fuel (.star e) p1 s1 ≠ .oof :=
          shrink (.star e) p1 s1 hok (by simp only [size] at hsz ⊢; omega) ((inv h1).2 hok'.2)
        cases h2 : run g fuel (.star e) p1 s1 with
        | oof => exact absurd h2 hb
        | _ => simp [h2]
    | opt e | notP e | andP e | cap e =>
      have ha := same e pos s hok hhd (by simp only [size]; omega) (Nat.le_refl _)
      simp only [run]
      cases h1 : run g fuel e pos s with
      | oof => exact absurd h1 ha
      | _ => simp

theorem Ok.of_parseRunes {rs : List Nat} {p' : Nat} {s' : List Nat} {t : T} (h : parseRunes g rs = .ok p' s' t) :
    Ok g (.call 0) 0 rs p' s' t :=
  Ok.of_run h

theorem parseRunes_no_oof (h : WF g nul rank) (rs : List Nat) : parseRunes g rs ≠ .oof := by
  unfold parseRunes
  rcases Nat.eq_zero_or_pos g.rules.size with h0 | hpos
  · have : g.rules[0]? = none := Array.getElem?_eq_none (by omega)
    simp [fuelFor, run, this]
  · apply run_no_oof h _ (.call 0) 0 rs g.rules.size
    · simp only [exprOK, decide_eq_true_eq]; exact hpos
    · simp only [headOK, decide_eq_true_eq]; exact rank_top h 0 hpos
    · simp only [size]; unfold bigS; omega
    · exact Nat.le_refl _
    · have e1 : fuelFor g rs.length = rs.length * bigW g + bigW g + 1 := by
        unfold fuelFor bigW bigS; rw [Nat.add_mul, Nat.one_mul]
      rw [e1, bigW_eq]
      simp only [size]
      omega

end Total

end Peg
