import ThriftVerif.Lib.Options
import ThriftVerif.Lib.OptionsLemmas
/- The command-line path of C20 (ParseCompactArguments → checkOptions → Pack → HandleOptions).  Pack re-joins what
ParseCompactArguments split (`repack`), and HandleOptions cannot tell the result from the option as written; what
HandleOptions leaves behind apart from the process-wide naming-style flags (`Cfg.core`) does not depend on the flags it
starts from. -/
namespace Options

/-- strings.Join(as, ",") -/
def joinComma : List Bytes → Bytes
  | [] => []
  | [a] => a
  | a :: b :: r => a ++ 44 :: joinComma (b :: r)

theorem splitComma_eq : ∀ s, splitComma s = Plugin.splitOn 44 s
  | [] => rfl
  | x :: r => by
    rw [splitComma, Plugin.splitOn, splitComma_eq r]
    cases Plugin.splitOn 44 r <;> rfl

theorem joinComma_eq : ∀ as, joinComma as = Plugin.joinComma as
  | [] => rfl
  | [_] => rfl
  | a :: b :: r => by rw [joinComma, Plugin.joinComma, joinComma_eq (b :: r)]

theorem splitComma_joinComma (as : List Bytes) (hne : as ≠ []) (hc : ∀ a ∈ as, (44 : Nat) ∉ a) :
    splitComma (joinComma as) = as := by
  rw [splitComma_eq, joinComma_eq]
  exact Plugin.splitOn_joinComma as hne fun a ha => noSep (hc a ha)

/-- what Pack makes of one parsed option: `name=value`, `name=` for a bare name -/
def repack (a : Bytes) : Bytes := (splitEq a).1 ++ 61 :: (splitEq a).2.getD []

theorem splitEq_fst_noEq (a : Bytes) : (61 : Nat) ∉ (splitEq a).1 := by
  fun_induction splitEq a
  · exact List.not_mem_nil
  · exact List.not_mem_nil
  · next x r hx n v hr ih =>
    rw [hr] at ih
    exact List.not_mem_cons_of_ne_of_not_mem (Ne.symm hx) ih

theorem splitEq_repack (a : Bytes) :
    splitEq (repack a) = ((splitEq a).1, some ((splitEq a).2.getD [])) :=
  splitEq_joinEq (splitEq a).1 (some ((splitEq a).2.getD [])) (splitEq_fst_noEq a)

theorem resolve_repack (env : Env) (a : Bytes) : resolve env (repack a) = resolve env a := by
  simp [resolve, splitEq_repack]

theorem step_repack (env : Env) (c : Cfg) (a : Bytes) : step env c (repack a) = step env c a := by
  simp [step, resolve_repack]

theorem run_repack (env : Env) : ∀ (as : List Bytes) (c : Cfg), run env c (as.map repack) = run env c as
  | [], _ => rfl
  | a :: r, c => by
    simp only [List.map, run, step_repack]
    cases step env c a with
    | none => rfl
    | some c' => exact run_repack env r c'

theorem runP_repack (env : Env) : ∀ (as : List Bytes) (c : Cfg), runP env c (as.map repack) = runP env c as
  | [], _ => rfl
  | a :: r, c => by
    simp only [List.map, runP, step_repack]
    cases step env c a with
    | none => rfl
    | some c' => exact runP_repack env r c'

theorem pack_parseOpts (s : Bytes) : pack (parseOpts s) = (splitComma s).map repack := by
  simp [pack, parseOpts, repack, List.map_map, Function.comp_def]

theorem probe_repack (env : Env) (as : List Bytes) : probe env (as.map repack) = probe env as := by
  simp [probe, runP_repack]

theorem handleFrom_repack (env : Env) (c : Cfg) (as : List Bytes) :
    handleFrom env c (as.map repack) = handleFrom env c as := by
  simp [handleFrom, run_repack]

theorem run_append (env : Env) : ∀ (as bs : List Bytes) (c : Cfg),
    run env c (as ++ bs) = (run env c as).bind (fun c' => run env c' bs)
  | [], _, _ => rfl
  | a :: r, bs, c => by
    simp only [List.cons_append, run]
    cases step env c a with
    | none => rfl
    | some c' => exact run_append env r bs c'

/-- the three results in the one form `o ++ if … then [·] else []`, to which `pack_append` applies -/
theorem checkOptions_eq (env : Env) (ce : CmdEnv) (o : List (Bytes × Bytes)) :
    checkOptions env ce o =
      if ce.probeErrReturned && (handle env (pack o)).isNone then none
      else some (o ++ if feat (probe env (pack o)) ce.iNested && !(o.any fun p => p.1 == ce.templateName)
                      then [(ce.templateName, env.slimName)] else []) := by
  unfold checkOptions
  cases ce.probeErrReturned && (handle env (pack o)).isNone
  · cases feat (probe env (pack o)) ce.iNested
    · simp
    · cases o.any fun p => p.1 == ce.templateName <;> simp
  · rfl

theorem pack_append (a b : List (Bytes × Bytes)) : pack (a ++ b) = pack a ++ pack b := List.map_append

def optName (a : Bytes) : Bytes := (splitEq a).1

theorem parseOpts_names (s : Bytes) (t : Bytes) :
    (parseOpts s).any (fun p => p.1 == t) = (splitComma s).any (fun a => optName a == t) := by
  simp [parseOpts, List.any_map, Function.comp_def, optName]

def Cfg.core (c : Cfg) : List Bool × Bytes × Bool × Bytes × Bytes × List (Bytes × Bytes) :=
  (c.features, c.style, c.doInit, c.pkgPrefix, c.template, c.repl)

theorem act_flags (env : Env) (c : Cfg) (f : List (Bytes × Bool)) (k : Kind) (v : Bytes) :
    (act env { c with styleFlags := f } k v).map Cfg.core = (act env c k v).map Cfg.core := by
  cases k <;> simp only [act]
  case thriftImportPath | packagePrefix => rfl
  -- no guard reads the flags, and both sides write the same values outside them
  all_goals split <;> rfl

theorem step_flags (env : Env) (c : Cfg) (f : List (Bytes × Bool)) (a : Bytes) :
    (step env { c with styleFlags := f } a).map Cfg.core = (step env c a).map Cfg.core := by
  unfold step
  split
  · exact act_flags env c f _ _
  · rfl

theorem map_core_cases {x y : Option Cfg} (h : x.map Cfg.core = y.map Cfg.core) :
    (x = none ∧ y = none) ∨ ∃ c f, x = some { c with styleFlags := f } ∧ y = some c := by
  cases x <;> cases y <;> simp at h
  · exact .inl ⟨rfl, rfl⟩
  · next d c =>
    cases d
    cases c
    cases h
    exact .inr ⟨_, _, rfl, rfl⟩

theorem run_flags (env : Env) : ∀ (as : List Bytes) (c : Cfg) (f : List (Bytes × Bool)),
    (run env { c with styleFlags := f } as).map Cfg.core = (run env c as).map Cfg.core
  | [], _, _ => rfl
  | a :: r, c, f => by
    simp only [run]
    rcases map_core_cases (step_flags env c f a) with ⟨hc, hd⟩ | ⟨c', f', hc, hd⟩
    · rw [hc, hd]
    · rw [hc, hd]
      exact run_flags env r c' f'

theorem slimRule_flags (env : Env) (c : Cfg) (f : List (Bytes × Bool)) :
    slimRule env { c with styleFlags := f } = { slimRule env c with styleFlags := f } := by
  unfold slimRule
  split <;> rfl

theorem invalid_flags (env : Env) (c : Cfg) (f : List (Bytes × Bool)) :
    invalid env { c with styleFlags := f } = invalid env c := rfl

theorem handleFrom_flags (env : Env) (c : Cfg) (f : List (Bytes × Bool)) (as : List Bytes) :
    (handleFrom env { c with styleFlags := f } as).map Cfg.core = (handleFrom env c as).map Cfg.core := by
  unfold handleFrom
  rcases map_core_cases (run_flags env as c f) with ⟨hc, hd⟩ | ⟨c', f', hc, hd⟩
  · rw [hc, hd]
  · rw [hc, hd]
    simp only [slimRule_flags, invalid_flags]
    split <;> rfl

theorem handleFrom_last_template (env : Env) (c0 : Cfg) (as : List Bytes) (o t : Bytes)
    (hres : resolve env o = some (.template, t)) (c : Cfg) (h : handleFrom env c0 (as ++ [o]) = some c) :
    c.template = t := by
  unfold handleFrom at h
  rw [run_append] at h
  cases hr : run env c0 as with
  | none => simp [hr] at h
  | some c1 =>
    simp only [hr, Option.bind_some, run, step, hres, act] at h
    by_cases hm : env.templates.contains t = true
    · simp only [hm, if_true] at h
      split at h
      · contradiction
      · rw [← Option.some.inj h, slimRule_template]
    · rw [if_neg hm] at h
      cases h

/-- for any string after `-g go:`; `splitComma_joinComma` says what its pieces are when it was joined from a list -/
theorem cmdline_eq (env : Env) (ce : CmdEnv) (hE : ce.probeErrReturned = true) (s : Bytes) :
    cmdline env ce s =
      if (handle env (splitComma s)).isNone then none
      else handleFrom env { init env with styleFlags := (probe env (splitComma s)).styleFlags }
        (splitComma s ++
          if feat (probe env (splitComma s)) ce.iNested && !((splitComma s).any fun a => optName a == ce.templateName)
          then [ce.templateName ++ 61 :: env.slimName] else []) := by
  have hh : handle env ((splitComma s).map repack) = handle env (splitComma s) := handleFrom_repack env _ _
  unfold cmdline
  simp only [checkOptions_eq, pack_parseOpts, probe_repack, parseOpts_names, hh, hE, Bool.true_and]
  cases (handle env (splitComma s)).isNone
  · simp only [Bool.false_eq_true, if_false, pack_append, pack_parseOpts, apply_ite pack, handleFrom, run_append,
      run_repack]
    rfl
  · rfl

end Options
