import ThriftVerif.Lib.PegLemmas
/-
  Fuel monotonicity of `Peg.run`: a result other than `oof` does not depend on the fuel.  `Runs` hides the fuel
  (`∃ fuel, run … = r`, `r ≠ oof`) and has an introduction rule for every branch of `run` but `andP`, failures included.
  The token lemmas (`PegTakes`) go through those for `rng`, `any`, `call`, `seq`, `alt`, `star`, `plus` and `notP`; those
  for `eps`, `opt` and `cap`, and `Runs.of_fuel`, no proof uses.  A `Runs` statement speaks of the matcher on one
  expression at one position: `run` returns that result with every fuel that does not run out (`Runs.unique`).  No
  theorem here composes it with `parseRunes`.
-/
namespace Peg

theorem run_mono {g : Grammar} : ∀ {fuel fuel' : Nat} {e : Expr} {pos : Nat} {s : List Nat},
    run g fuel e pos s ≠ .oof → fuel ≤ fuel' → run g fuel' e pos s = run g fuel e pos s := by
  intro fuel
  induction fuel with
  | zero => intro fuel' e pos s hr; simp [run] at hr
  | succ fuel ih =>
    intro fuel' e pos s hr hle
    obtain ⟨f', rfl⟩ : ∃ f', fuel' = f' + 1 := ⟨fuel' - 1, by omega⟩
    have sub : ∀ {e' : Expr} {p : Nat} {s' : List Nat} {x : Res}, run g fuel e' p s' = x → x ≠ .oof → run g f' e' p s' = x :=
      fun hx hne => hx ▸ ih (hx ▸ hne) (by omega)
    cases e with
    | eps => simp [run]
    | rng lo hi | any => cases s <;> simp [run]
    | call r =>
      cases hb : g.rules[r]? with
      | none => simp [run, hb]
      | some body =>
        cases hx : run g fuel body pos s with
        | oof => simp [run, hb, hx] at hr
        | _ => simp [run, hb, hx, sub hx]
    | seq a b =>
      cases hx : run g fuel a pos s with
      | oof => simp [run, hx] at hr
      | fail => simp [run, hx, sub hx]
      | ok p1 s1 t1 =>
        cases hy : run g fuel b p1 s1 with
        | oof => simp [run, hx, hy] at hr
        | _ => simp [run, hx, hy, sub hx, sub hy]
    | alt a b =>
      cases hx : run g fuel a pos s with
      | oof => simp [run, hx] at hr
      | ok p1 s1 t1 => simp [run, hx, sub hx]
      | fail =>
        simp only [run, hx] at hr
        simp [run, hx, sub hx, ih hr (Nat.le_of_succ_le_succ hle)]
    | star e | plus e =>
      cases hx : run g fuel e pos s with
      | oof => simp [run, hx] at hr
      | fail => simp [run, hx, sub hx]
      | ok p1 s1 t1 =>
        cases hy : run g fuel (.star e) p1 s1 with
        | oof => simp [run, hx, hy] at hr
        | _ => simp [run, hx, hy, sub hx, sub hy]
    | opt e | notP e | andP e | cap e =>
      cases hx : run g fuel e pos s with
      | oof => simp [run, hx] at hr
      | _ => simp [run, hx, sub hx]

def Runs (g : Grammar) (e : Expr) (pos : Nat) (s : List Nat) (r : Res) : Prop :=
  ∃ fuel, run g fuel e pos s = r ∧ r ≠ .oof

theorem Runs.common {g : Grammar} {e1 e2 : Expr} {p1 p2 : Nat} {s1 s2 : List Nat} {r1 r2 : Res}
    (h1 : Runs g e1 p1 s1 r1) (h2 : Runs g e2 p2 s2 r2) :
    ∃ fuel, run g fuel e1 p1 s1 = r1 ∧ run g fuel e2 p2 s2 = r2 := by
  obtain ⟨f1, rfl, hr1⟩ := h1
  obtain ⟨f2, rfl, hr2⟩ := h2
  exact ⟨max f1 f2, run_mono hr1 (Nat.le_max_left _ _), run_mono hr2 (Nat.le_max_right _ _)⟩

theorem Runs.unique {g : Grammar} {e : Expr} {pos : Nat} {s : List Nat} {r1 r2 : Res}
    (h1 : Runs g e pos s r1) (h2 : Runs g e pos s r2) : r1 = r2 := by
  obtain ⟨f, a, b⟩ := h1.common h2
  rw [← a, ← b]

theorem Runs.of_fuel {g : Grammar} {e : Expr} {pos : Nat} {s : List Nat} {r : Res} {fuel : Nat}
    (h : run g fuel e pos s = r) (hr : r ≠ .oof) : Runs g e pos s r := ⟨fuel, h, hr⟩

theorem Runs.ok {g : Grammar} {e : Expr} {pos p' : Nat} {s s' : List Nat} {t : T} (h : Runs g e pos s (.ok p' s' t)) :
    Ok g e pos s p' s' t :=
  let ⟨_, hf, _⟩ := h
  Ok.of_run hf

section
variable {g : Grammar}

theorem Runs.eps {pos : Nat} {s : List Nat} : Runs g .eps pos s (.ok pos s .nil) := ⟨1, by simp [run], by simp⟩

theorem Runs.rng_ok {lo hi c pos : Nat} {r : List Nat} (h : lo ≤ c ∧ c ≤ hi) :
    Runs g (.rng lo hi) pos (c :: r) (.ok (pos + 1) r .nil) := ⟨1, by simp [run, h], by simp⟩

theorem Runs.rng_fail {lo hi c pos : Nat} {r : List Nat} (h : ¬ (lo ≤ c ∧ c ≤ hi)) :
    Runs g (.rng lo hi) pos (c :: r) .fail := ⟨1, by simp [run, h], by simp⟩

theorem Runs.rng_nil {lo hi pos : Nat} : Runs g (.rng lo hi) pos [] .fail := ⟨1, by simp [run], by simp⟩

theorem Runs.any_ok {c pos : Nat} {r : List Nat} : Runs g .any pos (c :: r) (.ok (pos + 1) r .nil) := ⟨1, by simp [run], by simp⟩

theorem Runs.any_nil {pos : Nat} : Runs g .any pos [] .fail := ⟨1, by simp [run], by simp⟩

theorem Runs.call_ok {r pos p' : Nat} {s s' : List Nat} {t : T} {body : Expr} (hb : g.rules[r]? = some body)
    (h : Runs g body pos s (.ok p' s' t)) : Runs g (.call r) pos s (.ok p' s' (.node r pos p' t .nil)) := by
  obtain ⟨f, hf, _⟩ := h
  exact ⟨f + 1, by simp [run, hb, hf], by simp⟩

theorem Runs.call_fail {r pos : Nat} {s : List Nat} {body : Expr} (hb : g.rules[r]? = some body)
    (h : Runs g body pos s .fail) : Runs g (.call r) pos s .fail := by
  obtain ⟨f, hf, _⟩ := h
  exact ⟨f + 1, by simp [run, hb, hf], by simp⟩

theorem Runs.seq_ok {a b : Expr} {pos p1 p2 : Nat} {s s1 s2 : List Nat} {t1 t2 : T}
    (ha : Runs g a pos s (.ok p1 s1 t1)) (hb : Runs g b p1 s1 (.ok p2 s2 t2)) :
    Runs g (.seq a b) pos s (.ok p2 s2 (t1.append t2)) := by
  obtain ⟨f, hfa, hfb⟩ := ha.common hb
  exact ⟨f + 1, by simp [run, hfa, hfb], by simp⟩

theorem Runs.seq_fail1 {a b : Expr} {pos : Nat} {s : List Nat} (ha : Runs g a pos s .fail) : Runs g (.seq a b) pos s .fail := by
  obtain ⟨fa, hfa, _⟩ := ha
  exact ⟨fa + 1, by simp [run, hfa], by simp⟩

theorem Runs.seq_fail2 {a b : Expr} {pos p1 : Nat} {s s1 : List Nat} {t1 : T}
    (ha : Runs g a pos s (.ok p1 s1 t1)) (hb : Runs g b p1 s1 .fail) : Runs g (.seq a b) pos s .fail := by
  obtain ⟨f, hfa, hfb⟩ := ha.common hb
  exact ⟨f + 1, by simp [run, hfa, hfb], by simp⟩

theorem Runs.alt_l {a b : Expr} {pos p1 : Nat} {s s1 : List Nat} {t1 : T} (ha : Runs g a pos s (.ok p1 s1 t1)) :
    Runs g (.alt a b) pos s (.ok p1 s1 t1) := by
  obtain ⟨fa, hfa, _⟩ := ha
  exact ⟨fa + 1, by simp [run, hfa], by simp⟩

theorem Runs.alt_r {a b : Expr} {pos : Nat} {s : List Nat} {r : Res} (ha : Runs g a pos s .fail) (hb : Runs g b pos s r) :
    Runs g (.alt a b) pos s r := by
  obtain ⟨f, hfa, hfb⟩ := ha.common hb
  exact ⟨f + 1, by simp [run, hfa, hfb], hb.elim fun _ h => h.2⟩

theorem Runs.star_nil {e : Expr} {pos : Nat} {s : List Nat} (he : Runs g e pos s .fail) :
    Runs g (.star e) pos s (.ok pos s .nil) := by
  obtain ⟨f, hf, _⟩ := he
  exact ⟨f + 1, by simp [run, hf], by simp⟩

theorem Runs.star_cons {e : Expr} {pos p1 p2 : Nat} {s s1 s2 : List Nat} {t1 t2 : T}
    (he : Runs g e pos s (.ok p1 s1 t1)) (hs : Runs g (.star e) p1 s1 (.ok p2 s2 t2)) :
    Runs g (.star e) pos s (.ok p2 s2 (t1.append t2)) := by
  obtain ⟨f, hfa, hfb⟩ := he.common hs
  exact ⟨f + 1, by simp [run, hfa, hfb], by simp⟩

theorem Runs.plus_ok {e : Expr} {pos p1 p2 : Nat} {s s1 s2 : List Nat} {t1 t2 : T}
    (he : Runs g e pos s (.ok p1 s1 t1)) (hs : Runs g (.star e) p1 s1 (.ok p2 s2 t2)) :
    Runs g (.plus e) pos s (.ok p2 s2 (t1.append t2)) := by
  obtain ⟨f, hfa, hfb⟩ := he.common hs
  exact ⟨f + 1, by simp [run, hfa, hfb], by simp⟩

theorem Runs.plus_fail {e : Expr} {pos : Nat} {s : List Nat} (he : Runs g e pos s .fail) : Runs g (.plus e) pos s .fail := by
  obtain ⟨f, hf, _⟩ := he
  exact ⟨f + 1, by simp [run, hf], by simp⟩

theorem Runs.opt_some {e : Expr} {pos p1 : Nat} {s s1 : List Nat} {t1 : T} (he : Runs g e pos s (.ok p1 s1 t1)) :
    Runs g (.opt e) pos s (.ok p1 s1 t1) := by
  obtain ⟨f, hf, _⟩ := he
  exact ⟨f + 1, by simp [run, hf], by simp⟩

theorem Runs.opt_none {e : Expr} {pos : Nat} {s : List Nat} (he : Runs g e pos s .fail) :
    Runs g (.opt e) pos s (.ok pos s .nil) := by
  obtain ⟨f, hf, _⟩ := he
  exact ⟨f + 1, by simp [run, hf], by simp⟩

theorem Runs.not_ok {e : Expr} {pos : Nat} {s : List Nat} (he : Runs g e pos s .fail) :
    Runs g (.notP e) pos s (.ok pos s .nil) := by
  obtain ⟨f, hf, _⟩ := he
  exact ⟨f + 1, by simp [run, hf], by simp⟩

theorem Runs.not_fail {e : Expr} {pos p1 : Nat} {s s1 : List Nat} {t1 : T} (he : Runs g e pos s (.ok p1 s1 t1)) :
    Runs g (.notP e) pos s .fail := by
  obtain ⟨f, hf, _⟩ := he
  exact ⟨f + 1, by simp [run, hf], by simp⟩

theorem Runs.cap_ok {e : Expr} {pos p1 : Nat} {s s1 : List Nat} {t1 : T} (he : Runs g e pos s (.ok p1 s1 t1)) :
    Runs g (.cap e) pos s (.ok p1 s1 (.node g.pegText pos p1 t1 .nil)) := by
  obtain ⟨f, hf, _⟩ := he
  exact ⟨f + 1, by simp [run, hf], by simp⟩

theorem Runs.cap_fail {e : Expr} {pos : Nat} {s : List Nat} (he : Runs g e pos s .fail) : Runs g (.cap e) pos s .fail := by
  obtain ⟨f, hf, _⟩ := he
  exact ⟨f + 1, by simp [run, hf], by simp⟩

end

end Peg
