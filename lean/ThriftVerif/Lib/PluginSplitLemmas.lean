import ThriftVerif.Lib.Plugin
/- `strings.Cut`, `strings.Split`, `strings.SplitN(·, ·, 2)` with a one-byte separator and `strings.Join(·, ",")`: what they
do on a string whose first piece is free of the separator.  Used by the plugin option strings (C11) and by the
`-g go:…` path of the backend options (C20), which calls the same `plugin.ParseCompactArguments`. -/
namespace Plugin

theorem cut_nosep (sep : Nat) (x r : Bytes) (h : ∀ c, c ∈ x → c ≠ sep) :
    cut sep (x ++ sep :: r) = (x, r, true) := by
  induction x with
  | nil => simp [cut]
  | cons a x ih =>
    obtain ⟨ha, hx⟩ := List.forall_mem_cons.mp h
    simp [cut, ha, ih hx]

theorem cut_none (sep : Nat) (x : Bytes) (h : ∀ c, c ∈ x → c ≠ sep) : cut sep x = (x, [], false) := by
  induction x with
  | nil => simp [cut]
  | cons a x ih =>
    obtain ⟨ha, hx⟩ := List.forall_mem_cons.mp h
    simp [cut, ha, ih hx]

theorem splitOn_ne_nil (sep : Nat) (x : Bytes) : splitOn sep x ≠ [] := by
  fun_cases splitOn sep x
  all_goals exact List.cons_ne_nil _ _

theorem splitOn_nosep (sep : Nat) (x r : Bytes) (h : ∀ c, c ∈ x → c ≠ sep) :
    splitOn sep (x ++ sep :: r) = x :: splitOn sep r := by
  induction x with
  | nil => simp [splitOn]
  | cons a x ih =>
    obtain ⟨ha, hx⟩ := List.forall_mem_cons.mp h
    simp [splitOn, ha, ih hx]

theorem splitOn_none (sep : Nat) (x : Bytes) (h : ∀ c, c ∈ x → c ≠ sep) : splitOn sep x = [x] := by
  induction x with
  | nil => simp [splitOn]
  | cons a x ih =>
    obtain ⟨ha, hx⟩ := List.forall_mem_cons.mp h
    simp [splitOn, ha, ih hx]

theorem splitN2_nosep (sep : Nat) (x r : Bytes) (h : ∀ c, c ∈ x → c ≠ sep) :
    splitN2 sep (x ++ sep :: r) = (x, some r) := by
  induction x with
  | nil => simp [splitN2]
  | cons a x ih =>
    obtain ⟨ha, hx⟩ := List.forall_mem_cons.mp h
    simp [splitN2, ha, ih hx]

theorem splitN2_none (sep : Nat) (x : Bytes) (h : ∀ c, c ∈ x → c ≠ sep) : splitN2 sep x = (x, none) := by
  induction x with
  | nil => simp [splitN2]
  | cons a x ih =>
    obtain ⟨ha, hx⟩ := List.forall_mem_cons.mp h
    simp [splitN2, ha, ih hx]

/-- `strings.Join(xs, ",")` -/
def joinComma : List Bytes → Bytes
  | [] => []
  | [x] => x
  | x :: y :: r => x ++ 44 :: joinComma (y :: r)

theorem splitOn_joinComma (xs : List Bytes) (hne : xs ≠ []) (h : ∀ x, x ∈ xs → ∀ c, c ∈ x → c ≠ 44) :
    splitOn 44 (joinComma xs) = xs := by
  induction xs with
  | nil => exact absurd rfl hne
  | cons x r ih =>
    cases r with
    | nil => simpa [joinComma] using splitOn_none 44 x (h x (List.mem_cons_self ..))
    | cons y r =>
      simp only [joinComma]
      rw [splitOn_nosep 44 x _ (h x (List.mem_cons_self ..)), ih (by simp) (fun z hz => h z (List.mem_cons_of_mem _ hz))]

end Plugin
