import ThriftVerif.Lib.ResolveLemmas.Basic
import ThriftVerif.Lib.ResolveLemmas.Inc
import ThriftVerif.Lib.ResolveLemmas.Loop
import ThriftVerif.Lib.ResolveLemmas.Struct
import ThriftVerif.Lib.ResolveLemmas.Events
import ThriftVerif.Lib.ResolveLemmas.Trace
import ThriftVerif.Lib.ResolveLemmas.Good
import ThriftVerif.Lib.ResolveLemmas.Node
import ThriftVerif.Lib.ResolveLemmas.GoodFile
import ThriftVerif.Lib.ResolveLemmas.Prog
import ThriftVerif.Lib.ResolveLemmas.Unique
import ThriftVerif.Lib.ResolveLemmas.Const
import ThriftVerif.Lib.ResolveLemmas.Used
import ThriftVerif.Lib.ResolveLemmas.Deref
import ThriftVerif.Lib.ResolveLemmas.EnumDen
import ThriftVerif.Lib.ResolveLemmas.ConstBind
import ThriftVerif.Lib.ResolveLemmas.Perm
import ThriftVerif.Lib.ResolveLemmas.PermProg
import ThriftVerif.Lib.ResolveLemmas.GetEnum
/-! Helper lemmas of C05 (model `Lib/Resolve.lean`, specification `Lib/ResolveSpec.lean`).
`Basic`, `Inc`, `Node` read one lookup, one include loop, one type node against the specification.
ResolveAST is flattened into a trace (`Struct`, `Trace`) over the syntax it visits (`Events`); `Loop` is the typedef fixpoint
on its own; `Good` / `GoodFile` is the invariant of a finished file, which `Prog` carries through the include recursion and on
which `Den` is functional (`Unique`).  `Used`, `Deref`, `EnumDen` → `ConstBind`, `Perm` → `PermProg` are leaves, one property each
(`GetEnum`, `Const`: getEnum and ResolveConstValue on the model alone, for `EnumDen` and `ConstBind`). -/
