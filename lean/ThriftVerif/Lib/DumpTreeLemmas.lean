/-
  C17 helper lemmas for the traversal model `DumpTree`.  `Run` is the postcondition of `rd` / `rdAll` for any visited
  list; that every reachable AST is written follows, by induction over reachability, from its field `new` on a `Consistent`
  structure.
-/
import ThriftVerif.Lib.DumpTree
import ThriftVerif.Core.ListLemmas

namespace DumpTree

/-- a run of `recurseDump` on the nodes `roots` takes the written list from `vis` to `out`, walking over the occurrences `O` -/
structure Run (O roots : List Node) (vis out : List Nat) : Prop where
  roots : ∀ r ∈ roots, r.id ∈ out
  keep : ∀ a ∈ vis, a ∈ out
  nodup : vis.Nodup → out.Nodup
  new : ∀ a ∈ out, a ∈ vis ∨ ∃ incs, Node.mk a incs ∈ O ∧ ∀ c ∈ incs, c.id ∈ out

theorem Run.refl {O roots : List Node} {vis : List Nat} (h : ∀ r ∈ roots, r.id ∈ vis) : Run O roots vis vis :=
  ⟨h, fun _ h => h, id, fun _ h => .inl h⟩

theorem Run.trans {O P R Q : List Node} {vis mid out : List Nat} (h1 : Run O R vis mid) (h2 : Run P Q mid out) :
    Run (O ++ P) (R ++ Q) vis out where
  roots r hr := (List.mem_append.mp hr).elim (fun h => h2.keep _ (h1.roots r h)) (h2.roots r)
  keep a h := h2.keep a (h1.keep a h)
  nodup h := h2.nodup (h1.nodup h)
  new a h := by
    rcases h2.new a h with h | ⟨l, hl, hc⟩
    · rcases h1.new a h with h | ⟨l, hl, hc⟩
      · exact .inl h
      · exact .inr ⟨l, List.mem_append_left _ hl, fun c hcm => h2.keep _ (hc c hcm)⟩
    · exact .inr ⟨l, List.mem_append_right _ hl, hc⟩

theorem Run.node {id : Nat} {incs : List Node} {vis out : List Nat} (hn : id ∉ vis)
    (h : Run (occAll incs) incs (vis ++ [id]) out) : Run (occ (.mk id incs)) [.mk id incs] vis out where
  roots r hr := by
    cases List.mem_singleton.mp hr
    exact h.keep id (by simp)
  keep a ha := h.keep a (by simp [ha])
  nodup hv := by
    refine h.nodup (List.nodup_append.mpr ⟨hv, by simp, fun a ha b hb e => ?_⟩)
    cases List.mem_singleton.mp hb
    exact hn (e ▸ ha)
  new a ha := by
    rcases h.new a ha with h1 | ⟨l, hl, hc⟩
    · rcases List.mem_append.mp h1 with h1 | h1
      · exact .inl h1
      · cases List.mem_singleton.mp h1
        exact .inr ⟨incs, by simp [occ], h.roots⟩
    · exact .inr ⟨l, by simp [occ, hl], hc⟩

theorem rd_run : (∀ n vis, Run (occ n) [n] vis (rd n vis)) ∧ ∀ ns vis, Run (occAll ns) ns vis (rdAll ns vis) := by
  refine rd.mutual_induct_unfolding (fun n vis out => Run (occ n) [n] vis out)
    (fun ns vis out => Run (occAll ns) ns vis out) ?_ ?_ ?_ ?_
  · intro id incs vis hv
    refine .refl fun r hr => ?_
    cases List.mem_singleton.mp hr
    exact hv
  · intro id incs vis hv ih
    exact .node hv ih
  · intro vis
    exact .refl (by simp)
  · intro n ns vis ih1 ih2
    exact ih1.trans ih2

theorem rd_mono : ∀ (n : Node) (vis : List Nat) (a : Nat), a ∈ vis → a ∈ rd n vis :=
  fun n vis => (rd_run.1 n vis).keep

theorem rdAll_nodup : ∀ (ns : List Node) (vis : List Nat), vis.Nodup → (rdAll ns vis).Nodup :=
  fun ns vis => (rd_run.2 ns vis).nodup

theorem rdAll_explained : ∀ (ns : List Node) (vis : List Nat) (a : Nat), a ∈ rdAll ns vis →
    a ∈ vis ∨ ∃ incs, Node.mk a incs ∈ occAll ns ∧ ∀ c ∈ incs, c.id ∈ rdAll ns vis :=
  fun ns vis => (rd_run.2 ns vis).new

theorem mem_occAll {t : Node} : ∀ {ns : List Node}, t ∈ occAll ns ↔ ∃ c ∈ ns, t ∈ occ c
  | [] => by simp [occAll]
  | n :: ns => by simp [occAll, mem_occAll (ns := ns)]

theorem mem_occ {t n : Node} : t ∈ occ n ↔ t = n ∨ ∃ c ∈ n.incs, t ∈ occ c := by
  cases n
  rw [occ, List.mem_cons, mem_occAll, Node.incs]

theorem Node.sizeOf_lt {c n : Node} (hc : c ∈ n.incs) : sizeOf c < sizeOf n := by
  cases n
  rw [Node.mk.sizeOf_spec]
  exact Nat.lt_add_left _ (List.sizeOf_lt_of_mem hc)

theorem occ_induct (P : Node → Prop) : ∀ (n : Node), (∀ b ∈ occ n, P b → ∀ c ∈ b.incs, P c) → P n → ∀ t ∈ occ n, P t :=
  List.desc_induct Node.sizeOf_lt mem_occ

theorem complete_node (root : Node) (hcons : Consistent root) :
    ∀ (n : Node), (∀ t ∈ occ n, t ∈ occ root) → n.id ∈ rd root [] → ∀ t ∈ occ n, t.id ∈ rd root [] := by
  intro n hsub
  refine occ_induct (fun t => t.id ∈ rd root []) n fun b hb hin c hcm => ?_
  obtain ⟨a, incs⟩ := b
  rcases (rd_run.1 root []).new a hin with h | ⟨l, hl, hc⟩
  · simp at h
  · -- `a` was written at an occurrence `mk a l` all of whose includes got written; this occurrence has the same include ids
    have hids : incs.map Node.id = l.map Node.id := hcons a incs l (hsub _ hb) hl
    have : c.id ∈ l.map Node.id := by rw [← hids]; exact List.mem_map_of_mem hcm
    obtain ⟨c', hc', he⟩ := List.mem_map.mp this
    rw [← he]; exact hc c' hc'

theorem complete_list (root : Node) (hcons : Consistent root) :
    ∀ (ns : List Node), (∀ c ∈ ns, ∀ t ∈ occ c, t ∈ occ root) → (∀ c ∈ ns, c.id ∈ rd root []) →
      ∀ t ∈ occAll ns, t.id ∈ rd root [] := by
  intro ns hsub hin t ht
  obtain ⟨c, hc, ht⟩ := mem_occAll.mp ht
  exact complete_node root hcons c (hsub c hc) (hin c hc) t ht

end DumpTree
