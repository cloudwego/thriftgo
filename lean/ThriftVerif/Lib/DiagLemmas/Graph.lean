import ThriftVerif.Lib.Diag
import ThriftVerif.Core.Dfs
/-! The include graph of a program (`Edge`, `Path`, `Reach`) and the two searches over it.  On a `WF` program dfs and searchCircle
see the whole include graph, and neither runs out of fuel: a step of searchCircle or dfs that goes on sees a file name it had
not seen, so `Dfs.fresh (names p) seen < fuel` is kept.  Where searchCircle answers `false` no file it can reach lies on a cycle;
`dfsOrder` lists every reachable file (`DInv` is the invariant of `dfs`). -/
namespace Diag

def Edge (p : Program) (i k : Nat) : Prop :=
  ∃ f, p.files[i]? = some f ∧ ∃ inc ∈ f.includes, inc.ref = k

inductive Path (p : Program) : Nat → Nat → Prop
  | refl (i : Nat) : Path p i i
  | cons {i k j : Nat} : Edge p i k → Path p k j → Path p i j

def Reach (p : Program) (j : Nat) : Prop := Path p p.root j

def names (p : Program) : List Name := p.files.map (·.filename)

/-- what parseFileRecursively guarantees: every Reference is a parsed file, one AST per path -/
structure WF (p : Program) : Prop where
  root_lt : p.root < p.files.length
  refs_lt : ∀ f ∈ p.files, ∀ inc ∈ f.includes, inc.ref < p.files.length
  nodup : (names p).Nodup

theorem wfb_iff (p : Program) : wfb p = true ↔ WF p := by
  simp only [wfb, Bool.and_eq_true, decide_eq_true_eq, List.all_eq_true]
  constructor
  · rintro ⟨⟨h1, h2⟩, h3⟩
    exact ⟨h1, h2, h3⟩
  · rintro ⟨h1, h2, h3⟩
    exact ⟨⟨h1, h2⟩, h3⟩

theorem Path.trans {p : Program} {i j k : Nat} (h1 : Path p i j) (h2 : Path p j k) : Path p i k := by
  induction h1 with
  | refl _ => exact h2
  | cons e _ ih => exact .cons e (ih h2)

theorem mem_names {p : Program} {i : Nat} {f : File} (h : p.files[i]? = some f) : f.filename ∈ names p :=
  List.mem_map.mpr ⟨f, List.mem_of_getElem? h, rfl⟩

namespace WF

theorem inj {p : Program} (w : WF p) {i j : Nat} {f g : File}
    (hi : p.files[i]? = some f) (hj : p.files[j]? = some g) (h : f.filename = g.filename) : i = j := by
  have h1 : (names p)[i]? = some f.filename := by simp [names, List.getElem?_map, hi]
  have h2 : (names p)[j]? = some f.filename := by simp [names, List.getElem?_map, hj, h]
  exact (List.getElem?_inj (List.getElem?_eq_some_iff.mp h1).1 w.nodup).mp (h1.trans h2.symm)

theorem edge_lt {p : Program} (w : WF p) {i k : Nat} (e : Edge p i k) : k < p.files.length := by
  obtain ⟨f, hf, inc, hinc, rfl⟩ := e
  exact w.refs_lt f (List.mem_of_getElem? hf) inc hinc

end WF

theorem file_of_lt {p : Program} {i : Nat} (h : i < p.files.length) : ∃ f, p.files[i]? = some f :=
  ⟨p.files[i], List.getElem?_eq_getElem h⟩

/-- Cases as in `anyM`: no child left; a child out of fuel, with a path, without. -/
theorem anyM_ne_none {g : Nat → Option Bool} (l : List Nat) : (∀ x ∈ l, g x ≠ none) → anyM g l ≠ none := by
  fun_induction anyM g l with
  | case2 x _ hx => exact fun h => absurd hx (h x List.mem_cons_self)
  | case4 _ _ _ ih => exact fun h => ih (List.forall_mem_cons.mp h).2
  | _ => exact fun _ => nofun

theorem anyM_false {g : Nat → Option Bool} (l : List Nat) : anyM g l = some false → ∀ x ∈ l, g x = some false := by
  fun_induction anyM g l with
  | case1 => exact fun _ => nofun
  | case4 _ _ hx ih => exact fun h => List.forall_mem_cons.mpr ⟨hx, ih h⟩
  | _ => nofun

theorem names_fresh (p : Program) (M : List Name) : Dfs.fresh (names p) M < p.files.length + 1 :=
  Nat.lt_succ_of_le (Nat.le_trans (Dfs.fresh_le _ M) (Nat.le_of_eq (by simp [names])))

/-- Cases as in `searchCircle`: no fuel; no such file; a file on the path; a file whose children are searched. -/
theorem searchCircle_ne_none (fuel : Nat) (p : Program) (cur : Nat) (nodes : List Name) :
    Dfs.fresh (names p) nodes < fuel → searchCircle fuel p cur nodes ≠ none := by
  fun_induction searchCircle fuel p cur nodes with
  | case1 => exact fun h => absurd h (Nat.not_lt_zero _)
  | case4 fuel p cur nodes f hcur hmem ih =>
    intro h
    have h1 := Dfs.fresh_cons_lt hmem (mem_names hcur)
    have h2 := Dfs.fresh_mono (names p) (M := f.filename :: nodes) (M' := nodes ++ [f.filename]) (by simp)
    exact anyM_ne_none _ fun c _ => ih c (Nat.lt_of_le_of_lt h2 (Nat.lt_of_lt_of_le h1 (Nat.le_of_lt_succ h)))
  | _ => nofun

/-- The two parts are proved together: a cycle through `cur` itself would put `cur` on the path of one of its children. -/
theorem searchCircle_false_post (fuel : Nat) (p : Program) (cur : Nat) (nodes : List Name) :
    searchCircle fuel p cur nodes = some false → ∀ j, Path p cur j →
    (∀ f, p.files[j]? = some f → f.filename ∉ nodes) ∧ ∀ k, Edge p j k → ¬ Path p k j := by
  fun_induction searchCircle fuel p cur nodes with
  | case2 _ p cur _ hnone =>
    -- a Reference that is no parsed file: nothing lies beyond it
    rintro _ j hp
    have hno : ∀ k, ¬ Edge p cur k := fun k ⟨f, hf, _⟩ => nomatch hnone.symm.trans hf
    cases hp with
    | refl => exact ⟨(fun f hf => nomatch hnone.symm.trans hf), fun k e => (hno k e).elim⟩
    | cons e _ => exact (hno _ e).elim
  | case4 _ p cur nodes fc hfc hmem ih =>
    intro h j hp
    have child := fun inc (hinc : inc ∈ fc.includes) =>
      ih inc.ref (anyM_false _ h inc.ref (List.mem_map.mpr ⟨inc, hinc, rfl⟩))
    cases hp with
    | refl =>
      refine ⟨fun f hf => Option.some.inj (hfc.symm.trans hf) ▸ hmem, fun k e hback => ?_⟩
      obtain ⟨fi, hfi, inc, hinc, rfl⟩ := e
      cases hfc.symm.trans hfi
      exact (child inc hinc cur hback).1 fc hfc (List.mem_append_right _ List.mem_cons_self)
    | cons e hp' =>
      obtain ⟨fi, hfi, inc, hinc, rfl⟩ := e
      cases hfc.symm.trans hfi
      have := child inc hinc j hp'
      exact ⟨fun f hf hm => this.1 f hf (List.mem_append_left _ hm), this.2⟩
  | _ => nofun

theorem circleDetect_ne_none (p : Program) : circleDetect p ≠ none :=
  searchCircle_ne_none _ p _ [] (names_fresh p [])

/-- `S`: the files being visited (entered, not yet emitted) -/
structure DInv (p : Program) (S : List Nat) (st : DfsSt) : Prop where
  nodup : st.set.Nodup
  sub : ∀ x ∈ st.set, x ∈ names p
  setOf : ∀ i f, p.files[i]? = some f → (f.filename ∈ st.set ↔ (i ∈ st.out ∨ i ∈ S))
  closed : ∀ i ∈ st.out, ∀ k, Edge p i k → ∀ fk, p.files[k]? = some fk → fk.filename ∈ st.set

theorem dfs_fold_spec {p : Program} {fuel : Nat} {S : List Nat}
    (ih : ∀ t st, DInv p S st → Dfs.fresh (names p) st.set < fuel →
      ∃ st', dfs fuel p t st = some st' ∧ DInv p S st' ∧ (∀ x ∈ st.set, x ∈ st'.set) ∧
        ∀ f, p.files[t]? = some f → f.filename ∈ st'.set) :
    ∀ (incs : List Include) (st : DfsSt), DInv p S st → Dfs.fresh (names p) st.set < fuel →
    ∃ st', incs.foldlM (fun s inc => dfs fuel p inc.ref s) st = some st' ∧ DInv p S st' ∧
      (∀ x ∈ st.set, x ∈ st'.set) ∧
      (∀ inc ∈ incs, ∀ f, p.files[inc.ref]? = some f → f.filename ∈ st'.set)
  | [], st, hi, _ => ⟨st, by simp, hi, fun _ h => h, by simp⟩
  | inc :: r, st, hi, hf => by
    obtain ⟨st1, h1, hi1, hs1, ht1⟩ := ih inc.ref st hi hf
    obtain ⟨st2, h2, hi2, hs2, ht2⟩ := dfs_fold_spec ih r st1 hi1 (Nat.lt_of_le_of_lt (Dfs.fresh_mono _ hs1) hf)
    refine ⟨st2, ?_, hi2, fun x hx => hs2 x (hs1 x hx), ?_⟩
    · simp only [List.foldlM_cons, h1]
      exact h2
    · exact List.forall_mem_cons.mpr ⟨fun f hf' => hs2 _ (ht1 f hf'), ht2⟩

theorem dfs_spec {p : Program} (w : WF p) : ∀ (fuel : Nat) (S : List Nat) (t : Nat) (st : DfsSt),
    DInv p S st → Dfs.fresh (names p) st.set < fuel →
    ∃ st', dfs fuel p t st = some st' ∧ DInv p S st' ∧ (∀ x ∈ st.set, x ∈ st'.set) ∧
      ∀ f, p.files[t]? = some f → f.filename ∈ st'.set
  | 0, S, t, st, hi, hf => absurd hf (Nat.not_lt_zero _)
  | fuel + 1, S, t, st, hi, hf => by
    simp only [dfs]
    cases ht : p.files[t]? with
    | none => exact ⟨st, rfl, hi, fun _ h => h, nofun⟩
    | some f =>
      simp only
      split
      · rename_i hmem
        exact ⟨st, rfl, hi, fun _ h => h, fun g hg => Option.some.inj hg ▸ hmem⟩
      · rename_i hmem
        have hi1 : DInv p (t :: S) { st with set := f.filename :: st.set } := {
          nodup := List.nodup_cons.mpr ⟨hmem, hi.nodup⟩
          sub := List.forall_mem_cons.mpr ⟨mem_names ht, hi.sub⟩
          setOf := fun i g hg => by
            have key : g.filename = f.filename ↔ i = t :=
              ⟨w.inj hg ht, fun e => by rw [e, ht] at hg; cases hg; rfl⟩
            rw [List.mem_cons, List.mem_cons, hi.setOf i g hg, key]
            exact or_left_comm
          closed := fun i hiout k e fk hfk => List.mem_cons_of_mem _ (hi.closed i hiout k e fk hfk) }
        obtain ⟨st2, h2, hi2, hs2, hc2⟩ :=
          dfs_fold_spec (fun t' st' => dfs_spec w fuel (t :: S) t' st') f.includes _ hi1
            (Nat.lt_of_lt_of_le (Dfs.fresh_cons_lt hmem (mem_names ht)) (Nat.le_of_lt_succ hf))
        simp only [h2]
        refine ⟨_, rfl, ?_, fun x hx => hs2 x (List.mem_cons_of_mem _ hx), fun g hg => ?_⟩
        · exact {
            nodup := hi2.nodup
            sub := hi2.sub
            setOf := fun i g hg => by
              rw [hi2.setOf i g hg, List.mem_cons, List.mem_append, List.mem_singleton]
              exact or_assoc.symm
            closed := fun i hiout k e fk hfk => by
              cases List.mem_append.mp hiout with
              | inl h => exact hi2.closed i h k e fk hfk
              | inr h =>
                simp only [List.mem_singleton] at h
                subst h
                obtain ⟨f', hf', inc, hinc, rfl⟩ := e
                rw [ht] at hf'
                cases hf'
                exact hc2 inc hinc fk hfk }
        · cases hg
          exact hs2 _ List.mem_cons_self

theorem dfsOrder_complete {p : Program} (w : WF p) :
    ∃ order, dfsOrder p = some order ∧ ∀ i, Reach p i → i ∈ order := by
  have h0 : DInv p [] ⟨[], []⟩ := ⟨List.nodup_nil, by simp, by simp, by simp⟩
  obtain ⟨st, hst, hi, _, hroot⟩ := dfs_spec w (p.files.length + 1) [] p.root ⟨[], []⟩ h0 (names_fresh p [])
  refine ⟨st.out, by simp [dfsOrder, hst], ?_⟩
  have hstep : ∀ i j, Path p i j → i ∈ st.out → j ∈ st.out := by
    intro i j hp
    induction hp with
    | refl _ => exact id
    | cons e _ ih =>
      intro hiout
      obtain ⟨fk, hfk⟩ := file_of_lt (w.edge_lt e)
      exact ih (((hi.setOf _ fk hfk).mp (hi.closed _ hiout _ e fk hfk)).resolve_right List.not_mem_nil)
  intro i hr
  obtain ⟨fr, hfr⟩ := file_of_lt w.root_lt
  exact hstep _ _ hr (((hi.setOf _ fr hfr).mp (hroot fr hfr)).resolve_right List.not_mem_nil)

end Diag
