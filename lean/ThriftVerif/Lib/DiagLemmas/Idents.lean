import ThriftVerif.Lib.DiagLemmas.Work
import ThriftVerif.Core.Dfs
/-! Constant identifiers.  A step of getEnum that goes on sees a typedef (file, alias) it had not seen, so
`Dfs.fresh (typedefKeys p) seen < fuel` is kept, and with more fuel than there are such keys resolveIdents does not end in
`.crash`.  Also what resolveIdent does with a plain identifier and what an `.ok` of resolveIdents says of each one. -/
namespace Diag

section Resolve
variable {cfg : Cfg} {p : Program} {tables : List (Option Table)} {fuel i : Nat} {f : File} {tbl : Table} {incs : List IncV}

theorem mem_typedefKeys {p : Program} {i : Nat} {f : File} {td : Typedef} (hf : p.files[i]? = some f)
    (htd : td ∈ f.typedefs) : (i, td.alias) ∈ typedefKeys p :=
  List.mem_flatMap.mpr ⟨(i, f), mem_enumFrom.mpr hf, List.mem_map.mpr ⟨td, htd, rfl⟩⟩

theorem find?_typedefKey {p : Program} {i : Nat} {f : File} {td : Typedef} {name : Name} (hf : p.files[i]? = some f)
    (h : f.typedefs.find? (fun td => td.alias = name) = some td) : (i, name) ∈ typedefKeys p :=
  have hal : td.alias = name := by simpa using List.find?_some h
  hal ▸ mem_typedefKeys hf (List.mem_of_find?_eq_some h)

/-- Cases as in `getEnum`: no fuel; the two that go on, into an include and within the file; everywhere else the search ends. -/
theorem getEnum_ne_none (fuel : Nat) (seen : List (Nat × Name)) (i : Nat) (name : Name) :
    Dfs.fresh (typedefKeys p) seen < fuel → getEnum cfg p tables fuel seen i name ≠ none := by
  fun_induction getEnum cfg p tables fuel seen i name with
  | case1 => exact fun h => absurd h (Nat.not_lt_zero _)
  | case6 _ _ _ _ _ hfile _ _ hfind hmem _ _ _ _ _ ih =>
    exact fun h => ih (Nat.lt_of_lt_of_le (Dfs.fresh_cons_lt hmem (find?_typedefKey hfile hfind)) (Nat.le_of_lt_succ h))
  | case7 _ _ _ _ _ hfile _ _ hfind hmem _ _ _ ih =>
    exact fun h => ih (Nat.lt_of_lt_of_le (Dfs.fresh_cons_lt hmem (find?_typedefKey hfile hfind)) (Nat.le_of_lt_succ h))
  | _ => nofun

theorem foldl_some_inv {α : Type} (g : Option Nat → α → Option Nat) : ∀ (l : List α) (n : Nat),
    (∀ x ∈ l, ∀ m, ∃ m', g (some m) x = some m') → ∃ m', l.foldl g (some n) = some m'
  | [], n, _ => ⟨n, rfl⟩
  | x :: r, n, h => by
    obtain ⟨m', hm'⟩ := h x List.mem_cons_self n
    simp only [List.foldl_cons, hm']
    exact foldl_some_inv g r m' fun y hy => h y (List.mem_cons_of_mem _ hy)

/-- Cases as in `countSplit`: one part; two parts, `getEnum` out of fuel or not; three parts; anything else. -/
theorem countSplit_total (hfuel : (typedefKeys p).length + 1 ≤ fuel) (ss : List Name) :
    ∃ n, countSplit cfg p tables fuel i f ss = some n := by
  have hg : ∀ j nm, getEnum cfg p tables fuel [] j nm ≠ none := fun j nm =>
    getEnum_ne_none fuel [] j nm (Nat.lt_of_lt_of_le (Nat.lt_succ_of_le (Dfs.fresh_le _ _)) hfuel)
  fun_cases countSplit cfg p tables fuel i f ss with
  | case2 a _ hge => exact absurd hge (hg i a)
  | case4 a e v =>
    refine foldl_some_inv _ _ 0 fun iv _ m => ?_
    dsimp only
    split
    · split
      · exact absurd ‹_› (hg iv.ref e)
      · exact ⟨_, rfl⟩
      · exact ⟨_, rfl⟩
    · exact ⟨_, rfl⟩
  | _ => exact ⟨_, rfl⟩

theorem countIdent_total (hfuel : (typedefKeys p).length + 1 ≤ fuel) (id : Name) :
    ∃ m, countIdent cfg p tables fuel i f id = some m :=
  foldl_some_inv _ _ 0 fun ss _ m => by
    obtain ⟨k, hk⟩ : ∃ k, countSplit cfg p tables fuel i f ss = some k := countSplit_total hfuel ss
    exact ⟨m + k, by simp only [hk, addCounts]⟩

/-- `.crash` is case 2 of `resolveIdent`: `countIdent` out of fuel. -/
theorem resolveIdent_no_crash (hfuel : (typedefKeys p).length + 1 ≤ fuel) (id : Name) : resolveIdent cfg p tables fuel i f id ≠ .crash := by
  obtain ⟨m, hm⟩ : ∃ m, countIdent cfg p tables fuel i f id = some m := countIdent_total hfuel id
  fun_cases resolveIdent cfg p tables fuel i f id with
  | case2 _ hn => cases hm.symm.trans hn
  | _ => nofun

/-- Cases as in `resolveIdents`: no identifier left; one that is `.ok`, `.undefined`, `.ambiguous`, `.crash`. -/
theorem resolveIdents_no_crash (hfuel : (typedefKeys p).length + 1 ≤ fuel) (ids : List Name) :
    resolveIdents cfg p tables fuel i f ids ≠ .crash := by
  fun_induction resolveIdents cfg p tables fuel i f ids with
  | case2 _ _ _ ih => exact ih
  | case5 id _ hr => exact absurd hr (resolveIdent_no_crash hfuel id)
  | _ => nofun

theorem resolveIdent_plain {id : Name}
    (hplain : splitValue id = [[id]]) (hnb : isBoolIdent id = false) :
    resolveIdent cfg p tables fuel i f id =
      if tlookup id (tableOf tables i) = some .constant then .ok else .undefined := by
  unfold resolveIdent countIdent
  rw [hnb, hplain, if_neg Bool.false_ne_true, List.foldl_cons, List.foldl_nil, countSplit, addCounts]
  by_cases hc : tlookup id (tableOf tables i) = some .constant
  · rw [if_pos hc, if_pos hc]
    rfl
  · rw [if_neg hc, if_neg hc]
    rfl

theorem resolveIdents_ok (ids : List Name) : resolveIdents cfg p tables fuel i f ids = .ok →
    ∀ id ∈ ids, resolveIdent cfg p tables fuel i f id = .ok := by
  fun_induction resolveIdents cfg p tables fuel i f ids with
  | case1 => exact fun _ => nofun
  | case2 _ _ hx ih => exact fun h => List.forall_mem_cons.mpr ⟨hx, ih h⟩
  | _ => nofun

end Resolve

end Diag
