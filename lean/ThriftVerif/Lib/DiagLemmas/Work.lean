import ThriftVerif.Lib.Diag
/-! The work list of ResolveAST: `fileWork f` has one item for every position of `f` that holds a type (`TypeSite`), a constant
value (`IdentSite`) or a base service, so what holds of every item of the list holds at every such position. -/
namespace Diag

theorem enumFrom_eq {α : Type} (k : Nat) (l : List α) : enumFrom k l = (l.zipIdx k).map fun x => (x.2, x.1) := by
  fun_induction enumFrom k l with
  | case1 => rfl
  | case2 k x r ih => rw [List.zipIdx_cons, List.map_cons, ih]

theorem mem_enumFrom {α : Type} {l : List α} {k : Nat} {x : α} : (k, x) ∈ enumFrom 0 l ↔ l[k]? = some x := by
  rw [enumFrom_eq, ← List.mk_mem_zipIdx_iff_getElem?, List.mem_map]
  constructor
  · rintro ⟨_, h, ⟨⟩⟩
    exact h
  · exact fun h => ⟨_, h, rfl⟩

theorem fileWork_typedef_item {f : File} {k : Nat} {t : Ty} :
    Work.type (some k) t ∈ fileWork f ↔ ∃ td, f.typedefs[k]? = some td ∧ td.ty = t := by
  simp only [fileWork, fieldWork, funcWork, mem_enumFrom, List.mem_append, List.mem_map, List.mem_flatMap, Prod.exists,
    Work.type.injEq, Option.some.injEq, List.mem_cons, List.mem_ite_nil_right, List.not_mem_nil, reduceCtorEq, and_false,
    or_false, false_and, exists_false, List.mem_ite_nil_left]
  constructor
  · rintro ⟨_, td, h, rfl, rfl⟩
    exact ⟨td, h, rfl⟩
  · rintro ⟨td, h, rfl⟩
    exact ⟨k, td, h, rfl, rfl⟩

inductive TypeSite (f : File) : Ty → Prop
  | typedef (td : Typedef) : td ∈ f.typedefs → TypeSite f td.ty
  | const (c : Const) : c ∈ f.consts → TypeSite f c.ty
  | field (s : StructLike) (fl : Field) : s ∈ f.structLikes → fl ∈ s.fields → TypeSite f fl.ty
  | ret (sv : Service) (fn : Func) : sv ∈ f.services → fn ∈ sv.funcs → fn.void = false → TypeSite f fn.ret
  | arg (sv : Service) (fn : Func) (a : Field) : sv ∈ f.services → fn ∈ sv.funcs → a ∈ fn.args → TypeSite f a.ty
  | throws (sv : Service) (fn : Func) (a : Field) : sv ∈ f.services → fn ∈ sv.funcs → a ∈ fn.throws → TypeSite f a.ty

inductive IdentSite (f : File) : List Name → Prop
  | const (c : Const) : c ∈ f.consts → IdentSite f c.idents
  | field (s : StructLike) (fl : Field) : s ∈ f.structLikes → fl ∈ s.fields → fl.hasDefault = true → IdentSite f fl.dflt
  | arg (sv : Service) (fn : Func) (a : Field) : sv ∈ f.services → fn ∈ sv.funcs → a ∈ fn.args → a.hasDefault = true → IdentSite f a.dflt
  | throws (sv : Service) (fn : Func) (a : Field) : sv ∈ f.services → fn ∈ sv.funcs → a ∈ fn.throws → a.hasDefault = true → IdentSite f a.dflt

section Work
variable {f : File} {s : StructLike} {sv : Service} {fn : Func} {fl a : Field} {c : Const} {w : Work}

theorem fieldWork_type (fl : Field) : Work.type none fl.ty ∈ fieldWork fl := List.mem_append_left _ List.mem_cons_self

theorem fieldWork_idents (h : fl.hasDefault = true) : Work.idents fl.dflt ∈ fieldWork fl :=
  List.mem_append_right _ (by simp [h])

theorem funcWork_arg (ha : a ∈ fn.args) (h : w ∈ fieldWork a) : w ∈ funcWork fn :=
  List.mem_append_left _ (List.mem_append_right _ (List.mem_flatMap.mpr ⟨a, ha, h⟩))

theorem funcWork_throws (ha : a ∈ fn.throws) (h : w ∈ fieldWork a) : w ∈ funcWork fn :=
  List.mem_append_right _ (List.mem_flatMap.mpr ⟨a, ha, h⟩)

theorem fileWork_field (hs : s ∈ f.structLikes) (hf : fl ∈ s.fields) (h : w ∈ fieldWork fl) : w ∈ fileWork f :=
  List.mem_append_left _ (List.mem_append_right _ (List.mem_flatMap.mpr ⟨s, hs, List.mem_flatMap.mpr ⟨fl, hf, h⟩⟩))

theorem fileWork_func (hs : sv ∈ f.services) (hf : fn ∈ sv.funcs) (h : w ∈ funcWork fn) : w ∈ fileWork f :=
  List.mem_append_right _ (List.mem_flatMap.mpr ⟨sv, hs, List.mem_append_left _ (List.mem_flatMap.mpr ⟨fn, hf, h⟩)⟩)

theorem fileWork_const (hc : c ∈ f.consts) (h : w ∈ [Work.type none c.ty, .idents c.idents]) : w ∈ fileWork f :=
  List.mem_append_left _ (List.mem_append_left _ (List.mem_append_right _ (List.mem_flatMap.mpr ⟨c, hc, h⟩)))

theorem base_work (h : sv ∈ f.services) : Work.base sv ∈ fileWork f :=
  List.mem_append_right _ (List.mem_flatMap.mpr ⟨sv, h, List.mem_append_right _ List.mem_cons_self⟩)

end Work

theorem typeSite_work {f : File} {t : Ty} (h : TypeSite f t) : ∃ tgt, Work.type tgt t ∈ fileWork f := by
  cases h with
  | typedef td hm =>
    obtain ⟨k, hk⟩ := List.mem_iff_getElem?.mp hm
    exact ⟨some k, fileWork_typedef_item.mpr ⟨td, hk, rfl⟩⟩
  | const c hm => exact ⟨none, fileWork_const hm List.mem_cons_self⟩
  | field s fl hs hf => exact ⟨none, fileWork_field hs hf (fieldWork_type fl)⟩
  | ret sv fn hs hf hv => exact ⟨none, fileWork_func hs hf (List.mem_append_left _ (List.mem_append_left _ (by simp [hv])))⟩
  | arg sv fn a hs hf ha => exact ⟨none, fileWork_func hs hf (funcWork_arg ha (fieldWork_type a))⟩
  | throws sv fn a hs hf ha => exact ⟨none, fileWork_func hs hf (funcWork_throws ha (fieldWork_type a))⟩

theorem identSite_work {f : File} {ids : List Name} (h : IdentSite f ids) : Work.idents ids ∈ fileWork f := by
  cases h with
  | const c hm => exact fileWork_const hm (List.mem_cons_of_mem _ List.mem_cons_self)
  | field s fl hs hf hd => exact fileWork_field hs hf (fieldWork_idents hd)
  | arg sv fn a hs hf ha hd => exact fileWork_func hs hf (funcWork_arg ha (fieldWork_idents hd))
  | throws sv fn a hs hf ha hd => exact fileWork_func hs hf (funcWork_throws ha (fieldWork_idents hd))

end Diag
