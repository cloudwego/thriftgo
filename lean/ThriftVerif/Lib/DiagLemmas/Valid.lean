import ThriftVerif.Lib.DiagLemmas.Run
/-! `Valid` is the rule catalogue of semantic/checker.go and semantic/semantic.go in positive form; `Passes.valid`: the analysis
passes let a program through only if every reachable file is `Valid` (the checker part from the `_accepts` theorems, the semantic
part from `resolveFile_ok`), and `Passes.acyclic`: only if no reachable file lies on an include cycle. -/
namespace Diag

structure Valid (cfg : Cfg) (p : Program) (i : Nat) (f : File) : Prop where
  globals : f.globalNames.Pairwise (· ≠ ·)
  enumRange : ∀ e ∈ f.enums, ∀ y ∈ e.values, ¬(y.2 < -2147483648 ∨ y.2 > 2147483647)
  enumValues : ∀ e ∈ f.enums, e.values.Pairwise fun x y => x.1 ≠ y.1 ∧ x.2 ≠ y.2
  fields : ∀ s ∈ f.structLikes, s.fields.Pairwise fun a b => a.id ≠ b.id ∧ a.name ≠ b.name
  unionDefault : ∀ u ∈ f.unions, u.fields.Pairwise fun a b => ¬(a.hasDefault = true ∧ b.hasDefault = true)
  funcNames : ∀ s ∈ f.services, s.funcs.Pairwise fun a b => a.name ≠ b.name
  funcs : ∀ s ∈ f.services, ∀ g ∈ s.funcs, FuncValid g
  symbols : f.symbols.Pairwise fun x y => x.1 ≠ y.1
  types : ∀ tbl, registerNames f = some tbl → ∀ t, TypeSite f t → ∀ n, Mentions n t →
    ¬ BadRef cfg f tbl (incViews (programTables p) f) n
  idents : ∀ ids, IdentSite f ids → ∀ id ∈ ids, resolveIdent cfg p (programTables p) (enumFuel p) i f id = .ok
  bases : ∀ tbl, registerNames f = some tbl → ∀ s ∈ f.services, resolveBase tbl (incViews (programTables p) f) s = true
  noKnot : ∀ C, ¬ TypedefKnot f C

section Sound
variable {cfg : Cfg} {p : Program} {i : Nat} {f : File}

theorem runCheck_of_checkFile {c : CheckFn} (h : checkFile cfg f = none) (hc : c ∈ cfg.checkOrder) : runCheck cfg c f = none :=
  Option.map_eq_none_iff.mp (List.findSome?_eq_none_iff.mp h c hc)

theorem checkFile_valid (hall : ∀ c, c ∈ cfg.checkOrder) (hu : cfg.unionSetsHasDefault = true)
    (h : checkFile cfg f = none) :
    f.globalNames.Pairwise (· ≠ ·) ∧
    (∀ e ∈ f.enums, enumLoop [] [] e.values = none) ∧
    (∀ s ∈ f.structLikes, fieldLoop [] [] s.fields = none) ∧
    (∀ u ∈ f.unions, unionLoop true false u.fields = none) ∧
    (∀ s ∈ f.services, funcLoop [] s.funcs = none) := by
  have hc := fun c => runCheck_of_checkFile h (hall c)
  refine ⟨?_, List.findSome?_eq_none_iff.mp (hc .enums), List.findSome?_eq_none_iff.mp (hc .structLikes),
    hu ▸ List.findSome?_eq_none_iff.mp (hc .unions), List.findSome?_eq_none_iff.mp (hc .functions)⟩
  have hg : checkGlobals f = none := hc .globals
  rw [checkGlobals] at hg
  split at hg
  · cases hg
  · exact (dupScan_accepts _ _ (eq_false_of_ne_true ‹_›)).2

namespace Passes

theorem file (w : WF p) (hp : Passes cfg p) (hr : Reach p i) :
    resolveFile cfg p (programTables p) i = .ok ∧ ∀ f, p.files[i]? = some f → checkFile cfg f = none := by
  obtain ⟨order, ho, hall⟩ := dfsOrder_complete w
  have hk := hp.check
  have hs := hp.resolve
  simp only [checkAll, resolveAll, ho] at hk hs
  refine ⟨firstBad_ok _ hs i (hall i hr), fun f hf => ?_⟩
  split at hk
  · cases hk
  · have := List.findSome?_eq_none_iff.mp ‹_› i (hall i hr)
    simpa [checkAt, hf] using this

theorem valid (hall : ∀ c, c ∈ cfg.checkOrder) (hu : cfg.unionSetsHasDefault = true)
    (htd : isTypeCat cfg .typedef = true) (w : WF p) (hp : Passes cfg p) (hr : Reach p i) (hf : p.files[i]? = some f) :
    Valid cfg p i f :=
  have ⟨hrs, hck⟩ := hp.file w hr
  have ⟨hg, he, hs, hun, hfn⟩ := checkFile_valid hall hu (hck f hf)
  have ⟨tbl, tds, ht, hd, _⟩ := resolveFile_ok hf hrs
  have hw := doWork_ok _ _ _ hd
  { globals := hg
    enumRange := fun e h y hy => ((enumLoop_accepts _ _ _ (he e h)).1 y hy).2.2
    enumValues := fun e h => (enumLoop_accepts _ _ _ (he e h)).2
    fields := fun s h => (fieldLoop_accepts _ _ _ (hs s h)).2
    unionDefault := fun u h => (unionLoop_accepts _ _ (hun u h)).2
    funcNames := fun s h => (funcLoop_accepts _ _ (hfn s h)).2
    funcs := fun s h g hg => ((funcLoop_accepts _ _ (hfn s h)).1 g hg).2
    symbols := (addAll_accepts _ _ fun h => nomatch ht.symm.trans h).2
    types := fun tbl' ht' t hsite n hm hb => by
      cases ht.symm.trans ht'
      obtain ⟨tgt, hmem⟩ := typeSite_work hsite
      obtain ⟨e, he⟩ := resolveType_mentions hb hm tgt
      obtain ⟨r, hr⟩ := hw _ hmem
      cases he.symm.trans hr
    idents := fun ids hsite => resolveIdents_ok ids (hw _ (identSite_work hsite))
    bases := fun tbl' ht' s h => by
      cases ht.symm.trans ht'
      exact hw _ (base_work h)
    noKnot := fun C hk => resolveFile_of_knot htd hf hk hrs }

theorem acyclic (hp : Passes cfg p) {i k : Nat} (hr : Reach p i) (e : Edge p i k) : ¬ Path p k i :=
  (searchCircle_false_post _ _ _ _ hp.circle i hr).2 k e

end Passes

end Sound

end Diag
