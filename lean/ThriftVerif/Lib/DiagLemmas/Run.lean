import ThriftVerif.Lib.DiagLemmas.Graph
import ThriftVerif.Lib.DiagLemmas.Typedefs
import ThriftVerif.Lib.DiagLemmas.Idents
/-! Whole runs.  On a `WF` program no fuel of the model runs out (`fuel_suffices`).  `run_cases` says how a run ends; the statements
about runs are read off it. -/
namespace Diag

section Pipeline
variable {cfg : Cfg} {env : Env} {p : Program}

theorem checkAll_ne_exhausted (w : WF p) : checkAll cfg p ≠ .exhausted := by
  obtain ⟨order, ho, _⟩ := dfsOrder_complete w
  fun_cases checkAll cfg p with
  | case1 hn => cases ho.symm.trans hn
  | _ => nofun

/-- Cases as in `firstBad`: no file left; a file that is `.ok`, `.err`, `.crash`. -/
theorem firstBad_ok {g : Nat → RRes} (l : List Nat) : firstBad g l = .ok → ∀ i ∈ l, g i = .ok := by
  fun_induction firstBad g l with
  | case1 => exact fun _ => nofun
  | case2 _ _ hx ih => exact fun h => List.forall_mem_cons.mpr ⟨hx, ih h⟩
  | _ => nofun

theorem firstBad_crash {g : Nat → RRes} (l : List Nat) : firstBad g l = .crash → ∃ i ∈ l, g i = .crash := by
  fun_induction firstBad g l with
  | case2 _ _ _ ih => exact fun h => (ih h).imp fun _ hi => ⟨List.mem_cons_of_mem _ hi.1, hi.2⟩
  | case4 x _ hx => exact fun _ => ⟨x, List.mem_cons_self, hx⟩
  | _ => nofun

/-- Only `resolveIdents` can crash (case 5 of `doWork`); cases 3, 4 and 6 go on to the next item. -/
theorem doWork_no_crash {tables : List (Option Table)} {fuel i : Nat} {f : File} {tbl : Table} {incs : List IncV}
    (hfuel : (typedefKeys p).length + 1 ≤ fuel) (ws : List Work) (acc : List Pend) :
    (doWork cfg p tables fuel i f tbl incs ws acc).1 ≠ .crash := by
  fun_induction doWork cfg p tables fuel i f tbl incs ws acc with
  | case5 => exact resolveIdents_no_crash hfuel _
  | case3 | case4 | case6 => assumption
  | _ => nofun

/-- The two ways `resolveFile` could crash: ResolveTypedefs out of fuel (case 5), `doWork` not `.ok` (case 6). -/
theorem resolveFile_no_crash (i : Nat) : resolveFile cfg p (programTables p) i ≠ .crash := by
  fun_cases resolveFile cfg p (programTables p) i with
  | case5 _ _ _ _ _ _ hrt => exact absurd hrt (resolveTypedefs_fuel _ _ _ (Nat.lt_succ_self _))
  | case6 _ _ _ _ _ _ _ hd => exact fun hc => doWork_no_crash (Nat.le_succ _) _ _ ((congrArg Prod.fst hd).trans hc)
  | _ => nofun

theorem resolveAll_ne_crash (w : WF p) : resolveAll cfg p ≠ .crash := by
  obtain ⟨order, ho, _⟩ := dfsOrder_complete w
  simp only [resolveAll, ho]
  intro h
  obtain ⟨i, _, hi⟩ := firstBad_crash _ h
  exact resolveFile_no_crash i hi

structure Passes (cfg : Cfg) (p : Program) : Prop where
  circle : circleDetect p = some false
  check : checkAll cfg p = .ok
  resolve : resolveAll cfg p = .ok

def FuelOut (cfg : Cfg) (p : Program) : Prop :=
  circleDetect p = none ∨ checkAll cfg p = .exhausted ∨ resolveAll cfg p = .crash

theorem fuel_suffices (w : WF p) : ¬ FuelOut cfg p := by
  rintro (h | h | h)
  · exact circleDetect_ne_none p h
  · exact checkAll_ne_exhausted w h
  · exact resolveAll_ne_crash w h

theorem escaped_cases (cfg : Cfg) {r : Result} (h : r = ⟨escaped cfg, false⟩) :
    (∃ s, r = ⟨.reject s, false⟩) ∨ r = ⟨.exit0NoOutput, false⟩ ∧ cfg.handlePanicExits = false := by
  unfold escaped at h
  cases hx : cfg.handlePanicExits
  · exact .inr ⟨by rw [h, hx]; rfl, rfl⟩
  · exact .inl ⟨_, by rw [h, hx]; rfl⟩

theorem run_cases (cfg : Cfg) (env : Env) (p : Program) :
    (∃ s, run cfg env p = ⟨.reject s, false⟩) ∨
    (run cfg env p = ⟨.crash, false⟩ ∧ FuelOut cfg p) ∨
    (run cfg env p = ⟨.exit0NoOutput, false⟩ ∧ cfg.handlePanicExits = false ∧ env.flagsBad = false ∧
      (env.parsePanics = true ∨
        env.syntaxBad = false ∧ Passes cfg p ∧ env.targetsBad = false ∧ env.backendPanics = true)) ∨
    (run cfg env p = ⟨.ok, true⟩ ∧ env.flagsBad = false ∧ env.parsePanics = false ∧ env.syntaxBad = false ∧
      Passes cfg p ∧ env.targetsBad = false ∧ env.backendPanics = false ∧ env.backendBad = false) := by
  -- the exits of `run` in order: 1 flags, 2 the parser panics, 3 syntax, 4/5 circleDetect out of fuel / a circle, 6/7 checkAll out of
  -- fuel / an error, 8/9 resolveAll crash / an error, 10 targets, 11 the backend panics, 12 the backend fails, 13 ok
  fun_cases run cfg env p with
  | case1 | case3 | case5 | case7 | case9 | case10 | case12 => exact .inl ⟨_, rfl⟩
  | case4 _ _ _ hc => exact .inr (.inl ⟨rfl, .inl hc⟩)
  | case6 _ _ _ _ hk => exact .inr (.inl ⟨rfl, .inr (.inl hk)⟩)
  | case8 _ _ _ _ _ hr => exact .inr (.inl ⟨rfl, .inr (.inr hr)⟩)
  | case2 hfl hpp =>
    exact (escaped_cases cfg rfl).imp id fun ⟨h, hx⟩ => .inr (.inl ⟨h, hx, eq_false_of_ne_true hfl, .inl hpp⟩)
  | case11 hfl _ hsy hc hk hr htg hbp =>
    exact (escaped_cases cfg rfl).imp id fun ⟨h, hx⟩ => .inr (.inl ⟨h, hx, eq_false_of_ne_true hfl,
      .inr ⟨eq_false_of_ne_true hsy, ⟨hc, hk, hr⟩, eq_false_of_ne_true htg, hbp⟩⟩)
  | case13 hfl hpp hsy hc hk hr htg hbp hbe =>
    exact .inr (.inr (.inr ⟨rfl, eq_false_of_ne_true hfl, eq_false_of_ne_true hpp, eq_false_of_ne_true hsy, ⟨hc, hk, hr⟩,
      eq_false_of_ne_true htg, eq_false_of_ne_true hbp, eq_false_of_ne_true hbe⟩))

theorem run_no_crash (w : WF p) :
    (run cfg env p).outcome ≠ .crash := by
  rcases run_cases cfg env p with ⟨s, h⟩ | ⟨_, h⟩ | ⟨h, _⟩ | ⟨h, _⟩
  · rw [h]; nofun
  · exact absurd h (fuel_suffices w)
  · rw [h]; nofun
  · rw [h]; nofun

theorem run_persisted_iff (cfg : Cfg) (env : Env) (p : Program) :
    (run cfg env p).persisted = true ↔ (run cfg env p).outcome = .ok := by
  rcases run_cases cfg env p with ⟨s, h⟩ | ⟨h, _⟩ | ⟨h, _⟩ | ⟨h, _⟩
  · rw [h]; exact ⟨nofun, nofun⟩
  · rw [h]; exact ⟨nofun, nofun⟩
  · rw [h]; exact ⟨nofun, nofun⟩
  · rw [h]; exact ⟨fun _ => rfl, fun _ => rfl⟩

theorem run_exit0 (h : (run cfg env p).outcome = .exit0NoOutput) :
    cfg.handlePanicExits = false ∧ (env.parsePanics = true ∨ env.backendPanics = true) := by
  rcases run_cases cfg env p with ⟨s, e⟩ | ⟨e, _⟩ | ⟨_, hx, _, hp⟩ | ⟨e, _⟩
  · rw [e] at h; cases h
  · rw [e] at h; cases h
  · exact ⟨hx, hp.imp id fun hb => hb.2.2.2⟩
  · rw [e] at h; cases h

theorem run_rejected (w : WF p)
    (h : env.flagsBad = true ∨ env.parsePanics = false ∧
      (env.syntaxBad = true ∨ ¬ Passes cfg p ∨ env.targetsBad = true ∨
        env.backendPanics = false ∧ env.backendBad = true)) :
    ∃ s, (run cfg env p).outcome = .reject s := by
  rcases run_cases cfg env p with ⟨s, e⟩ | ⟨_, hf⟩ | ⟨_, _, hfl, hesc⟩ | ⟨_, hfl, _, hsy, hp, htg, _, hbe⟩
  · exact ⟨s, by rw [e]⟩
  · exact absurd hf (fuel_suffices w)
  -- the run was not rejected: `h` contradicts what the stages before the panic, or all of them, said
  · rcases hesc with hpp | ⟨hsy, hp, htg, hbp⟩
    · simp [hfl, hpp] at h
    · simp [hfl, hsy, hp, htg, hbp] at h
  · simp [hfl, hsy, hp, htg, hbe] at h

end Pipeline

end Diag
