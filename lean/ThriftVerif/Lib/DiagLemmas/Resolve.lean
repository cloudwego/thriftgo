import ThriftVerif.Lib.DiagLemmas.Checker
/-! What ResolveAST has established of a file it lets through (`resolveFile_ok`): `addAll` registered every symbol once (one more
instance of `scan_accepts`), and `doWork` resolved every item of the work list (`doWork_ok`) and collected the pending
typedef pairs of its type items (`doWork_pends`).  A type that `Mentions` a name which does not resolve (`BadRef`) does not resolve either. -/
namespace Diag

section Resolve
variable {cfg : Cfg} {p : Program} {tables : List (Option Table)} {fuel i : Nat} {f : File} {tbl : Table} {incs : List IncV}

theorem addAll_accepts (l : List (Name × Cat)) (t : Table) (h : addAll l t ≠ none) :
    (∀ y ∈ l, (tlookup y.1 t).isSome = false) ∧ l.Pairwise fun x y => x.1 ≠ y.1 :=
  scan_accepts (fun t l => addAll l t) (· ≠ none) (fun t x => x :: t) (fun t y => (tlookup y.1 t).isSome = false)
    (fun x y => x.1 ≠ y.1)
    (fun t x r h => by
      rw [addAll] at h
      split at h
      · exact absurd rfl h
      · exact ⟨eq_false_of_ne_true ‹_›, h⟩)
    (fun t x y h => by
      rw [tlookup] at h
      split at h
      · cases h
      · exact ⟨‹_›, h⟩) l t h

theorem addAll_lookup {n : Name} {c : Cat} (l : List (Name × Cat)) (t : Table) : ∀ t',
    addAll l t = some t' → (n, c) ∈ l ∨ tlookup n t = some c → tlookup n t' = some c := by
  fun_induction addAll l t with
  | case1 =>
    rintro _ ⟨⟩ hm
    exact hm.resolve_left List.not_mem_nil
  | case2 => nofun
  | case3 m d l t hfree ih =>
    intro t' h hm
    refine ih t' h ?_
    rw [tlookup]
    rcases hm with hm | hl
    · rcases List.mem_cons.mp hm with e | hr
      · cases e
        exact .inr (if_pos rfl)
      · exact .inl hr
    · refine .inr ?_
      split
      · rename_i e
        rw [e, hl] at hfree
        exact absurd rfl hfree
      · exact hl

inductive Mentions (n : Name) : Ty → Prop
  | ref : Mentions n (.ref n)
  | list {v : Ty} : Mentions n v → Mentions n (.list v)
  | mapKey {k v : Ty} : Mentions n k → Mentions n (.map k v)
  | mapVal {k v : Ty} : Mentions n v → Mentions n (.map k v)

def BadRef (cfg : Cfg) (f : File) (tbl : Table) (incs : List IncV) (n : Name) : Prop :=
  ∀ tgt, ∃ e, resolveType cfg f tbl incs tgt (.ref n) = .error e

theorem resolveType_mentions {n : Name}
    (hb : BadRef cfg f tbl incs n) : ∀ {t : Ty}, Mentions n t → ∀ tgt, ∃ e, resolveType cfg f tbl incs tgt t = .error e := by
  intro t hm
  induction hm with
  | ref => exact hb
  | list _ ih =>
    intro tgt
    obtain ⟨e, he⟩ := ih none
    exact ⟨e, by simp [resolveType, he]⟩
  | mapKey _ ih =>
    intro tgt
    obtain ⟨e, he⟩ := ih none
    exact ⟨e, by simp [resolveType, he]⟩
  | @mapVal k v _ ih =>
    intro tgt
    obtain ⟨e, he⟩ := ih none
    cases hk : resolveType cfg f tbl incs none k with
    | error e' => exact ⟨e', by simp [resolveType, hk]⟩
    | ok r => exact ⟨e, by simp [resolveType, hk, he]⟩

theorem badRef_undefined {n a : Name}
    (h1 : splitType n = .one a) (h2 : tlookup a tbl = none) : BadRef cfg f tbl incs n :=
  fun _ => ⟨.undefinedType, by simp [resolveType, h1, h2]⟩

theorem badRef_nontype {n a : Name} {c : Cat}
    (h1 : splitType n = .one a) (h2 : tlookup a tbl = some c) (h3 : isTypeCat cfg c = false) : BadRef cfg f tbl incs n :=
  fun _ => ⟨.notAType, by simp [resolveType, h1, h2, h3]⟩

/-- Cases as in `findExt`: no include left; a hit; the three ways of going on to the next include. -/
theorem findExt_none {good : Cat → Bool} {pre nm : Name} (incs : List IncV) (k : Nat) :
    (∀ v ∈ incs, v.pfx = pre → ∀ c, tlookup nm v.tbl = some c → good c = false) → findExt good pre nm incs k = none := by
  fun_induction findExt good pre nm incs k with
  | case1 => exact fun _ => rfl
  | case2 v _ _ hp c hl hg => exact fun h => absurd hg (ne_true_of_eq_false (h v List.mem_cons_self hp c hl))
  | _ =>
    rename_i ih
    exact fun h => ih (List.forall_mem_cons.mp h).2

theorem badRef_qualified {n pre nm : Name}
    (h1 : splitType n = .two pre nm)
    (h2 : ∀ v ∈ incs, v.pfx = pre → ∀ c, tlookup nm v.tbl = some c → isTypeCat cfg c = false) : BadRef cfg f tbl incs n :=
  fun _ => ⟨.undefinedType, by simp [resolveType, h1, findExt_none incs 0 h2]⟩

/-- Cases as in `doWork`: no item left; a type that fails, resolves; identifiers that resolve, fail; a base service that is
found, not found. -/
theorem doWork_ok (ws : List Work) (acc : List Pend) : ∀ out,
    doWork cfg p tables fuel i f tbl incs ws acc = (.ok, out) → ∀ w ∈ ws,
      match w with
      | .type tgt t => ∃ r, resolveType cfg f tbl incs tgt t = .ok r
      | .idents ids => resolveIdents cfg p tables fuel i f ids = .ok
      | .base s => resolveBase tbl incs s = true := by
  fun_induction doWork cfg p tables fuel i f tbl incs ws acc with
  | case1 => exact fun _ _ => nofun
  | case2 => nofun
  | case3 _ _ _ _ _ _ ht ih => exact fun out h => List.forall_mem_cons.mpr ⟨⟨_, ht⟩, ih out h⟩
  | case4 _ _ _ hi ih => exact fun out h => List.forall_mem_cons.mpr ⟨hi, ih out h⟩
  | case5 _ _ _ hne => exact fun _ h => (hne (Prod.mk.inj h).1).elim
  | case6 _ _ _ hb ih => exact fun out h => List.forall_mem_cons.mpr ⟨hb, ih out h⟩
  | case7 => nofun

theorem doWork_pends {it : Pend} (ws : List Work) (acc : List Pend) : ∀ out,
    doWork cfg p tables fuel i f tbl incs ws acc = (.ok, out) →
    (it ∈ out ↔ it ∈ acc ∨ ∃ tgt t r, .type tgt t ∈ ws ∧ resolveType cfg f tbl incs tgt t = .ok r ∧ it ∈ r.2) := by
  fun_induction doWork cfg p tables fuel i f tbl incs ws acc with
  | case1 =>
    rintro _ ⟨⟩
    simp
  | case2 => nofun
  | case3 _ _ _ _ _ _ ht ih =>
    intro out h
    rw [ih out h, List.mem_append, or_assoc]
    refine or_congr_right ?_
    simp only [exists_and_left, List.mem_cons, Work.type.injEq, or_and_right, and_assoc, exists_or, exists_eq_left, ht,
      Except.ok.injEq, exists_eq_left']
  | case4 _ _ _ _ ih =>
    intro out h
    rw [ih out h]
    simp only [List.mem_cons, reduceCtorEq, false_or]
  | case5 _ _ _ hne => exact fun _ h => (hne (Prod.mk.inj h).1).elim
  | case6 _ _ _ _ ih =>
    intro out h
    rw [ih out h]
    simp only [List.mem_cons, reduceCtorEq, false_or]
  | case7 => nofun

/-- Of the six exits of `resolveFile` the third is the one that says `.ok` of a file that exists. -/
theorem resolveFile_ok {cfg : Cfg} {p : Program} {i : Nat} {f : File} (hf : p.files[i]? = some f) :
    resolveFile cfg p (programTables p) i = .ok →
    ∃ tbl tds, registerNames f = some tbl ∧
      doWork cfg p (programTables p) (enumFuel p) i f tbl (incViews (programTables p) f) (fileWork f) [] = (.ok, tds) ∧
      resolveTypedefs (tds.length + 1) (initCats cfg f tbl (incViews (programTables p) f)) tds = some true := by
  fun_cases resolveFile cfg p (programTables p) i with
  | case1 hn => cases hn.symm.trans hf
  | case3 _ hf' tbl ht tds hd hrt =>
    cases hf.symm.trans hf'
    exact fun _ => ⟨tbl, tds, ht, hd, hrt⟩
  | case6 _ _ _ _ _ _ hne => exact fun h => (hne h).elim
  | _ => nofun

end Resolve

end Diag
