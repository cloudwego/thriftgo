import ThriftVerif.Lib.Diag
/-! What each loop of semantic/checker.go accepts is an instance of one induction, `scan_accepts`: a loop that carries a state along
a list and stops at the first element its state rules out gets through only a list whose elements all pass the initial state and
are pairwise compatible.  `FuncValid` is what CheckFunctions has then established of one function. -/
namespace Diag

theorem scan_accepts {σ α ρ : Type} (L : σ → List α → ρ) (Good : ρ → Prop) (next : σ → α → σ)
    (P : σ → α → Prop) (R : α → α → Prop)
    (step : ∀ s x r, Good (L s (x :: r)) → P s x ∧ Good (L (next s x) r))
    (mono : ∀ s x y, P (next s x) y → R x y ∧ P s y) :
    ∀ (l : List α) (s : σ), Good (L s l) → (∀ y ∈ l, P s y) ∧ l.Pairwise R
  | [], _, _ => ⟨nofun, .nil⟩
  | x :: r, s, h =>
    have ⟨hx, hr⟩ := step s x r h
    have ⟨h1, h2⟩ := scan_accepts L Good next P R step mono r _ hr
    ⟨List.forall_mem_cons.mpr ⟨hx, fun y hy => (mono s x y (h1 y hy)).2⟩,
      List.pairwise_cons.mpr ⟨fun y hy => (mono s x y (h1 y hy)).1, h2⟩⟩

theorem pairwise_mid {α : Type} {R : α → α → Prop} {a b c : List α} {x y : α}
    (h : (a ++ x :: (b ++ y :: c)).Pairwise R) : R x y :=
  List.rel_of_pairwise_cons (List.pairwise_append.mp h).2.1 (List.mem_append_right _ List.mem_cons_self)

theorem dupScan_accepts (l seen : List Name) (h : dupScan seen l = false) : (∀ y ∈ l, y ∉ seen) ∧ l.Pairwise (· ≠ ·) :=
  scan_accepts dupScan (· = false) (fun seen x => x :: seen) (fun seen y => y ∉ seen) (· ≠ ·)
    (fun seen x r h => by
      rw [dupScan] at h
      split at h
      · cases h
      · exact ⟨‹_›, h⟩)
    (fun _ _ _ h => ⟨fun e => h (e ▸ List.mem_cons_self), fun hm => h (List.mem_cons_of_mem _ hm)⟩) l seen h

theorem enumLoop_accepts (l : List (Name × Int)) (ex : List Name) (v2n : List (Int × Name)) (h : enumLoop ex v2n l = none) :
    (∀ y ∈ l, y.1 ∉ ex ∧ (∀ m, assocFind y.2 v2n = some m → m = y.1) ∧ ¬(y.2 < -2147483648 ∨ y.2 > 2147483647)) ∧
    l.Pairwise fun x y => x.1 ≠ y.1 ∧ x.2 ≠ y.2 :=
  scan_accepts (fun s : List Name × List (Int × Name) => enumLoop s.1 s.2) (· = none)
    (fun s x => (x.1 :: s.1, (x.2, x.1) :: s.2))
    (fun s y => y.1 ∉ s.1 ∧ (∀ m, assocFind y.2 s.2 = some m → m = y.1) ∧ ¬(y.2 < -2147483648 ∨ y.2 > 2147483647))
    (fun x y => x.1 ≠ y.1 ∧ x.2 ≠ y.2)
    (fun s x r h => by
      obtain ⟨n, v⟩ := x
      simp only [enumLoop] at h
      split at h
      · cases h
      · rename_i he
        split at h
        · cases h
        -- `he`: the name test's verdict, as overwritten by the number test, is `none`
        · refine ⟨⟨fun hn => ?_, fun m hm => ?_, ‹_›⟩, h⟩
          -- a name seen before: the number test can replace that error, not clear it
          · cases ha : assocFind v s.2 with
            | none => simp [ha, hn] at he
            | some m =>
              by_cases hm : m = n
              · simp [ha, hn, hm] at he
              · simp [ha, hm] at he
          -- a number seen before under another name is an error whatever the name test said
          · by_cases hmn : m = n
            · exact hmn
            · simp [hm, hmn] at he)
    (fun s x y h => by
      have h1 : x.1 ≠ y.1 := fun e => h.1 (e ▸ List.mem_cons_self)
      have h2 : x.2 ≠ y.2 := fun e => h1 (h.2.1 x.1 (by simp [assocFind, e]))
      exact ⟨⟨h1, h2⟩, fun hm => h.1 (List.mem_cons_of_mem _ hm), fun m hm => h.2.1 m (by simp [assocFind, h2, hm]), h.2.2⟩)
    l (ex, v2n) h

theorem fieldLoop_accepts (l : List Field) (ids : List Int) (ns : List Name) (h : fieldLoop ids ns l = none) :
    (∀ g ∈ l, g.id ∉ ids ∧ g.name ∉ ns) ∧ l.Pairwise fun f g => f.id ≠ g.id ∧ f.name ≠ g.name :=
  scan_accepts (fun s : List Int × List Name => fieldLoop s.1 s.2) (· = none) (fun s f => (f.id :: s.1, f.name :: s.2))
    (fun s g => g.id ∉ s.1 ∧ g.name ∉ s.2) (fun f g => f.id ≠ g.id ∧ f.name ≠ g.name)
    (fun s f r h => by
      rw [fieldLoop] at h
      split at h
      · cases h
      · split at h
        · cases h
        · exact ⟨⟨‹_›, ‹_›⟩, h⟩)
    (fun _ _ _ h => ⟨⟨fun e => h.1 (e ▸ List.mem_cons_self), fun e => h.2 (e ▸ List.mem_cons_self)⟩,
      fun hm => h.1 (List.mem_cons_of_mem _ hm), fun hm => h.2 (List.mem_cons_of_mem _ hm)⟩)
    l (ids, ns) h

structure FuncValid (g : Func) : Prop where
  oneway : g.oneway = true → g.void = true ∧ g.throws = []
  args : g.args.Pairwise fun a b => a.id ≠ b.id ∧ a.name ≠ b.name
  throws : g.throws.Pairwise fun a b => a.id ≠ b.id ∧ a.name ≠ b.name
  /-- the seeds: field 0 `success` of the synthesized `<func>_result` struct when there is a return value -/
  success : ∀ t ∈ g.throws, t.id ∉ throwsSeedIds g ∧ t.name ∉ throwsSeedNames g

theorem funcLoop_accepts (l : List Func) (d : List Name) (h : funcLoop d l = none) :
    (∀ g ∈ l, g.name ∉ d ∧ FuncValid g) ∧ l.Pairwise fun f g => f.name ≠ g.name :=
  scan_accepts funcLoop (· = none) (fun d f => f.name :: d) (fun d g => g.name ∉ d ∧ FuncValid g) (fun f g => f.name ≠ g.name)
    (fun d g r h => by
      rw [funcLoop] at h
      split at h
      · cases h
      · split at h
        · cases h
        · split at h
          · cases h
          · split at h
            · cases h
            · split at h
              · cases h
              · rename_i hn hv ht _ ha _ hth
                have hs := fieldLoop_accepts _ _ _ hth
                exact ⟨⟨hn, ⟨fun ho => by simpa [ho] using And.intro hv ht, (fieldLoop_accepts _ _ _ ha).2, hs.2, hs.1⟩⟩, h⟩)
    (fun _ _ _ h => ⟨fun e => h.1 (e ▸ List.mem_cons_self), fun hm => h.1 (List.mem_cons_of_mem _ hm), h.2⟩) l d h

/-- `unionLoop true`: the loop with the assignment `hasDefault = true` in place -/
theorem unionLoop_accepts (l : List Field) (hd : Bool) (h : unionLoop true hd l = none) :
    (∀ g ∈ l, ¬(g.hasDefault = true ∧ hd = true)) ∧ l.Pairwise fun f g => ¬(f.hasDefault = true ∧ g.hasDefault = true) :=
  scan_accepts (unionLoop true) (· = none) (fun hd f => hd || f.hasDefault) (fun hd g => ¬(g.hasDefault = true ∧ hd = true))
    (fun f g => ¬(f.hasDefault = true ∧ g.hasDefault = true))
    (fun hd f r h => by
      rw [unionLoop] at h
      split at h
      · split at h
        · cases h
        · exact ⟨fun hh => ‹¬hd = true› hh.2, by rwa [‹f.hasDefault = true›]⟩
      · exact ⟨fun hh => ‹¬f.hasDefault = true› hh.1, by rwa [eq_false_of_ne_true ‹¬f.hasDefault = true›, Bool.or_false]⟩)
    (fun hd x y h => ⟨fun hh => h ⟨hh.2, by rw [hh.1, Bool.or_true]⟩, fun hh => h ⟨hh.1, by rw [hh.2]; rfl⟩⟩) l hd h

/-- without the assignment (`hasDefault` is declared and tested but never set) the test never fires -/
theorem unionLoop_never (fs : List Field) : unionLoop false false fs = none := by
  induction fs with
  | nil => rfl
  | cons f r ih => simp [unionLoop, ih]

end Diag
