import ThriftVerif.Lib.DiagLemmas.Resolve
import ThriftVerif.Lib.DiagLemmas.Work
/-! The rounds of ResolveTypedefs.  A round that goes on drops a pair, so `tds.length + 1` rounds are enough fuel.  A set of local
typedefs each written as an alias of another member (`TypedefKnot`, a cycle of any length) keeps its category through every
round and its pairs are never dropped, so such a file is not resolved. -/
namespace Diag

section Resolve
variable {cfg : Cfg} {f : File} {tbl : Table} {incs : List IncV}

def PendClosed (C : List Nat) (tds : List Pend) : Prop :=
  ∀ it ∈ tds, ∀ k ∈ C, it.tgt = some k → ∃ j ∈ C, it.src = some j

def CatsStuck (C : List Nat) (cats : List Bool) : Prop := ∀ k ∈ C, cats.getD k false = true

theorem tdRound_sublist (cats : List Bool) (tds : List Pend) : (tdRound cats tds).2.Sublist tds := by
  fun_induction tdRound cats tds with
  | case1 => exact .slnil
  | case2 _ it _ _ ih => exact ih.cons_cons it
  | case3 _ it _ _ ih => exact ih.cons it

/-- Cases as in `tdRound`: no pair left; the source is still a typedef and the pair is kept; the pair is dropped. -/
theorem tdRound_spec (C : List Nat) (cats : List Bool) (tds : List Pend) :
    PendClosed C tds → CatsStuck C cats →
    CatsStuck C (tdRound cats tds).1 ∧
    (∀ it ∈ tds, (∃ k ∈ C, it.tgt = some k) → it ∈ (tdRound cats tds).2) := by
  fun_induction tdRound cats tds with
  | case1 => exact fun _ hs => ⟨hs, nofun⟩
  | case2 cats it r _ ih =>
    intro hc hs
    obtain ⟨h1, h2⟩ := ih (fun x hx => hc x (List.mem_cons_of_mem _ hx)) hs
    exact ⟨h1, List.forall_mem_cons.mpr ⟨fun _ => List.mem_cons_self, fun x hr hk => List.mem_cons_of_mem _ (h2 x hr hk)⟩⟩
  | case3 cats it r hsrc ih =>
    intro hc hs
    -- a dropped pair has no target in `C`: its source would be a member of `C`, still a typedef
    have hnot : ∀ k ∈ C, it.tgt ≠ some k := by
      intro k hk ht
      obtain ⟨j, hj, hsj⟩ := hc it List.mem_cons_self k hk ht
      exact hsrc (by simp only [srcIsTypedef, hsj]; exact hs j hj)
    have hs' : CatsStuck C (clearTarget cats it) := by
      intro k hk
      fun_cases clearTarget cats it with
      | case1 k' htg =>
        have hne : k' ≠ k := fun e => hnot k hk (e ▸ htg)
        rw [List.getD_eq_getElem?_getD, List.getElem?_set_ne hne, ← List.getD_eq_getElem?_getD]
        exact hs k hk
      | case2 => exact hs k hk
    obtain ⟨h1, h2⟩ := ih (fun x hx => hc x (List.mem_cons_of_mem _ hx)) hs'
    exact ⟨h1, List.forall_mem_cons.mpr ⟨fun ⟨k, hkC, hkt⟩ => absurd hkt (hnot k hkC), h2⟩⟩

/-- Cases as in `resolveTypedefs`: no fuel; no pair left; a round that dropped nothing; another round. -/
theorem resolveTypedefs_stuck (C : List Nat) (fuel : Nat) (cats : List Bool) (tds : List Pend) :
    PendClosed C tds → CatsStuck C cats → (∃ it ∈ tds, ∃ k ∈ C, it.tgt = some k) →
    resolveTypedefs fuel cats tds ≠ some true := by
  fun_induction resolveTypedefs fuel cats tds with
  | case1 => exact fun _ _ _ => nofun
  | case2 _ _ tds he =>
    rintro _ _ ⟨it, hit, _⟩
    rw [List.isEmpty_iff.mp he] at hit
    nomatch hit
  | case3 => exact fun _ _ _ => nofun
  | case4 _ cats tds _ cats' tmp hr _ ih =>
    rintro hc hs ⟨it, hit, hk⟩
    have ⟨h1, h2⟩ := tdRound_spec C cats tds hc hs
    have h3 := (tdRound_sublist cats tds).subset
    rw [hr] at h1 h2 h3
    exact ih (fun x hx => hc x (h3 hx)) h1 ⟨it, h2 it hit hk, hk⟩

theorem resolveTypedefs_fuel (fuel : Nat) (cats : List Bool) (tds : List Pend) :
    tds.length < fuel → resolveTypedefs fuel cats tds ≠ none := by
  fun_induction resolveTypedefs fuel cats tds with
  | case1 => exact fun h => absurd h (Nat.not_lt_zero _)
  | case2 => nofun
  | case3 => nofun
  | case4 _ cats tds _ cats' tmp hr hne ih =>
    intro h
    have hl := (tdRound_sublist cats tds).length_le
    rw [hr] at hl
    exact ih (Nat.lt_of_lt_of_le (Nat.lt_of_le_of_ne hl hne) (Nat.le_of_lt_succ h))

/-- Cases in the order of the branches of `resolveType`: 1, 10 and 14 return no pair, 9 and 13 the one pair of `tgt`, 3 and 6 the pairs
of the element types; the seven that end in `.error` fall to `nofun`. -/
theorem resolveType_tgt (t : Ty) (tgt : Option Nat) :
    ∀ (b : Bool) (ps : List Pend), resolveType cfg f tbl incs tgt t = .ok (b, ps) → ∀ it ∈ ps, it.tgt = tgt ∨ it.tgt = none := by
  fun_induction resolveType cfg f tbl incs tgt t with
  | case1 | case10 | case14 => rintro _ _ ⟨⟩ _ ⟨⟩
  | case3 _ _ _ _ hv ih =>
    rintro _ _ ⟨⟩ it hit
    exact .inr ((ih _ _ hv it hit).elim id id)
  | case6 _ _ _ _ _ hk _ _ hv ihk ihv =>
    rintro _ _ ⟨⟩ it hit
    exact .inr ((List.mem_append.mp hit).elim (fun hm => (ihk _ _ hk it hm).elim id id) fun hm => (ihv _ _ hv it hm).elim id id)
  | case9 | case13 =>
    rintro _ _ ⟨⟩ it hit
    exact .inl (List.mem_singleton.mp hit ▸ rfl)
  | _ => nofun

theorem typedefIdx_spec {f : File} {a : Name} {j : Nat} (h : typedefIdx f a = some j) :
    ∃ td, f.typedefs[j]? = some td ∧ td.alias = a := by
  rw [typedefIdx] at h
  split at h
  · rename_i hlt
    cases h
    exact ⟨_, List.getElem?_eq_getElem hlt, by simpa using List.findIdx_getElem (w := hlt)⟩
  · cases h

theorem symbols_typedef {f : File} {j : Nat} {td : Typedef} (h : f.typedefs[j]? = some td) :
    (td.alias, Cat.typedef) ∈ f.symbols :=
  List.mem_append_left _ (List.mem_map.mpr ⟨td, List.mem_of_getElem? h, rfl⟩)

/-- `C` is a non-empty set of local typedefs each of which is
written as an alias of (the first typedef called like) another member of `C`. -/
structure TypedefKnot (f : File) (C : List Nat) : Prop where
  nonempty : C ≠ []
  step : ∀ k ∈ C, ∃ td a, f.typedefs[k]? = some td ∧ td.ty = .ref a ∧ splitType a = .one a ∧
    ∃ j ∈ C, typedefIdx f a = some j

theorem resolveFile_of_knot {cfg : Cfg} (hcfg : isTypeCat cfg .typedef = true) {p : Program} {i : Nat} {f : File}
    (hf : p.files[i]? = some f) {C : List Nat} (hk : TypedefKnot f C) :
    resolveFile cfg p (programTables p) i ≠ .ok := by
  intro hok
  obtain ⟨tbl, tds, ht, hd, hrt⟩ := resolveFile_ok hf hok
  have hmember : ∀ k ∈ C, ∃ td j, f.typedefs[k]? = some td ∧ j ∈ C ∧
      ∀ tgt, resolveType cfg f tbl (incViews (programTables p) f) tgt td.ty = .ok (true, [⟨tgt, some j⟩]) := by
    intro k hkC
    obtain ⟨td, a, htd, hty, hsp, j, hj, hidx⟩ := hk.step k hkC
    obtain ⟨tdj, htdj, hal⟩ := typedefIdx_spec hidx
    have hl : tlookup a tbl = some .typedef := hal ▸ addAll_lookup f.symbols [] tbl ht (.inl (symbols_typedef htdj))
    exact ⟨td, j, htd, hj, fun tgt => by simp [hty, resolveType, hsp, hl, hcfg, hidx]⟩
  have hclosed : PendClosed C tds := by
    intro it hit k hkC htg
    obtain ⟨tgt, t, ⟨b, ps⟩, hm, hr, hi⟩ := ((doWork_pends _ _ _ hd).mp hit).resolve_left List.not_mem_nil
    -- the pair comes from the work item of typedef `k` itself
    have htgt : it.tgt = tgt := (resolveType_tgt t tgt b ps hr it hi).resolve_right (by rw [htg]; nofun)
    rw [htg] at htgt
    subst htgt
    obtain ⟨td', htd', rfl⟩ := fileWork_typedef_item.mp hm
    obtain ⟨td, j, htd, hj, hres⟩ := hmember k hkC
    cases htd.symm.trans htd'
    cases (hres _).symm.trans hr
    cases List.mem_singleton.mp hi
    exact ⟨j, hj, rfl⟩
  have hex : ∃ it ∈ tds, ∃ k ∈ C, it.tgt = some k := by
    obtain ⟨k0, hk0⟩ := List.exists_mem_of_ne_nil C hk.nonempty
    obtain ⟨td, j, htd, _, hres⟩ := hmember k0 hk0
    exact ⟨⟨some k0, some j⟩, (doWork_pends _ _ _ hd).mpr
      (.inr ⟨_, _, _, fileWork_typedef_item.mpr ⟨td, htd, rfl⟩, hres _, List.mem_singleton_self _⟩), k0, hk0, rfl⟩
  have hstuck : CatsStuck C (initCats cfg f tbl (incViews (programTables p) f)) := by
    intro k hkC
    obtain ⟨td, j, htd, _, hres⟩ := hmember k hkC
    simp [initCats, List.getD_eq_getElem?_getD, List.getElem?_map, htd, hres]
  exact resolveTypedefs_stuck C _ _ tds hclosed hstuck hex hrt

end Resolve

end Diag
