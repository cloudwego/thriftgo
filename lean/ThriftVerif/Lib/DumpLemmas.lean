/-
  C17 helper lemmas: `quoteLiteral` against the `Literal` rule + `pegText`; `Annotations.Append` regrouping.

  A value v is written between q…q (q = `"` or `'`) with every q written `\q` (`esc q v`).  It is read back as v
  provided v does not end in a backslash and no q of v is preceded by an odd number of backslashes
  (`oddGo q false v = false`): `pegText` keeps `\\` pairs and drops one backslash in front of q.
  Conversely every value `pegText` produces has this form for its own q (`pegText_representable`).
-/
import ThriftVerif.Lib.Dump

namespace Dump

theorem replGo_single (k : Nat) (new s : Bytes) :
    replGo [k] new 0 s = s.flatMap (fun c => if c = k then new else [c]) := by
  induction s with
  | nil => simp [replGo]
  | cons c s ih =>
    by_cases h : c = k
    · subst h; simp [replGo, isPrefix, ih]
    · have h' : ¬ k = c := fun e => h e.symm
      simp [replGo, isPrefix, ih, h, h']

def esc (q : Nat) (v : Bytes) : Bytes := v.flatMap fun c => if c = q then [92, q] else [c]

theorem esc_cons (q c : Nat) (w : Bytes) : esc q (c :: w) = (if c = q then [92, q] else [c]) ++ esc q w := by
  simp [esc]

theorem esc_ne_nil {q : Nat} {w : Bytes} (h : w ≠ []) : esc q w ≠ [] := by
  cases w with
  | nil => exact absurd rfl h
  | cons c w => rw [esc_cons]; by_cases h1 : c = q <;> simp [h1]

theorem esc_head (q : Nat) (hq : q ≠ 92) {w : Bytes} (hw : w ≠ []) (Z : Bytes) : (esc q w ++ Z).head? ≠ some q := by
  cases w with
  | nil => exact absurd rfl hw
  | cons d w => rw [esc_cons]; by_cases hd : d = q <;> simp [hd, Ne.symm hq]

theorem quoteVal_std (v : Bytes) :
    quoteVal stdCfg v = if oddGo 34 false v then 39 :: (esc 39 v ++ [39]) else 34 :: (esc 34 v ++ [34]) := by
  unfold quoteVal
  split <;> simp [stdCfg, replaceAll, replGo_single, esc]

def endsBs : Bytes → Bool
  | [] => false
  | [c] => c == 92
  | _ :: t => endsBs t

theorem endsBs_cons (x : Nat) {X : Bytes} (h : X ≠ []) : endsBs (x :: X) = endsBs X := by
  cases X with
  | nil => exact absurd rfl h
  | cons _ _ => rfl

theorem endsBs_of_cons {c : Nat} {w : Bytes} (h : endsBs (c :: w) = false) : endsBs w = false := by
  cases w with
  | nil => rfl
  | cons _ _ => exact h

theorem lexBody_close (q : Nat) (t : Bytes) (hq : q ≠ 92) : lexBody q (q :: t) = some ([], t) := by
  cases t with
  | nil => simp [lexBody]
  | cons d s => rw [lexBody]; simp [hq]

theorem lexBody_esc (q d : Nat) (s : Bytes) (hd : d = 34 ∨ d = 39) :
    lexBody q (92 :: d :: s) = (lexBody q s).map fun (b, r) => (92 :: d :: b, r) := by
  rw [lexBody]; simp [hd]

theorem lexBody_plain (q c d : Nat) (s : Bytes) (h : ¬ (c = 92 ∧ (d = 34 ∨ d = 39))) (hq : c ≠ q) :
    lexBody q (c :: d :: s) = (lexBody q (d :: s)).map fun (b, r) => (c :: b, r) := by
  rw [lexBody]; simp [h, hq]

theorem quote_ne_bs {q : Nat} (hq : q = 34 ∨ q = 39) : q ≠ 92 := by rcases hq with h | h <;> omega

theorem lexBody_copy (q : Nat) : ∀ (c : Nat) (t : Bytes), c ≠ q → (c = 92 → t.head? ≠ some q) →
    lexBody q (c :: t) = (lexBody q t).map fun (b, r) => (c :: b, r)
  | c, [], hc, _ => by simp [lexBody, hc]
  | c, d :: s, hc, h => by
    by_cases he : c = 92 ∧ (d = 34 ∨ d = 39)
    -- before the other quote kind the grammar's escape takes two bytes at once, as two single steps would
    · have hd : d ≠ q := fun e => h he.1 (congrArg some e)
      rw [he.1, lexBody_esc q d s he.2, lexBody_copy q d s hd fun h' => absurd h' (quote_ne_bs he.2)]
      cases lexBody q s <;> rfl
    · exact lexBody_plain q c d s he hc

theorem lex_esc (q : Nat) (hq : q = 34 ∨ q = 39) : ∀ v : Bytes, endsBs v = false → ∀ rest,
    lexBody q (esc q v ++ q :: rest) = some (esc q v, rest)
  | [], _, rest => by simp [esc, lexBody_close q rest (quote_ne_bs hq)]
  | c :: w, he, rest => by
    have ih := lex_esc q hq w (endsBs_of_cons he) rest
    rw [esc_cons]
    by_cases h1 : c = q
    · subst c
      simp only [if_true, List.cons_append, List.nil_append]
      rw [lexBody_esc q q _ hq, ih]; rfl
    · simp only [h1, if_false, List.cons_append, List.nil_append]
      -- a backslash of the value is not its last byte, and the byte after it is written as itself or as `\q`
      rw [lexBody_copy q c _ h1 fun h2 => esc_head q (quote_ne_bs hq) (fun e => by simp [h2, e, endsBs] at he) _, ih]
      rfl

theorem pegLoop_single (q r : Nat) : pegLoop q [r] = [r] := by simp [pegLoop]

theorem pegLoop_plain (q r : Nat) (t : Bytes) (hr : r ≠ 92) : pegLoop q (r :: t) = r :: pegLoop q t := by
  cases t with
  | nil => simp [pegLoop]
  | cons n t =>
    cases t with
    | nil => simp [pegLoop, hr]
    | cons m t => rw [pegLoop]; simp [hr]

theorem pegLoop_escq (q : Nat) (t : Bytes) (hq : q ≠ 92) : pegLoop q (92 :: q :: t) = pegLoop q (q :: t) := by
  cases t with
  | nil => simp [pegLoop, hq]
  | cons m t => rw [pegLoop]; simp [hq]

theorem pegLoop_bs_plain (q n : Nat) (t : Bytes) (h1 : n ≠ 92) (h2 : n ≠ q) :
    pegLoop q (92 :: n :: t) = 92 :: pegLoop q (n :: t) := by
  cases t with
  | nil => simp [pegLoop, h1, h2]
  | cons m t => rw [pegLoop]; simp [h1, h2]

theorem pegLoop_bs_bs (q : Nat) (t : Bytes) (ht : t ≠ []) : pegLoop q (92 :: 92 :: t) = 92 :: 92 :: pegLoop q t := by
  cases t with
  | nil => exact absurd rfl ht
  | cons m t => rw [pegLoop]; simp

theorem peg_esc (q : Nat) (hq : q ≠ 92) : ∀ v : Bytes, endsBs v = false → oddGo q false v = false →
    pegLoop q (esc q v) = v
  | [], _, _ => by simp [esc, pegLoop]
  | c :: w, he, ho => by
    rw [esc_cons]
    by_cases h1 : c = q
    · subst c
      simp only [if_true, List.cons_append, List.nil_append]
      rw [pegLoop_escq q _ hq, pegLoop_plain q q _ hq,
        peg_esc q hq w (endsBs_of_cons he) (by simpa [oddGo, hq] using ho)]
    · simp only [h1, if_false, List.cons_append, List.nil_append]
      by_cases h2 : c = 92
      · subst h2
        match w, he, ho with
        | [], he, _ => simp [endsBs] at he
        | d :: w', he, ho =>
          have he' : endsBs w' = false := endsBs_of_cons (endsBs_of_cons he)
          rw [esc_cons]
          by_cases h3 : d = 92
          · subst h3
            have hne : w' ≠ [] := by intro e; subst e; simp [endsBs] at he
            simp only [h1, if_false, List.cons_append, List.nil_append]
            rw [pegLoop_bs_bs q _ (esc_ne_nil hne), peg_esc q hq w' he' (by simpa [oddGo] using ho)]
          · by_cases h4 : d = q
            · subst h4; simp [oddGo, hq] at ho
            · simp only [h4, if_false, List.cons_append, List.nil_append]
              rw [pegLoop_bs_plain q d _ h3 h4, pegLoop_plain q d _ h3,
                peg_esc q hq w' he' (by simpa [oddGo, h3, h4] using ho)]
      · rw [pegLoop_plain q c _ h2, peg_esc q hq w (endsBs_of_cons he) (by simpa [oddGo, h1, h2] using ho)]

theorem pegText_eq (q : Nat) (raw : Bytes) : pegText q raw = pegLoop q raw := by
  cases raw with
  | nil => simp [pegText, pegLoop]
  | cons c t => rfl

theorem pegText_esc (q : Nat) (hq : q ≠ 92) (v : Bytes) (he : endsBs v = false) (ho : oddGo q false v = false) :
    pegText q (esc q v) = v :=
  (pegText_eq q _).trans (peg_esc q hq v he ho)

theorem readLiteral_esc (q : Nat) (hq : q = 34 ∨ q = 39) (v rest : Bytes) (he : endsBs v = false)
    (ho : oddGo q false v = false) : readLiteral (q :: (esc q v ++ [q]) ++ rest) = some (v, rest) := by
  have : q :: (esc q v ++ [q]) ++ rest = q :: (esc q v ++ q :: rest) := by simp
  rw [this]
  simp [readLiteral, hq, lex_esc q hq v he rest, pegText_esc q (quote_ne_bs hq) v he ho]

/-- the values `quoteLiteral` writes back correctly with at least one of the two quote kinds -/
def Representable (v : Bytes) : Bool := !endsBs v && (!oddGo 34 false v || !oddGo 39 false v)

theorem readLiteral_quoteVal (v rest : Bytes) (h : Representable v = true) :
    readLiteral (quoteVal stdCfg v ++ rest) = some (v, rest) := by
  simp only [Representable, Bool.and_eq_true, Bool.not_eq_true', Bool.or_eq_true] at h
  obtain ⟨he, ho⟩ := h
  rw [quoteVal_std]
  split
  · next h34 => exact readLiteral_esc 39 (Or.inr rfl) v rest he (by simpa [h34] using ho)
  · next h34 => exact readLiteral_esc 34 (Or.inl rfl) v rest he (Bool.eq_false_iff.mpr h34)

theorem oddGo_pegLoop (q : Nat) (raw : Bytes) : oddGo q false (pegLoop q raw) = false := by
  fun_induction pegLoop q raw
  -- a kept `\\` pair leaves the parity of the run as it was
  case case7 m rest ih => simpa [oddGo] using ih
  -- `\q` loses its backslash: the loop goes on at this `q`, now preceded by an even run
  case case8 m rest hq ih => exact ih
  -- a lone backslash before some other byte `n`: odd at `n`, which is not `q`, and the run ends
  case case9 n m rest h92 hnq ih =>
    rw [pegLoop_plain q n _ h92] at ih ⊢
    simpa [oddGo, h92, hnq] using ih
  all_goals simp_all [oddGo]

theorem pegLoop_ne_nil (q : Nat) (raw : Bytes) (h : raw ≠ []) : pegLoop q raw ≠ [] := by
  fun_induction pegLoop q raw <;> simp_all

theorem endsBs_pegLoop (q : Nat) (raw : Bytes) (h : endsBs raw = false) : endsBs (pegLoop q raw) = false := by
  fun_induction pegLoop q raw <;> simp_all [endsBs, endsBs_cons, pegLoop_ne_nil]

theorem lexBody_capture (q : Nat) (hq : q = 34 ∨ q = 39) (s : Bytes) :
    ∀ b r, lexBody q s = some (b, r) → endsBs b = false ∧ (b = [] → s.head? = some q) := by
  fun_induction lexBody q s <;> intro b r h
  -- the two branches that recurse: an escaped quote is copied (4), any other character that is not the closing quote is copied (6)
  case case4 c d s hcd ih =>
    obtain ⟨a, ha, rfl⟩ : ∃ a, lexBody q s = some (a, r) ∧ 92 :: d :: a = b := by simpa [hcd.1] using h
    refine ⟨?_, nofun⟩
    cases a with
    | nil => rcases hcd.2 with e | e <;> subst e <;> rfl
    | cons x a => exact (ih (x :: a) r ha).1
  case case6 c d s hcd hcq ih =>
    obtain ⟨a, ha, rfl⟩ : ∃ a, lexBody q (d :: s) = some (a, r) ∧ c :: a = b := by simpa using h
    refine ⟨?_, nofun⟩
    cases a with
    | nil =>
      -- the capture closes at `d`, so `d` is the quote and `c` is not a backslash
      have hd : d = q := Option.some.inj ((ih [] r ha).2 rfl)
      have hc : c ≠ 92 := fun e => hcd ⟨e, hd ▸ hq⟩
      simp [endsBs, hc]
    | cons x a => exact (ih (x :: a) r ha).1
  all_goals simp_all [endsBs]

theorem pegText_representable (q : Nat) (hq : q = 34 ∨ q = 39) (s raw rest : Bytes)
    (h : lexBody q s = some (raw, rest)) : Representable (pegText q raw) = true := by
  have h1 := endsBs_pegLoop q raw (lexBody_capture q hq s raw rest h).1
  have h2 := oddGo_pegLoop q raw
  rw [pegText_eq]
  rcases hq with hq | hq <;> subst hq <;> simp [Representable, h1, h2]

def annKeys (l : List Ann) : List Bytes := l.map (·.key)

def WFAnn (l : List Ann) : Prop := (annKeys l).Nodup ∧ ∀ a ∈ l, a.vals ≠ []

theorem annAppend_append (acc tl : List Ann) (k v : Bytes) (h : k ∉ annKeys acc) :
    annAppend (acc ++ tl) k v = acc ++ annAppend tl k v := by
  induction acc with
  | nil => rfl
  | cons a acc ih =>
    simp only [annKeys, List.map_cons, List.mem_cons, not_or] at h
    have hne : ¬ a.key = k := fun e => h.1 e.symm
    simp [annAppend, hne, ih (by simpa [annKeys] using h.2)]

theorem foldl_same_key (acc : List Ann) (k : Bytes) (vs ws' : List Bytes) (h : k ∉ annKeys acc) :
    (ws'.map fun v => (k, v)).foldl (fun acc kv => annAppend acc kv.1 kv.2) (acc ++ [⟨k, vs⟩]) = acc ++ [⟨k, vs ++ ws'⟩] := by
  induction ws' generalizing vs with
  | nil => simp
  | cons w ws' ih => simp [annAppend_append acc _ k w h, annAppend, ih]

theorem regroup_go (acc l : List Ann) (hnd : (annKeys (acc ++ l)).Nodup) (hne : ∀ a ∈ l, a.vals ≠ []) :
    (annFlatten l).foldl (fun acc kv => annAppend acc kv.1 kv.2) acc = acc ++ l := by
  induction l generalizing acc with
  | nil => simp [annFlatten]
  | cons a l ih =>
    obtain ⟨k, vals⟩ := a
    cases vals with
    | nil => exact absurd rfl (hne _ List.mem_cons_self)
    | cons v vs =>
      have hnd' : (annKeys acc ++ k :: annKeys l).Nodup := by simpa [annKeys] using hnd
      have ha : k ∉ annKeys acc := fun hk => (List.nodup_append.mp hnd').2.2 k hk k List.mem_cons_self rfl
      have h1 : annAppend acc k v = acc ++ [⟨k, [v]⟩] := by simpa [annAppend] using annAppend_append acc [] k v ha
      simp only [annFlatten, List.map_cons, List.cons_append, List.foldl_cons, List.foldl_append]
      rw [h1, foldl_same_key acc k [v] vs ha, List.singleton_append,
        ih (acc ++ [Ann.mk k (v :: vs)]) (List.append_cons acc _ l ▸ hnd) fun b hb => hne b (List.mem_cons_of_mem _ hb)]
      exact (List.append_cons acc _ l).symm

theorem regroup_flatten (l : List Ann) (h : WFAnn l) : annRegroup (annFlatten l) = l :=
  regroup_go [] l h.1 h.2

end Dump
