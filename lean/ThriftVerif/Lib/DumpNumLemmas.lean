/-
  C17 helper lemmas, numbers: `%d` output read back by the IntConstant rule + `strconv.ParseInt(·, 0, 64)`,
  `FormatFloat(·, 'f', -1, 64)` output read back by DoubleConstant / IntConstant.
-/
import ThriftVerif.Lib.Dump

namespace Dump

def stops (p : Nat → Bool) : Bytes → Prop
  | [] => True
  | c :: _ => p c = false

theorem spanP_append (p : Nat → Bool) (ds rest : Bytes) (hd : ds.all p = true) (hr : stops p rest) :
    spanP p (ds ++ rest) = (ds, rest) := by
  induction ds with
  | nil =>
    cases rest with
    | nil => rfl
    | cons c r => simp only [stops] at hr; simp [spanP, hr]
  | cons d ds ih =>
    simp only [List.all_cons, Bool.and_eq_true] at hd
    simp [spanP, hd.1, ih hd.2]

theorem decVal_snoc (a : Bytes) (d : Nat) : decVal (a ++ [d]) = decVal a * 10 + (d - 48) := by
  simp [decVal, List.foldl_append]

theorem decVal_decDigits (n : Nat) : decVal (decDigits n) = n := by
  fun_induction decDigits n with
  | case1 n h => simp [decVal]
  | case2 n h ih => rw [decVal_snoc, ih]; omega

theorem decDigits_all (n : Nat) : (decDigits n).all isDigit = true := by
  fun_induction decDigits n with
  | case1 n h => simp [isDigit]; omega
  | case2 n h ih => simp [ih, isDigit]; omega

def Canon (ds : Bytes) : Prop := ds.all isDigit = true ∧ ∃ d r, ds = d :: r ∧ (d = 48 → r = [])

theorem decDigits_canon (n : Nat) : Canon (decDigits n) := by
  refine ⟨decDigits_all n, ?_⟩
  fun_induction decDigits n with
  | case1 n h => exact ⟨48 + n, [], rfl, fun _ => rfl⟩
  | case2 n h ih =>
    obtain ⟨d, r, hdr, hz⟩ := ih
    refine ⟨d, r ++ [48 + n % 10], by simp [hdr], ?_⟩
    intro hd
    -- a leading zero would make n / 10 = 0
    have : decVal (decDigits (n / 10)) = 0 := by rw [hdr, hd, hz hd]; rfl
    rw [decVal_decDigits] at this
    omega

/-- what may follow the digits of an integer: no digit; no `.` `e` `E` (DoubleConstant is tried first); no `x` `o`
    (after a lone `0` they would start the `0x` / `0o` alternatives of IntConstant) -/
def Sep : Bytes → Prop
  | [] => True
  | c :: _ => isDigit c = false ∧ c ≠ 46 ∧ c ≠ 101 ∧ c ≠ 69 ∧ c ≠ 120 ∧ c ≠ 111

def SepD : Bytes → Prop
  | [] => True
  | c :: _ => isDigit c = false ∧ c ≠ 101 ∧ c ≠ 69

theorem SepD.stops {rest : Bytes} (h : SepD rest) : stops isDigit rest := by
  cases rest with
  | nil => trivial
  | cons c r => exact h.1

theorem sepD_of_sep {r : Bytes} (h : Sep r) : SepD r := by
  cases r with
  | nil => trivial
  | cons c r => exact ⟨h.1, h.2.2.1, h.2.2.2.1⟩

theorem Sep.stops {rest : Bytes} (h : Sep rest) : stops isDigit rest := (sepD_of_sep h).stops

theorem dblAlt_none (pf : Bytes → Nat) (sign ip rest : Bytes) (h : Sep rest) : dblAlt pf sign ip rest = none := by
  -- cases of dblAlt: after `.` no digit, `e`, `E`, a double; `e` after no digit, after digits; `E` likewise; any other text
  fun_cases dblAlt pf sign ip rest with
  | case1 | case5 | case7 | case9 => rfl
  | case2 | case3 | case4 => cases h.2.1 rfl
  | case6 => cases h.2.2.1 rfl
  | case8 => cases h.2.2.2.1 rfl

theorem splitSign_digit (d : Nat) (r : Bytes) (hd : isDigit d = true) : splitSign (d :: r) = ([], d :: r) := by
  unfold splitSign
  split
  · next heq =>
    cases heq
    exact absurd hd (by decide)
  · next heq =>
    cases heq
    exact absurd hd (by decide)
  · rfl

theorem magOf_canon (ds : Bytes) (h : Canon ds) : magOf 0 ds = some (decVal ds) := by
  obtain ⟨_, d, r, hdr, hz⟩ := h
  -- cases of magOf: "0x"; "0o"; no prefix and a leading 0 before more digits; no prefix otherwise
  fun_cases magOf 0 ds with
  | case1 ds h => cases h
  | case2 ds _ h => cases h
  | case3 _ _ d' r' =>
    cases hdr
    cases hz rfl
  | case4 => rfl

theorem parseInt0_canon (neg : Bool) (ds : Bytes) (h : Canon ds) :
    parseInt0 neg 0 ds =
      if neg then (if decVal ds ≤ 9223372036854775808 then .int (-(decVal ds : Int)) else .err)
      else (if decVal ds < 9223372036854775808 then .int (decVal ds) else .err) := by
  simp only [parseInt0, magOf_canon ds h]

theorem intAlt_sign (neg : Bool) (ds rest : Bytes) (h : Canon ds) (hs : Sep rest) :
    intAlt ((if neg then [45] else []) ++ ds ++ rest) (if neg then [45] else []) ds rest = (parseInt0 neg 0 ds, rest) := by
  obtain ⟨_, d, r, hdr, hz⟩ := h
  subst hdr
  cases neg with
  -- a text that begins with `-` passes both prefix alternatives
  | true => rfl
  | false =>
    -- "0x" / "0o" cannot begin here: after a leading 0 the digits end, and `rest` starts with neither x nor o
    have key : ∀ x r', (if false then [45] else []) ++ d :: r ++ rest = 48 :: x :: r' → rest = x :: r' := by
      intro x r' heq
      simp only [Bool.false_eq_true, if_false, List.nil_append, List.cons_append, List.cons.injEq] at heq
      rw [hz heq.1] at heq
      exact heq.2
    unfold intAlt
    split
    · rename_i r' heq; have := key _ _ heq; subst this; exact absurd rfl hs.2.2.2.2.1
    · rename_i r' heq; have := key _ _ heq; subst this; exact absurd rfl hs.2.2.2.2.2
    · simp

theorem readNumber_sign (pf : Bytes → Nat) (neg : Bool) (ip X : Bytes) (hip : Canon ip) (hX : stops isDigit X) :
    readNumber pf ((if neg then [45] else []) ++ ip ++ X) =
      match dblAlt pf (if neg then [45] else []) ip X with
      | some r => r
      | none => intAlt ((if neg then [45] else []) ++ ip ++ X) (if neg then [45] else []) ip X := by
  obtain ⟨hall, d, r, rfl, _⟩ := hip
  have hd : isDigit d = true := (by simpa using hall : _ ∧ _).1
  have hss : splitSign ((if neg then [45] else []) ++ (d :: r) ++ X) = (if neg then [45] else [], (d :: r) ++ X) := by
    cases neg with
    | false => exact splitSign_digit d _ hd
    | true => rfl
  simp only [readNumber, hss, spanP_append isDigit _ X hall hX]
  rfl

theorem readNumber_int (pf : Bytes → Nat) (neg : Bool) (ds rest : Bytes) (h : Canon ds) (hs : Sep rest) :
    readNumber pf ((if neg then [45] else []) ++ ds ++ rest) = (parseInt0 neg 0 ds, rest) := by
  rw [readNumber_sign pf neg ds rest h hs.stops, dblAlt_none pf _ ds rest hs]
  exact intAlt_sign neg ds rest h hs

theorem readNumber_fmtInt (pf : Bytes → Nat) (i : Int) (hlo : -9223372036854775808 ≤ i) (hhi : i < 9223372036854775808)
    (rest : Bytes) (hs : Sep rest) : readNumber pf (fmtInt i ++ rest) = (.int i, rest) := by
  cases i with
  | ofNat n =>
    have := readNumber_int pf false _ rest (decDigits_canon n) hs
    rw [parseInt0_canon false _ (decDigits_canon n), decVal_decDigits] at this
    have hn : n < 9223372036854775808 := by have e : Int.ofNat n = (n : Int) := rfl; omega
    simpa [fmtInt, hn] using this
  | negSucc n =>
    have := readNumber_int pf true _ rest (decDigits_canon (n + 1)) hs
    rw [parseInt0_canon true _ (decDigits_canon (n + 1)), decVal_decDigits] at this
    have hn : n + 1 ≤ 9223372036854775808 := by have e := Int.negSucc_eq n; omega
    simp only [if_true, hn] at this
    exact this

/-- the shape of `strconv.FormatFloat(x, 'f', -1, 64)` for a finite x -/
structure FShape (t : Bytes) where
  neg : Bool
  ip : Bytes
  fp : Bytes
  eq : t = (if neg then [45] else []) ++ ip ++ (if fp.isEmpty then [] else 46 :: fp)
  ipCanon : Canon ip
  fpDigits : fp.all isDigit = true

theorem dblAlt_frac (pf : Bytes → Nat) (sign ip fp rest : Bytes) (hne : fp ≠ []) (hfp : fp.all isDigit = true) (hs : SepD rest) :
    dblAlt pf sign ip (46 :: (fp ++ rest)) = some (.dbl (pf (sign ++ ip ++ [46] ++ fp)), rest) := by
  have he : fp.isEmpty = false := List.isEmpty_eq_false_iff.mpr hne
  simp only [dblAlt, spanP_append isDigit fp rest hfp hs.stops, he, Bool.false_eq_true, if_false]
  split
  · cases hs.2.1 rfl
  · cases hs.2.2 rfl
  · rfl

theorem readNumber_fshape_frac (pf : Bytes → Nat) (t : Bytes) (sh : FShape t) (hne : sh.fp ≠ []) (rest : Bytes) (hs : SepD rest) :
    readNumber pf (t ++ rest) = (.dbl (pf t), rest) := by
  obtain ⟨neg, ip, fp, heq, hip, hfp⟩ := sh
  simp only at hne
  have he : fp.isEmpty = false := List.isEmpty_eq_false_iff.mpr hne
  simp only [he, Bool.false_eq_true, if_false] at heq
  subst heq
  rw [List.append_assoc, readNumber_sign pf neg ip _ hip (by simp [stops, isDigit]), List.cons_append,
    dblAlt_frac pf _ ip fp rest hne hfp hs]
  simp

theorem readNumber_fshape_int (pf : Bytes → Nat) (t : Bytes) (sh : FShape t) (he : sh.fp = []) (rest : Bytes) (hs : Sep rest) :
    readNumber pf (t ++ rest) = (parseInt0 sh.neg 0 sh.ip, rest) := by
  obtain ⟨neg, ip, fp, heq, hip, hfp⟩ := sh
  simp only at he
  subst he
  simp only [List.isEmpty_nil, if_true, List.append_nil] at heq
  subst heq
  exact readNumber_int pf neg ip rest hip hs

end Dump
