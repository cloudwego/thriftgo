import ThriftVerif.Lib.TrimLemmas.MarkAST
import ThriftVerif.Lib.TrimLemmas.List
/-! `traversal` (the sweep) and the recomputation of include indices: every type that survives in an included file has all its
targets marked (`kept_types`), and a type whose targets are marked binds in the trimmed program to the same definitions as
before (`tyTargets_trim`). -/
namespace Trim

theorem findSL_self (p : Program) (hu : UniqueSL p) {f : Nat} {k : SLKind} {s : StructLike} (hs : s ∈ (p.file f).sl k) :
    findSL p f k s.name = some s := by
  unfold findSL
  cases h : ((p.file f).sl k).find? (fun x => x.name == s.name) with
  | none =>
    have := List.find?_eq_none.mp h s hs
    simp at this
  | some s0 =>
    have h0 := List.mem_of_find?_eq_some h
    have hn := List.find?_some h
    simp only [beq_iff_eq] at hn
    rw [List.inj_of_nodup_map (·.name) (hu f k) h0 hs hn]

theorem sl_fields_marked (p : Program) {M : Marks} (hc : Closed p M) (hu : UniqueSL p) {f : Nat} {k : SLKind} {s : StructLike}
    (hs : s ∈ (p.file f).sl k) (hm : Node.sl f k s.name ∈ M) :
    ∀ fd ∈ s.fields, tyTargets p f fd.ty ⊆ M := by
  intro fd hfd x hx
  apply hc _ hm
  simp only [succs, findSL_self p hu hs, List.mem_flatMap]
  exact ⟨fd, hfd, hx⟩

theorem mem_sweep_sl (p : Program) (cfg : Cfg) (ms : List Bytes) (st : St) (f : Nat) (k : SLKind) (s : StructLike) :
    s ∈ (sweepFile p cfg ms st f (p.file f)).sl k ↔ s ∈ (p.file f).sl k ∧ keepSL cfg st.marks f k s = true := by
  cases k <;> simp [sweepFile, File.sl, List.mem_filter]

theorem mem_sweep_services (p : Program) (cfg : Cfg) (ms : List Bytes) (st : St) (f : Nat) (svc' : Service) :
    svc' ∈ (sweepFile p cfg ms st f (p.file f)).services ↔
      ∃ svc ∈ (p.file f).services, Node.svc f svc.name ∈ st.marks ∧ svc' = sweepSvc cfg ms st f svc := by
  simp only [sweepFile, List.mem_map, List.mem_filter, List.contains_iff_mem, and_assoc, eq_comm (a := svc')]

theorem sweepSvc_fns (cfg : Cfg) (ms : List Bytes) (st : St) (f : Nat) (s : Service) :
    (sweepSvc cfg ms st f s).fns = (if ms.isEmpty then s.fns else s.fns.filter (fun fn => st.marks.contains (Node.fn f s.name fn.name))) ∧
    (sweepSvc cfg ms st f s).name = s.name := by
  fun_cases sweepSvc
  case case1 | case2 => exact ⟨rfl, rfl⟩

theorem kept_sl_marked (p : Program) (cfg : Cfg) (hc : (markAST p cfg).crash = false) {f : Nat} (hr : InclReach p f)
    {k : SLKind} {s : StructLike} (hs : s ∈ (p.file f).sl k) (hk : keepSL cfg (markAST p cfg).marks f k s = true) :
    Node.sl f k s.name ∈ (markAST p cfg).marks := by
  unfold keepSL at hk
  rcases Bool.or_eq_true_iff.mp hk with h | h
  · exact List.contains_iff_mem.mp h
  · exact kept_of_inclReach p cfg hc hr (mem_keptNodes.mpr (.inr (.inr ⟨k, s, hs, h, rfl⟩)))

theorem kept_fn_marked (p : Program) (cfg : Cfg) (hc : (markAST p cfg).crash = false) (hu : UniqueSvcFn p)
    {f : Nat} {svc : Service} (hs : svc ∈ (p.file f).services) (hm : Node.svc f svc.name ∈ (markAST p cfg).marks)
    {fn : Function} (hf : fn ∈ (sweepSvc cfg (effMethods p cfg) (markAST p cfg) f svc).fns) :
    fn ∈ svc.fns ∧ Node.fn f svc.name fn.name ∈ (markAST p cfg).marks := by
  rw [(sweepSvc_fns _ _ _ _ _).1] at hf
  split at hf
  · rename_i he
    have hm0 : cfg.methods = [] := (effMethods_eq_nil p cfg).mp (List.isEmpty_iff.mp he)
    exact ⟨hf, ((nofilter_final p cfg hm0 hu hc).1.svcOK hs hm).1 fn hf⟩
  · obtain ⟨h1, h2⟩ := List.mem_filter.mp hf
    exact ⟨h1, List.contains_iff_mem.mp h2⟩

/-- `Q` is whatever follows from a type's targets being marked. -/
theorem kept_types (p : Program) (cfg : Cfg) (hc : (markAST p cfg).crash = false) (hu : UniqueSvcFn p) (hl : UniqueSL p)
    (f : Nat) (hr : InclReach p f) {Q : Ty → Prop} (hQ : ∀ ty, tyTargets p f ty ⊆ (markAST p cfg).marks → Q ty) :
    (∀ c ∈ (sweepFile p cfg (effMethods p cfg) (markAST p cfg) f (p.file f)).consts, Q c.ty) ∧
    (∀ t ∈ (sweepFile p cfg (effMethods p cfg) (markAST p cfg) f (p.file f)).typedefs, Q t.ty) ∧
    (∀ k, ∀ s ∈ (sweepFile p cfg (effMethods p cfg) (markAST p cfg) f (p.file f)).sl k, ∀ fd ∈ s.fields, Q fd.ty) ∧
    (∀ svc ∈ (sweepFile p cfg (effMethods p cfg) (markAST p cfg) f (p.file f)).services, ∀ fn ∈ svc.fns, ∀ ty ∈ fn.types, Q ty) := by
  have hk := kept_of_inclReach p cfg hc hr
  refine ⟨fun c h => hQ _ fun _ hx => hk (mem_keptNodes.mpr (.inl ⟨c, h, hx⟩)),
    fun t h => hQ _ fun _ hx => hk (mem_keptNodes.mpr (.inr (.inl ⟨t, h, hx⟩))), ?_, ?_⟩
  · intro k s hs fd hfd
    obtain ⟨h1, h2⟩ := (mem_sweep_sl p cfg _ _ f k s).mp hs
    exact hQ _ (sl_fields_marked p (markAST_inv p cfg).m.closed hl h1 (kept_sl_marked p cfg hc hr h1 h2) fd hfd)
  · intro svc' hsvc' fn hfn ty hty
    obtain ⟨svc, h1, h2, rfl⟩ := (mem_sweep_services p cfg _ _ f svc').mp hsvc'
    obtain ⟨h3, h4⟩ := kept_fn_marked p cfg hc hu h1 h2 hfn
    exact hQ _ (fn_types_marked p cfg hu h1 h3 h4 ty hty)

/-- include marks are renumbered like `Reference.Index`; all other nodes keep their address -/
def renNode (p : Program) (M : Marks) : Node → Node
  | .inc f i => .inc f (newIdx (keepFlags p M f) i)
  | n => n

theorem file_trimProg (p : Program) (cfg : Cfg) (f : Nat) :
    (trimProg p cfg).file f = trimFile p cfg (effMethods p cfg) (markAST p cfg) f (p.file f) := by
  simp only [Program.file, trimProg, List.getD_eq_getElem?_getD, List.getElem?_map, List.getElem?_zipIdx]
  cases p.files[f]? with
  | some x => simp
  | none => simp [trimFile, sweepFile, renFile, emptyFile]

theorem getElem?_newIdx {α : Type} (keep : α × Nat → Bool) (l : List α) (i : Nat)
    (h : ∀ x, l[i]? = some x → keep (x, i) = true) :
    ((l.zipIdx.filter keep).map (·.1))[newIdx (l.zipIdx.map keep) i]? = l[i]? := by
  fun_cases newIdx
  -- cases of newIdx: entry `i` is kept; it is not, and then by `h` there is no entry `i`
  case case1 hk =>
    rw [List.getElem?_map, getElem?_filter_count keep _ i hk, List.getElem?_zipIdx, Option.map_map]
    exact Option.map_id'
  case case2 hk =>
    have hi : l.length ≤ i := Nat.le_of_not_lt fun hi =>
      hk ((zipIdx_map_getD _ _ _ hi).trans (h _ (List.getElem?_eq_getElem hi)))
    rw [List.getElem?_eq_none hi, List.getElem?_eq_none]
    rw [List.length_map]
    exact Nat.le_trans (List.length_filter_le _ _) (by simpa using hi)

theorem nameHit_ren (ks : List Bool) (h : TyHdr) (n : Bytes) : nameHit (renHdr ks h) n = nameHit h n := by
  unfold nameHit renHdr renRef
  cases h.ref with
  | none => rfl
  | some r => rfl

theorem declTargets_renHdr (p : Program) (base : Nat) (ks : List Bool) (h : TyHdr) :
    declTargets p base (renHdr ks h) = declTargets p base h := by
  unfold declTargets
  simp only [nameHit_ren]
  rfl

theorem declTargets_ren (p : Program) (base : Nat) (h : TyHdr) (M : Marks) :
    (declTargets p base h).map (renNode p M) = declTargets p base h := by
  refine (List.map_congr_left fun x hx => ?_).trans (List.map_id _)
  rcases mem_declTargets p base h hx with ⟨_, _, rfl⟩ | ⟨_, _, _, rfl⟩ | ⟨_, _, rfl⟩ <;> rfl

theorem plain_ren (ks : List Bool) (h : TyHdr) : (renHdr ks h).plain = h.plain := rfl

theorem ref_ren (ks : List Bool) (h : TyHdr) : (renHdr ks h).ref = renRef ks h.ref := rfl

section Rebind
variable {p : Program} {cfg : Cfg} {q : Program} {ms : List Bytes} {st : St}
  (hq : ∀ f, q.file f = trimFile p cfg ms st f (p.file f))
include hq

theorem includes_trim (g : Nat) :
    (q.file g).includes = ((p.file g).includes.zipIdx.filter (keepInc p st.marks g)).map (·.1) := by
  rw [hq]
  rfl

theorem typedefs_trim (g : Nat) :
    (q.file g).typedefs = (p.file g).typedefs.map (fun t => { t with ty := renTy (keepFlags p st.marks g) t.ty }) := by
  rw [hq]
  rfl

theorem enums_trim (g : Nat) : (q.file g).enums = (p.file g).enums := by
  rw [hq]
  rfl

theorem sl_trim (g : Nat) (k : SLKind) :
    (q.file g).sl k = (((p.file g).sl k).filter (keepSL cfg st.marks g k)).map (renSL (keepFlags p st.marks g)) := by
  rw [hq]
  cases k <;> rfl

theorem incTarget_trim (f i : Nat) (hm : ∀ g, p.incTarget f i = some g → Node.inc f i ∈ st.marks) :
    q.incTarget f (newIdx (keepFlags p st.marks f) i) = p.incTarget f i := by
  unfold Program.incTarget keepFlags
  rw [includes_trim hq, getElem?_newIdx]
  intro x hx
  exact keepInc_of_mem p (hm x.target (by simp [Program.incTarget, hx]))

theorem find?_sl_trim (base : Nat) (k : SLKind) (h : TyHdr)
    (hm : ∀ s, ((p.file base).sl k).find? (fun s => nameHit h s.name) = some s → Node.sl base k s.name ∈ st.marks) :
    ((q.file base).sl k).find? (fun s => nameHit h s.name) =
      (((p.file base).sl k).find? (fun s => nameHit h s.name)).map (renSL (keepFlags p st.marks base)) := by
  rw [sl_trim hq]
  exact find_filter_map (fun s => nameHit h s.name) (keepSL cfg st.marks base k) (renSL _) (fun _ => rfl) _
    fun s hs => by simp [keepSL, hm s hs]

theorem declTargets_trim (base : Nat) (h : TyHdr) (hm : declTargets p base h ⊆ st.marks) :
    declTargets q base h = declTargets p base h := by
  rw [declTargets_eq p] at hm ⊢
  rw [declTargets_eq q]
  by_cases c0 : h.isTd = true
  · simp only [if_pos c0]
    rw [typedefs_trim hq, List.find?_map]
    simp only [Function.comp_def]
    cases (p.file base).typedefs.find? (fun t => t.alias == h.name) <;> rfl
  · simp only [if_neg c0] at hm ⊢
    cases hk : catKind h.cat with
    | some k =>
      simp only [hk] at hm ⊢
      rw [find?_sl_trim hq base k h fun s hs => hm (by rw [hs]; exact List.mem_singleton_self _)]
      cases ((p.file base).sl k).find? (fun s => nameHit h s.name) <;> rfl
    | none => simp only [enums_trim hq]

theorem selfTargets_trim (f : Nat) (h : TyHdr) (hm : selfTargets p f h ⊆ st.marks) :
    selfTargets q f (renHdr (keepFlags p st.marks f) h) = (selfTargets p f h).map (renNode p st.marks) := by
  unfold selfTargets at hm ⊢
  rw [ref_ren]
  cases hr : h.ref with
  | none =>
    simp only [hr] at hm
    simp only [renRef]
    rw [declTargets_renHdr, declTargets_trim hq f h hm, declTargets_ren]
  | some r =>
    simp only [hr] at hm
    simp only [renRef]
    -- the include lookup answers as before, so one split serves both sides
    rw [incTarget_trim hq f r.2 fun g hg => hm (by rw [hg]; exact List.mem_cons_self)]
    cases hg : p.incTarget f r.2 with
    | none => rfl
    | some g =>
      simp only [hg] at hm
      simp only [List.map_cons, renNode]
      rw [declTargets_renHdr, declTargets_trim hq g h fun _ hx => hm (List.mem_cons_of_mem _ hx), declTargets_ren]

theorem tyTargets_trim (f : Nat) (ty : Ty) (hm : tyTargets p f ty ⊆ st.marks) :
    tyTargets q f (renTy (keepFlags p st.marks f) ty) = (tyTargets p f ty).map (renNode p st.marks) := by
  fun_induction tyTargets p f ty with
  -- the odd cases are the plain headers: no targets on either side
  | case1 h hp | case3 h _ hp | case5 h _ _ hp => simp only [renTy, tyTargets, plain_ren, hp, if_true, List.map_nil]
  | case2 h hp =>
    simp only [renTy, tyTargets, plain_ren, hp, Bool.false_eq_true, if_false]
    exact selfTargets_trim hq f h hm
  | case4 h v hp ih =>
    rw [List.append_subset] at hm
    simp only [renTy, tyTargets, plain_ren, hp, Bool.false_eq_true, if_false, List.map_append]
    rw [ih hm.1, selfTargets_trim hq f h hm.2]
  | case6 h k v hp ihk ihv =>
    simp only [List.append_subset] at hm
    simp only [renTy, tyTargets, plain_ren, hp, Bool.false_eq_true, if_false, List.map_append]
    rw [ihk hm.1, ihv hm.2.1, selfTargets_trim hq f h hm.2.2]

end Rebind

theorem bindings (p : Program) (cfg : Cfg) (hc : (markAST p cfg).crash = false) (hu : UniqueSvcFn p) (hl : UniqueSL p)
    (f : Nat) (hr : InclReach p f) :
    (∀ c ∈ (sweepFile p cfg (effMethods p cfg) (markAST p cfg) f (p.file f)).consts,
      tyTargets (trimProg p cfg) f (renTy (keepFlags p (markAST p cfg).marks f) c.ty) =
        (tyTargets p f c.ty).map (renNode p (markAST p cfg).marks)) ∧
    (∀ t ∈ (sweepFile p cfg (effMethods p cfg) (markAST p cfg) f (p.file f)).typedefs,
      tyTargets (trimProg p cfg) f (renTy (keepFlags p (markAST p cfg).marks f) t.ty) =
        (tyTargets p f t.ty).map (renNode p (markAST p cfg).marks)) ∧
    (∀ k, ∀ s ∈ (sweepFile p cfg (effMethods p cfg) (markAST p cfg) f (p.file f)).sl k, ∀ fd ∈ s.fields,
      tyTargets (trimProg p cfg) f (renTy (keepFlags p (markAST p cfg).marks f) fd.ty) =
        (tyTargets p f fd.ty).map (renNode p (markAST p cfg).marks)) ∧
    (∀ svc ∈ (sweepFile p cfg (effMethods p cfg) (markAST p cfg) f (p.file f)).services, ∀ fn ∈ svc.fns, ∀ ty ∈ fn.types,
      tyTargets (trimProg p cfg) f (renTy (keepFlags p (markAST p cfg).marks f) ty) =
        (tyTargets p f ty).map (renNode p (markAST p cfg).marks)) :=
  kept_types p cfg hc hu hl f hr (tyTargets_trim (file_trimProg p cfg) f)

end Trim
