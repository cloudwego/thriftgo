import ThriftVerif.Lib.TrimLemmas.Reach
/-! The service phase (`markService`, `traceExtendMethod`) as a sequence of primitive effects. -/
namespace Trim

/-- A function is only marked as a function of a service of its file and, under -m, only when some pattern
matches it behind some prefix `fa` (any bytes: not tied to a service); `extServices` only changes under -m (`ext` carries that guard for
`Step.ext_eq`; nothing is proved about `extKeep`, so `keep` carries none). -/
inductive Step (p : Program) (cfg : Cfg) (ms : List Bytes) : St → St → Prop
  | refl (st : St) : Step p cfg ms st st
  | trans {a b c : St} : Step p cfg ms a b → Step p cfg ms b c → Step p cfg ms a c
  | svc (st : St) (f : Nat) (n : Bytes) : Step p cfg ms st { st with marks := Node.svc f n :: st.marks }
  | inc (st : St) (f i : Nat) : Step p cfg ms st { st with marks := Node.inc f i :: st.marks }
  | fn (st : St) {f : Nat} {svc : Service} {fn : Function} : svc ∈ (p.file f).services → fn ∈ svc.fns →
      (ms.isEmpty = false → ∃ fa, hitLoose cfg ms (dot fa fn.name) = true) →
      Step p cfg ms st { st with marks := markFunction p f svc.name st.marks fn }
  | crash (st : St) : Step p cfg ms st { st with crash := true }
  | ext (st : St) (x : Nat × Bytes) : ms.isEmpty = false → Step p cfg ms st { st with ext := x :: st.ext }
  | keep (st : St) (x : Nat × Bytes) : Step p cfg ms st { st with keep := x :: st.keep }

variable {p : Program} {cfg : Cfg} {ms : List Bytes}

theorem Step.foldl {α : Type} {g : St → α → St} (l : List α) (st : St)
    (h : ∀ a ∈ l, ∀ st, Step p cfg ms st (g st a)) : Step p cfg ms st (l.foldl g st) :=
  List.foldlRecOn l g (Step.refl st) fun b hb a ha => hb.trans (h a ha b)

theorem Step.ite {a b : St} {c : Prop} [Decidable c]
    (h : c → Step p cfg ms a b) : Step p cfg ms a (if c then b else a) := by
  split
  · exact h ‹c›
  · exact Step.refl a

theorem Step.insInc (st : St) (f i : Nat) : Step p cfg ms st { st with marks := insInc f i st.marks } := by
  unfold Trim.insInc
  split
  · exact Step.refl st
  · exact Step.inc st f i

theorem Step.mono {a b : St} (h : Step p cfg ms a b) : Mono a b := by
  induction h with
  | refl st => exact Mono.refl st
  | trans _ _ ih1 ih2 => exact ih1.trans ih2
  | svc | inc => exact ⟨fun _ h => List.mem_cons_of_mem _ h, fun _ h => h, fun h => h⟩
  | fn st _ _ _ => exact ⟨markFunction_sub p _ _ st.marks _, fun _ h => h, fun h => h⟩
  | crash st => exact ⟨fun _ h => h, fun _ h => h, fun _ => rfl⟩
  | ext st x _ => exact ⟨fun _ h => h, fun _ h => h, fun h => h⟩
  | keep st x => exact ⟨fun _ h => h, fun _ h => h, fun h => h⟩

theorem Step.inv {a b : St} (h : Step p cfg ms a b) :
    Inv p cfg a → Inv p cfg b := by
  induction h with
  | refl st => exact id
  | trans _ _ ih1 ih2 => exact fun h => ih2 (ih1 h)
  | svc | inc => exact fun h => h.cons_leaf _ rfl rfl (fun _ _ _ => by simp)
  | fn st hs hf _ => exact fun h => h.markFn hs hf
  | crash st => exact fun h => ⟨h.m, h.fnj, h.kept⟩
  | ext st x _ => exact fun h => ⟨h.m, h.fnj, h.kept⟩
  | keep st x => exact fun h => ⟨h.m, h.fnj, h.kept⟩

theorem Step.ext_eq {a b : St} (h : Step p cfg ms a b)
    (he : ms.isEmpty = true) : b.ext = a.ext := by
  induction h with
  | trans _ _ ih1 ih2 => rw [ih2, ih1]
  | ext st x hne => rw [he] at hne; cases hne
  | _ => rfl

theorem hitStrict_loose (cfg : Cfg) (ms : List Bytes) (s : Bytes) (h : hitStrict cfg ms s = true) : hitLoose cfg ms s = true := by
  unfold hitStrict at h
  unfold hitLoose
  obtain ⟨m, hm, hc⟩ := List.any_eq_true.mp h
  exact List.any_eq_true.mpr ⟨m, hm, (Bool.and_eq_true_iff.mp hc).1⟩

theorem hitFathers_loose {cfg : Cfg} {ms fathers : List Bytes} {fn : Function} (h : hitFathers cfg ms fathers fn = true) :
    ∃ fa, hitLoose cfg ms (dot fa fn.name) = true := by
  unfold hitFathers at h
  obtain ⟨fa, _, hfa⟩ := List.any_eq_true.mp h
  refine ⟨fa, ?_⟩
  split at hfa
  · exact hitStrict_loose cfg ms _ hfa
  · exact hfa

theorem findSvc_mem (p : Program) {g : Nat} {n : Bytes} {b : Service} (h : findSvc p g n = some b) : b ∈ (p.file g).services :=
  List.mem_of_find?_eq_some h

theorem nextSvc_mem (p : Program) {f g : Nat} {svc b : Service} (h : nextSvc p f svc = some (g, b)) : b ∈ (p.file g).services := by
  revert h
  fun_cases nextSvc
  -- cases of nextSvc: base in the same file; no such include; base in the included file
  case case1 | case3 =>
    intro h
    obtain ⟨a, ha, he⟩ := Option.map_eq_some_iff.mp h
    cases he
    exact findSvc_mem p ha
  case case2 => exact nofun

section steps
variable {f : Nat} {svc : Service}

theorem markSvcFn_step {fn : Function} (hs : svc ∈ (p.file f).services) (hf : fn ∈ svc.fns)
    (hh : ∃ fa, hitLoose cfg ms (dot fa fn.name) = true) (st : St) : Step p cfg ms st (markSvcFn p f svc st fn) :=
  (Step.svc st f svc.name).trans (Step.fn _ hs hf (fun _ => hh))

theorem traceStep_step {fn : Function} (fathers : List Bytes) (hs : svc ∈ (p.file f).services) (hf : fn ∈ svc.fns) (st : St) :
    Step p cfg ms st (traceStep p cfg ms fathers f svc st fn) :=
  Step.ite fun hh => markSvcFn_step hs hf (hitFathers_loose hh) st

theorem svcStep_step {fn : Function} (hs : svc ∈ (p.file f).services) (hf : fn ∈ svc.fns) (st : St) :
    Step p cfg ms st (svcStep p cfg ms f svc st fn) := by
  -- 1 no -m, 2 a strict hit, 3 no hit
  fun_cases svcStep
  case case1 he => exact Step.fn st hs hf (fun hne => by rw [he] at hne; cases hne)
  case case2 hh => exact markSvcFn_step hs hf ⟨svc.name, hitStrict_loose cfg ms _ hh⟩ st
  case case3 => exact Step.refl st

theorem traceFinish_step (back : Bool) (s : St) (b : Bool) : Step p cfg ms s (traceFinish cfg f svc back (s, b)).1 := by
  fun_cases traceFinish
  case case1 =>
    refine (Step.svc s f svc.name).trans ?_
    -- `finMarks` 2: the base is in an include, which is marked with it
    fun_cases finMarks
    case case1 | case3 => exact Step.refl _
    case case2 => exact Step.insInc _ f _
  case case2 => exact Step.refl s

theorem afterBack_step (hne : ms.isEmpty = false) (r : St × Bool) : Step p cfg ms r.1 (afterBack cfg f svc r) := by
  unfold afterBack
  split
  · exact Step.ite fun _ => Step.keep r.1 _
  · exact Step.ext r.1 _ hne

theorem traceFns_step (fathers : List Bytes) (hs : svc ∈ (p.file f).services) (st : St) :
    Step p cfg ms st (svc.fns.foldl (traceStep p cfg ms fathers f svc) st) :=
  Step.foldl _ _ fun _ hfn st => traceStep_step fathers hs hfn st

/-- The cases of `trace`: 1 no fuel, 2 the base service is not found, 3 it is, 4 no `extends`. -/
theorem trace_step (hne : ms.isEmpty = false) (j : Nat) (fathers : List Bytes) (f : Nat) (svc : Service) (st : St)
    (hs : svc ∈ (p.file f).services) : Step p cfg ms st (trace p cfg ms j fathers f svc st).1 := by
  fun_induction trace p cfg ms j fathers f svc st
  case case1 => exact Step.crash _
  case case2 => exact (traceFns_step _ hs _).trans ((Step.crash _).trans (traceFinish_step false _ _))
  case case3 hnext r ih =>
    exact (traceFns_step _ hs _).trans ((ih (nextSvc_mem p hnext)).trans ((afterBack_step hne r).trans (traceFinish_step r.2 _ _)))
  case case4 => exact (traceFns_step _ hs _).trans (traceFinish_step false _ _)

/-- `markService` up to the point where it looks at `extends`. -/
theorem markService_pre (hs : svc ∈ (p.file f).services) (st : St) : Step p cfg ms st
    (let st0 := if ms.isEmpty then { st with marks := Node.svc f svc.name :: st.marks } else st
     let st1 := svc.fns.foldl (svcStep p cfg ms f svc) st0
     if !ms.isEmpty && (svc.ext ≠ [] || svc.ref.isSome) then (trace p cfg ms (svcCount p + 1) [svc.name] f svc st1).1 else st1) := by
  refine (Step.ite fun _ => Step.svc st f svc.name).trans
    ((Step.foldl _ _ fun _ hfn st => svcStep_step hs hfn st).trans (Step.ite fun hc => ?_))
  exact trace_step (by simpa using (Bool.and_eq_true_iff.mp hc).1) _ _ f svc _ hs

/-- The cases of `markService`: 1 no fuel, 2 already marked; base in the same file: 3 not found, 4 found; base in an
included file: 5 no such include, 6 not found, 7 found; 8 no `extends`, or the service is not marked (under -m), or cut. -/
theorem markService_step (j f : Nat) (svc : Service) (st : St) (hs : svc ∈ (p.file f).services) :
    Step p cfg ms st (markService p cfg ms j f svc st) := by
  fun_induction markService p cfg ms j f svc st
  case case1 => exact Step.crash _
  case case2 => exact Step.refl _
  all_goals refine (markService_pre hs _).trans ?_
  case case3 | case8 => exact Step.refl _
  case case4 hb ih => exact ih (findSvc_mem p hb)
  case case5 => exact Step.crash _
  case case6 => exact Step.insInc _ _ _
  case case7 hb ih => exact (Step.insInc _ _ _).trans (ih (findSvc_mem p hb))

theorem markService_sub (hs : svc ∈ (p.file f).services) {j : Nat} {st : St} :
    st.marks ⊆ (markService p cfg ms j f svc st).marks :=
  (markService_step j f svc st hs).mono.marks

end steps

end Trim
