import ThriftVerif.Lib.TrimLemmas.Reach
import ThriftVerif.Core.Assoc
/-! The include phase: `markKeptPart` is one DFS from the kept nodes of a file, `preProcess` walks the include tree
(`preProcess_focus`): every file on a path is visited and cached, and the includes that lead to a file with constants or
typedefs are marked. -/
namespace Trim

theorem mem_sls_iff (file : File) (ks : SLKind × StructLike) : ks ∈ file.sls ↔ ks.2 ∈ file.sl ks.1 := by
  obtain ⟨k, s⟩ := ks
  cases k <;> simp [File.sls, File.sl]

theorem mem_keptNodes {p : Program} {cfg : Cfg} {f : Nat} {n : Node} : n ∈ keptNodes p cfg f ↔
    (∃ c ∈ (p.file f).consts, n ∈ tyTargets p f c.ty) ∨ (∃ t ∈ (p.file f).typedefs, n ∈ tyTargets p f t.ty) ∨
    ∃ k, ∃ s ∈ (p.file f).sl k, checkPreserve cfg s = true ∧ n = Node.sl f k s.name := by
  simp only [keptNodes, List.mem_append, List.flatMap_map, List.mem_flatMap, List.mem_map, List.mem_filter, mem_sls_iff,
    Prod.exists, and_assoc, eq_comm (a := n)]

theorem keptNodes_sub (p : Program) (cfg : Cfg) (f : Nat) : ∀ n ∈ keptNodes p cfg f, n ∈ allNodes p := by
  intro n hn
  rcases mem_keptNodes.mp hn with ⟨c, _, h⟩ | ⟨t, _, h⟩ | ⟨k, s, hs, _, rfl⟩
  · exact tyTargets_sub p f _ h
  · exact tyTargets_sub p f _ h
  · exact sl_node_mem p hs

theorem keptNodes_root (p : Program) (cfg : Cfg) (M : Marks) {f : Nat} (hr : InclReach p f) :
    ∀ n ∈ keptNodes p cfg f, Reach p cfg M n := by
  intro n hn
  rcases mem_keptNodes.mp hn with ⟨c, hc, h⟩ | ⟨t, ht, h⟩ | ⟨k, s, hs, hp, rfl⟩
  · exact .root (.const hr hc (tyRef_of_mem p f _ _ h))
  · exact .root (.typedef hr ht (tyRef_of_mem p f _ _ h))
  · exact .root (.preserved hr hs hp)

theorem visit_of_mem (p : Program) {M : Marks} {n : Node} (h : n ∈ M) : visit p (fuelN p) M n = M := by
  rw [fuelN, visit, if_pos h]

/-- for the marks the `!contains` test of `keptStep` is redundant: visiting a marked node changes nothing -/
theorem keptStep_fst (p : Program) (cfg : Cfg) (f : Nat) (a : Marks × Bool) (ks : SLKind × StructLike) :
    (keptStep p cfg f a ks).1 =
      if checkPreserve cfg ks.2 = true then visit p (fuelN p) a.1 (Node.sl f ks.1 ks.2.name) else a.1 := by
  unfold keptStep
  by_cases hp : checkPreserve cfg ks.2 = true
  · by_cases hm : Node.sl f ks.1 ks.2.name ∈ a.1
    · simp [hm, hp, visit_of_mem p hm]
    · simp [hm, hp]
  · simp [hp]

theorem keptFold_eq (p : Program) (cfg : Cfg) (f : Nat) (l : List (SLKind × StructLike)) (a : Marks × Bool) :
    (l.foldl (keptStep p cfg f) a).1 =
      ((l.filter (fun ks => checkPreserve cfg ks.2)).map (fun ks => Node.sl f ks.1 ks.2.name)).foldl (visit p (fuelN p)) a.1 := by
  rw [List.foldl_map, List.foldl_filter]
  exact (List.foldl_hom Prod.fst fun a ks => (keptStep_fst p cfg f a ks).symm).symm

theorem checkPreserve_force {cfg : Cfg} (h : cfg.force = true) (s : StructLike) : checkPreserve cfg s = false := by
  simp [checkPreserve, h]

theorem cacheGet_get : Assoc.IsGet fun f c => cacheGet c f := ⟨fun _ => rfl, fun _ _ _ => if_pos rfl, fun _ _ => (if_neg ·)⟩

theorem markKeptPart_cases (p : Program) (cfg : Cfg) (f : Nat) (st : St) :
    (∃ r, (f, r) ∈ st.cache ∧ markKeptPart p cfg f st = (st, r)) ∨
    (markKeptPart p cfg f st).1 = { st with marks := (keptNodes p cfg f).foldl (visit p (fuelN p)) st.marks,
                                            cache := (f, (markKeptPart p cfg f st).2) :: st.cache } := by
  fun_cases markKeptPart
  case case1 r hc => exact Or.inl ⟨r, cacheGet_get.mem hc, rfl⟩
  case case2 r =>
    refine Or.inr ?_
    simp only [r]
    congr 1
    unfold keptNodes
    rw [List.foldl_append, List.foldl_append, ← markTypes_eq, ← markTypes_eq]
    split
    · rename_i hforce
      rw [List.filter_eq_nil_iff.mpr (fun ks _ => by rw [checkPreserve_force hforce]; exact Bool.false_ne_true)]
      rfl
    · exact keptFold_eq p cfg f _ _

theorem markKeptPart_mono (p : Program) (cfg : Cfg) (f : Nat) (st : St) : Mono st (markKeptPart p cfg f st).1 := by
  rcases markKeptPart_cases p cfg f st with ⟨r, _, e⟩ | e
  · rw [e]; exact Mono.refl st
  · rw [e]
    exact ⟨(visitList_grows p _ _ (keptNodes_sub p cfg f)).sub, fun _ h => List.mem_cons_of_mem _ h, fun h => h⟩

theorem markKeptPart_cached (p : Program) (cfg : Cfg) (f : Nat) (st : St) : ∃ r, (f, r) ∈ (markKeptPart p cfg f st).1.cache := by
  rcases markKeptPart_cases p cfg f st with ⟨r, hr, e⟩ | e
  · rw [e]; exact ⟨r, hr⟩
  · rw [e]; exact ⟨_, List.mem_cons_self⟩

theorem markKeptPart_grows (p : Program) (cfg : Cfg) (f : Nat) (st : St) : Grows p st.marks (markKeptPart p cfg f st).1.marks := by
  rcases markKeptPart_cases p cfg f st with ⟨r, _, e⟩ | e
  · rw [e]; exact Grows.refl p _
  · rw [e]; exact visitList_grows p _ _ (keptNodes_sub p cfg f)

theorem markKeptPart_extEq (p : Program) (cfg : Cfg) (f : Nat) (st : St) : (markKeptPart p cfg f st).1.ext = st.ext := by
  rcases markKeptPart_cases p cfg f st with ⟨r, _, e⟩ | e <;> rw [e]

theorem markKeptPart_inv (p : Program) (cfg : Cfg) (f : Nat) (st : St) (hr : InclReach p f)
    (h : Inv p cfg st) : Inv p cfg (markKeptPart p cfg f st).1 := by
  rcases markKeptPart_cases p cfg f st with ⟨r, _, e⟩ | e
  · rw [e]; exact h
  · rw [e]
    have hall := keptNodes_sub p cfg f
    have g := visitList_grows p _ st.marks hall
    refine ⟨?_, h.fnj.grows g, ?_⟩
    · exact (visitList_inv p _ (reach_closed p cfg st.marks) _ _ hall (keptNodes_root p cfg _ hr) h.m).imp
        (fun _ => Reach.mono g.sub)
    · intro f' r' hfr
      rcases List.mem_cons.mp hfr with hfr | hfr
      · cases hfr
        exact fun _ => (visit_spec p _ st.marks hall).mem _
      · exact fun _ hn => g.sub (h.kept f' r' hfr hn)

inductive Path (p : Program) : Nat → Nat → Prop
  | refl (f : Nat) : Path p f f
  | step {f i g h : Nat} : p.incTarget f i = some g → Path p g h → Path p f h

theorem Path.snoc {p : Program} {a b c i : Nat} (h : Path p a b) (hi : p.incTarget b i = some c) : Path p a c := by
  induction h with
  | refl f => exact Path.step hi (Path.refl _)
  | step h1 _ ih => exact Path.step h1 (ih hi)

theorem path_of_inclReach {p : Program} {g : Nat} (h : InclReach p g) : Path p 0 g := by
  induction h with
  | root => exact Path.refl 0
  | step _ hi ih => exact ih.snoc hi

theorem inclReach_of_path {p : Program} {f g : Nat} (hf : InclReach p f) (h : Path p f g) : InclReach p g := by
  induction h with
  | refl f => exact hf
  | step hi _ ih => exact ih (InclReach.step hf hi)

theorem zipIdx_incTarget (p : Program) {f : Nat} {ii : Include × Nat} (h : ii ∈ (p.file f).includes.zipIdx) :
    p.incTarget f ii.2 = some ii.1.target := by
  have := List.mem_zipIdx_iff_getElem?.mp h
  simp [Program.incTarget, this]

theorem incTarget_zipIdx (p : Program) {f i g : Nat} (h : p.incTarget f i = some g) :
    ∃ inc, (inc, i) ∈ (p.file f).includes.zipIdx ∧ inc.target = g :=
  let ⟨x, hx, e⟩ := Option.map_eq_some_iff.mp h
  ⟨x, List.mem_zipIdx_iff_getElem?.mpr hx, e⟩

theorem preStep_rec (rec : Nat → St → St × Bool) (f : Nat) (a : St × Bool) (ii : Include × Nat) :
    Mono (rec ii.1.target a.1).1 (preStep rec f a ii).1 := by
  fun_cases preStep
  case case1 => exact ⟨fun _ h => List.mem_cons_of_mem _ h, fun _ h => h, fun h => h⟩
  case case2 => exact Mono.refl _

theorem foldPre_mono {rec : Nat → St → St × Bool} (hrec : ∀ g st, Mono st (rec g st).1) (f : Nat)
    (l : List (Include × Nat)) (a : St × Bool) : Mono a.1 (l.foldl (preStep rec f) a).1 :=
  List.foldlRecOn (motive := fun b : St × Bool => Mono a.1 b.1) l _ (Mono.refl _) fun b hb ii _ =>
    hb.trans ((hrec _ _).trans (preStep_rec rec f b ii))

theorem foldPre_snd {rec : Nat → St → St × Bool} (f : Nat) (l : List (Include × Nat)) (a : St × Bool)
    (h : a.2 = true) : (l.foldl (preStep rec f) a).2 = true :=
  List.foldlRecOn (motive := fun b : St × Bool => b.2 = true) l _ h fun b hb ii _ => by
    fun_cases preStep
    case case1 => rfl
    case case2 => exact hb

theorem preProcess_mono (p : Program) (cfg : Cfg) : ∀ (j f : Nat) (st : St), Mono st (preProcess p cfg j f st).1 := by
  intro j
  induction j with
  | zero => intro f st; exact ⟨fun _ h => h, fun _ h => h, fun _ => rfl⟩
  | succ j ih =>
    intro f st
    unfold preProcess
    exact (markKeptPart_mono p cfg f st).trans (foldPre_mono ih f _ _)

theorem preProcess_ind (p : Program) (cfg : Cfg) (I : St → Prop) (F : Nat → Prop)
    (hF : ∀ f, F f → ∀ ii ∈ (p.file f).includes.zipIdx, F ii.1.target)
    (hk : ∀ f st, F f → I st → I (markKeptPart p cfg f st).1)
    (hi : ∀ f i st, I st → I { st with marks := Node.inc f i :: st.marks })
    (hc : ∀ st, I st → I { st with crash := true }) :
    ∀ (j f : Nat) (st : St), F f → I st → I (preProcess p cfg j f st).1 := by
  intro j
  induction j with
  | zero => intro f st _ h; exact hc st h
  | succ j ih =>
    intro f st hf h
    unfold preProcess
    refine List.foldlRecOn (motive := fun b : St × Bool => I b.1) _ _ (hk f st hf h) fun a ha ii hii => ?_
    have hr := ih ii.1.target a.1 (hF f hf ii hii) ha
    fun_cases preStep
    case case1 => exact hi f ii.2 _ hr
    case case2 => exact hr

/-- `ret` of markKeptPart before its struct-like loop -/
def hasCT (p : Program) (f : Nat) : Bool := !(p.file f).consts.isEmpty || !(p.file f).typedefs.isEmpty

def CacheCT (p : Program) (st : St) : Prop := ∀ f r, (f, r) ∈ st.cache → hasCT p f = true → r = true

theorem keptFold_snd (p : Program) (cfg : Cfg) (f : Nat) (l : List (SLKind × StructLike)) (a : Marks × Bool)
    (h : a.2 = true) : (l.foldl (keptStep p cfg f) a).2 = true :=
  List.foldlRecOn (motive := fun b : Marks × Bool => b.2 = true) l _ h fun b hb ks _ => by
    fun_cases keptStep
    case case1 => rfl
    case case2 => exact hb

theorem markKeptPart_snd (p : Program) (cfg : Cfg) (f : Nat) (st : St) (h : CacheCT p st) (hct : hasCT p f = true) :
    (markKeptPart p cfg f st).2 = true := by
  fun_cases markKeptPart
  case case1 r hr => exact h f r (cacheGet_get.mem hr) hct
  case case2 r =>
    simp only [r]
    split
    · exact hct
    · exact keptFold_snd p cfg f _ (_, _) hct

theorem markKeptPart_ct (p : Program) (cfg : Cfg) (f : Nat) (st : St) (h : CacheCT p st) :
    CacheCT p (markKeptPart p cfg f st).1 := by
  rcases markKeptPart_cases p cfg f st with ⟨r, _, e⟩ | e
  · rw [e]; exact h
  · rw [e]
    intro g r hgr hct
    rcases List.mem_cons.mp hgr with hgr | hgr
    · cases hgr
      exact markKeptPart_snd p cfg f st h hct
    · exact h g r hgr hct

theorem cacheCT_init (p : Program) : CacheCT p St.init :=
  fun _ _ h => by simp [St.init] at h

def LeadsCT (p : Program) (g : Nat) : Prop := ∃ h, Path p g h ∧ hasCT p h = true

theorem preProcess_cacheCT (p : Program) (cfg : Cfg) (j f : Nat) (st : St) (h : CacheCT p st) :
    CacheCT p (preProcess p cfg j f st).1 :=
  preProcess_ind p cfg (CacheCT p) (fun _ => True) (fun _ _ _ _ => trivial)
    (fun f st _ h => markKeptPart_ct p cfg f st h) (fun _ _ _ h => h) (fun _ h => h) j f st trivial h

theorem foldPre_focus (p : Program) (cfg : Cfg) (j f : Nat) :
    ∀ (l : List (Include × Nat)) (a : St × Bool), CacheCT p a.1 → ∀ ii ∈ l, ∃ s, CacheCT p s ∧
      Mono (preProcess p cfg j ii.1.target s).1 (l.foldl (preStep (preProcess p cfg j) f) a).1 ∧
      ((preProcess p cfg j ii.1.target s).2 = true →
        (l.foldl (preStep (preProcess p cfg j) f) a).2 = true ∧ Node.inc f ii.2 ∈ (l.foldl (preStep (preProcess p cfg j) f) a).1.marks) := by
  intro l
  induction l with
  | nil => intro a _ ii hii; cases hii
  | cons x l ih =>
    intro a ha ii hii
    rw [List.foldl_cons]
    rcases List.mem_cons.mp hii with rfl | hii
    · have m2 := foldPre_mono (preProcess_mono p cfg j) f l (preStep (preProcess p cfg j) f a ii)
      refine ⟨a.1, ha, (preStep_rec _ f a ii).trans m2, fun hret => ?_⟩
      have hs : (preStep (preProcess p cfg j) f a ii).2 = true ∧ Node.inc f ii.2 ∈ (preStep (preProcess p cfg j) f a ii).1.marks := by
        unfold preStep
        simp [hret]
      exact ⟨foldPre_snd f l _ hs.1, m2.marks hs.2⟩
    · refine ih (preStep (preProcess p cfg j) f a x) ?_ ii hii
      fun_cases preStep
      case case1 | case2 => exact preProcess_cacheCT p cfg j _ _ ha

theorem preProcess_focus (p : Program) (cfg : Cfg) : ∀ (j f : Nat) (st : St), CacheCT p st →
    (preProcess p cfg j f st).1.crash = false → ∀ g, Path p f g → ∃ j' s, CacheCT p s ∧
      Mono (preProcess p cfg (j' + 1) g s).1 (preProcess p cfg j f st).1 ∧
      ((preProcess p cfg (j' + 1) g s).2 = true → (preProcess p cfg j f st).2 = true) := by
  intro j
  induction j with
  | zero => intro f st _ hc; simp [preProcess] at hc
  | succ j ih =>
    intro f st h hc g hg
    cases hg with
    | refl => exact ⟨j, st, h, Mono.refl _, id⟩
    | @step _ i g1 _ hi hp =>
      obtain ⟨inc, hmem, rfl⟩ := incTarget_zipIdx p hi
      unfold preProcess at hc ⊢
      obtain ⟨s, hs, m, hfin⟩ := foldPre_focus p cfg j f _ (markKeptPart p cfg f st) (markKeptPart_ct p cfg f st h) _ hmem
      obtain ⟨j', s', hs', m', r⟩ := ih inc.target s hs (m.crash_false hc) g hp
      exact ⟨j', s', hs', m'.trans m, fun e => (hfin (r e)).1⟩

theorem preProcess_cached (p : Program) (cfg : Cfg) (j f : Nat) (st : St) (h : CacheCT p st)
    (hc : (preProcess p cfg j f st).1.crash = false) (g : Nat) (hg : Path p f g) :
    ∃ r, (g, r) ∈ (preProcess p cfg j f st).1.cache := by
  obtain ⟨j', s, _, m, _⟩ := preProcess_focus p cfg j f st h hc g hg
  obtain ⟨r, hr⟩ := markKeptPart_cached p cfg g s
  exact ⟨r, m.cache ((foldPre_mono (preProcess_mono p cfg j') g _ _).cache hr)⟩

theorem preProcess_ret (p : Program) (cfg : Cfg) (j f : Nat) (st : St) (h : CacheCT p st)
    (hc : (preProcess p cfg j f st).1.crash = false) (hl : LeadsCT p f) : (preProcess p cfg j f st).2 = true := by
  obtain ⟨c, hp, hct⟩ := hl
  obtain ⟨j', s, hs, _, r⟩ := preProcess_focus p cfg j f st h hc c hp
  exact r (foldPre_snd c _ _ (markKeptPart_snd p cfg c s hs hct))

theorem preProcess_incMarks (p : Program) (cfg : Cfg) (j f : Nat) (st : St) (h : CacheCT p st)
    (hc : (preProcess p cfg j f st).1.crash = false) (g : Nat) (hg : Path p f g) (jj : Include × Nat)
    (hjj : jj ∈ (p.file g).includes.zipIdx) (hl : LeadsCT p jj.1.target) :
    Node.inc g jj.2 ∈ (preProcess p cfg j f st).1.marks := by
  obtain ⟨j', s, hs, m, _⟩ := preProcess_focus p cfg j f st h hc g hg
  apply m.marks
  have hc' := m.crash_false hc
  unfold preProcess at hc' ⊢
  obtain ⟨s', hs', m', hfin⟩ := foldPre_focus p cfg j' g _ (markKeptPart p cfg g s) (markKeptPart_ct p cfg g s hs) jj hjj
  exact (hfin (preProcess_ret p cfg j' _ s' hs' (m'.crash_false hc') hl)).2

end Trim
