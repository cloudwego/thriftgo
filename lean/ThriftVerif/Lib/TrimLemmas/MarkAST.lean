import ThriftVerif.Lib.TrimLemmas.Service
import ThriftVerif.Lib.TrimLemmas.Include
/-! `markAST` as a whole: the final marks are closed, their declarations are in `Reach` (`markAST_inv`), and they contain `Reach` if
nothing crashed and under `UniqueSvcFn` (`reach_marked`); what holds without and with a method filter;
files with constants or typedefs stay reachable. -/
namespace Trim

theorem inv_init (p : Program) (cfg : Cfg) : Inv p cfg St.init :=
  ⟨⟨fun m hm => by simp [St.init] at hm, fun m hm => by simp [St.init] at hm⟩,
   fun f s n hn => by simp [St.init] at hn, fun f r h => by simp [St.init] at h⟩

def stage1 (p : Program) (cfg : Cfg) : St := (preProcess p cfg (p.files.length + 1) 0 St.init).1
def stage2 (p : Program) (cfg : Cfg) : St :=
  (p.file 0).services.foldl (fun st svc => markService p cfg (effMethods p cfg) (svcCount p + 1) 0 svc st) (stage1 p cfg)

theorem markAST_eq (p : Program) (cfg : Cfg) : markAST p cfg = (markKeptPart p cfg 0 (stage2 p cfg)).1 := rfl

theorem stage1_inv (p : Program) (cfg : Cfg) : Inv p cfg (stage1 p cfg) :=
  preProcess_ind p cfg (Inv p cfg) (InclReach p) (fun _ hf ii hii => InclReach.step hf (zipIdx_incTarget p hii))
    (fun f st hf h => markKeptPart_inv p cfg f st hf h) (fun _ _ _ h => h.cons_leaf _ rfl rfl (fun _ _ _ => by simp))
    (fun _ h => ⟨h.m, h.fnj, h.kept⟩) _ 0 St.init InclReach.root (inv_init p cfg)

theorem stage2_step (p : Program) (cfg : Cfg) : Step p cfg (effMethods p cfg) (stage1 p cfg) (stage2 p cfg) :=
  Step.foldl _ _ (fun svc hs st => markService_step _ 0 svc st hs)

theorem stage1_mono_final (p : Program) (cfg : Cfg) : Mono (stage1 p cfg) (markAST p cfg) :=
  (stage2_step p cfg).mono.trans (markKeptPart_mono p cfg 0 _)

theorem markAST_inv (p : Program) (cfg : Cfg) : Inv p cfg (markAST p cfg) :=
  markKeptPart_inv p cfg 0 _ InclReach.root
    ((stage2_step p cfg).inv (stage1_inv p cfg))

theorem kept_of_inclReach (p : Program) (cfg : Cfg) (hc : (markAST p cfg).crash = false) {f : Nat} (hr : InclReach p f) :
    keptNodes p cfg f ⊆ (markAST p cfg).marks := by
  have m := stage1_mono_final p cfg
  obtain ⟨r, hr'⟩ := preProcess_cached p cfg _ 0 St.init (cacheCT_init p) (m.crash_false hc) f (path_of_inclReach hr)
  exact (markAST_inv p cfg).kept f r (m.cache hr')

theorem fn_types_marked (p : Program) (cfg : Cfg) (hu : UniqueSvcFn p) {f : Nat} {svc : Service} {fn : Function}
    (hs : svc ∈ (p.file f).services) (hf : fn ∈ svc.fns) (hm : Node.fn f svc.name fn.name ∈ (markAST p cfg).marks) :
    ∀ ty ∈ fn.types, ∀ x ∈ tyTargets p f ty, x ∈ (markAST p cfg).marks := by
  obtain ⟨svc', hs', e1, fn', hf', e2, ht⟩ := (markAST_inv p cfg).fnj _ _ _ hm
  have es := List.inj_of_nodup_map (·.name) (hu _).1 hs' hs e1
  subst es
  have ef := List.inj_of_nodup_map (·.name) ((hu _).2 svc' hs) hf' hf e2
  subst ef
  exact ht

theorem root_marked (p : Program) (cfg : Cfg) (hc : (markAST p cfg).crash = false) (hu : UniqueSvcFn p) {n : Node}
    (h : Root p cfg (markAST p cfg).marks n) : n ∈ (markAST p cfg).marks := by
  cases h with
  | fn hs hf hm hty href => exact fn_types_marked p cfg hu hs hf hm _ hty _ (mem_of_tyRef p _ href)
  | const hr hcm href => exact kept_of_inclReach p cfg hc hr (mem_keptNodes.mpr (.inl ⟨_, hcm, mem_of_tyRef p _ href⟩))
  | typedef hr ht href => exact kept_of_inclReach p cfg hc hr (mem_keptNodes.mpr (.inr (.inl ⟨_, ht, mem_of_tyRef p _ href⟩)))
  | preserved hr hs hp => exact kept_of_inclReach p cfg hc hr (mem_keptNodes.mpr (.inr (.inr ⟨_, _, hs, hp, rfl⟩)))

theorem reach_marked (p : Program) (cfg : Cfg) (hc : (markAST p cfg).crash = false) (hu : UniqueSvcFn p) {n : Node}
    (h : Reach p cfg (markAST p cfg).marks n) : n ∈ (markAST p cfg).marks := by
  induction h with
  | root hr => exact root_marked p cfg hc hu hr
  | step _ he ih => exact (markAST_inv p cfg).m.closed _ ih _ ((edge_iff p _ _).mp he)

def OnlyTargets (M : Marks) : Prop := ∀ m ∈ M, m.isTarget = true

theorem stage1_plain (p : Program) (cfg : Cfg) : OnlyTargets (stage1 p cfg).marks ∧ (stage1 p cfg).ext = [] :=
  preProcess_ind p cfg (fun st => OnlyTargets st.marks ∧ st.ext = []) (fun _ => True) (fun _ _ _ _ => trivial)
    (fun f st _ h => ⟨fun m hm => ((markKeptPart_grows p cfg f st).new m hm).elim (h.1 m) (allNodes_isTarget p),
      (markKeptPart_extEq p cfg f st).trans h.2⟩)
    (fun _ _ _ h => ⟨fun m hm => (List.mem_cons.mp hm).elim (· ▸ rfl) (h.1 m), h.2⟩)
    (fun _ h => h) _ 0 St.init trivial ⟨nofun, rfl⟩

theorem SvcOK.mono {p : Program} {M R : Marks} {f : Nat} {svc : Service} (h : SvcOK p M f svc) (hs : M ⊆ R) : SvcOK p R f svc :=
  ⟨fun fn hfn => hs (h.1 fn hfn), fun he rn i g hr hg =>
    ⟨hs (h.2.1 he rn i g hr hg).1, fun b hb => hs ((h.2.1 he rn i g hr hg).2 b hb)⟩,
    fun he hr b hb => hs (h.2.2 he hr b hb)⟩

structure AllOK (p : Program) (M R : Marks) : Prop where
  svcOK : ∀ {f : Nat} {svc : Service}, svc ∈ (p.file f).services → Node.svc f svc.name ∈ M → SvcOK p R f svc

theorem AllOK.mono {p : Program} {M R R' : Marks} (h : AllOK p M R) (hs : R ⊆ R') : AllOK p M R' :=
  ⟨fun hsvc hm => (h.svcOK hsvc hm).mono hs⟩

theorem AllOK.grows {p : Program} {M M' R : Marks} (h : AllOK p M R) (g : Grows p M M') : AllOK p M' R :=
  ⟨fun hs hm => h.svcOK hs (g.svc_mem hm)⟩

def SvcNew (M R : Marks) (f : Nat) (s : Bytes) : Prop :=
  ∀ g n, Node.svc g n ∈ R → Node.svc g n ∈ M ∨ (g = f ∧ n = s)

theorem AllOK.extend {p : Program} {M M' R : Marks} {f : Nat} {svc : Service} (hu : UniqueSvcFn p)
    (hs : svc ∈ (p.file f).services) (hn : SvcNew M M' f svc.name) (h : AllOK p M R) (hok : SvcOK p R f svc) :
    AllOK p M' R := by
  refine ⟨fun {g s} hsg hm => ?_⟩
  rcases hn g s.name hm with h1 | ⟨hg, hn'⟩
  · exact h.svcOK hsg h1
  · subst hg
    rw [List.inj_of_nodup_map (·.name) (hu g).1 hsg hs hn']
    exact hok

/-- Without -m, what `markService` has done to `st` when it looks at `extends`: it has marked `svc`, the only new
service mark, and all its functions. -/
structure Body (p : Program) (f : Nat) (svc : Service) (st st' : St) : Prop where
  self : Node.svc f svc.name ∈ st'.marks
  fns : ∀ fn ∈ svc.fns, Node.fn f svc.name fn.name ∈ st'.marks
  new : SvcNew st.marks st'.marks f svc.name
  ext : st'.ext = st.ext

section nofilter
variable {p : Program} {cfg : Cfg} {f g i : Nat} {svc : Service} {st st' : St} {M : Marks} {rn : Bytes} {ob : Option Service}

theorem SvcOK.of_none (hf : ∀ fn ∈ svc.fns, Node.fn f svc.name fn.name ∈ M) (hr : svc.ref = none)
    (ho : findSvc p f svc.ext = ob) (hb : ∀ b, ob = some b → Node.svc f b.name ∈ M) : SvcOK p M f svc :=
  ⟨hf, fun _ _ _ _ h => (by rw [hr] at h; cases h), fun _ _ b h => hb b (ho ▸ h)⟩

theorem SvcOK.of_some (hf : ∀ fn ∈ svc.fns, Node.fn f svc.name fn.name ∈ M) (hr : svc.ref = some (rn, i))
    (hg : p.incTarget f i = some g) (hi : Node.inc f i ∈ M) (ho : findSvc p g rn = ob)
    (hb : ∀ b, ob = some b → Node.svc g b.name ∈ M) : SvcOK p M f svc := by
  refine ⟨hf, fun _ rn' i' g' hr' hg' => ?_, fun _ h => (by rw [hr] at h; cases h)⟩
  rw [hr] at hr'
  cases hr'
  rw [hg] at hg'
  cases hg'
  exact ⟨hi, fun b h => hb b (ho ▸ h)⟩

theorem svcFns_marked (fns : List Function) (st : St) :
    ∀ fn ∈ fns, Node.fn f svc.name fn.name ∈ (fns.foldl (svcStep p cfg [] f svc) st).marks := by
  induction fns generalizing st with
  | nil => exact nofun
  | cons a l ih =>
    intro fn hfn
    rcases List.mem_cons.mp hfn with rfl | hfn
    · exact List.foldlRecOn (motive := fun st' : St => Node.fn f svc.name fn.name ∈ st'.marks) l _
        (markFunction_mem p f svc.name st.marks fn) fun _ h _ _ => markFunction_sub p f svc.name _ _ h
    · exact ih _ fn hfn

theorem body_nofilter (hs : svc ∈ (p.file f).services) (st : St) :
    Body p f svc st (svc.fns.foldl (svcStep p cfg [] f svc) { st with marks := Node.svc f svc.name :: st.marks }) := by
  have s := Step.foldl (p := p) (cfg := cfg) (ms := []) svc.fns { st with marks := Node.svc f svc.name :: st.marks }
    fun fn hfn st => svcStep_step hs hfn st
  refine ⟨s.mono.marks List.mem_cons_self, svcFns_marked _ _, ?_, s.ext_eq rfl⟩
  refine List.foldlRecOn (motive := fun st' : St => SvcNew st.marks st'.marks f svc.name) svc.fns _ ?_ ?_
  · intro g n h
    exact (List.mem_cons.mp h).symm.imp_right fun e => by cases e; exact ⟨rfl, rfl⟩
  · intro st' ih fn _ g n h
    exact ih g n ((List.mem_cons.mp ((markFunction_grows p f svc.name st'.marks fn).svc_mem h)).resolve_left Node.noConfusion)

theorem Body.inc (b : Body p f svc st st') (i : Nat) : Body p f svc st { st' with marks := insInc f i st'.marks } :=
  ⟨insInc_sub _ _ _ b.self, fun fn hfn => insInc_sub _ _ _ (b.fns fn hfn),
    fun g n h => b.new g n ((mem_insInc.mp h).resolve_left Node.noConfusion), b.ext⟩

/-- Without -m a call completes what it marks: the callee is marked, and if the services marked on entry are complete
in the result then so are all.  In every case `st2` is the state of `body_nofilter` (no trace without -m); the cases of
`markService` are listed at `markService_step`. -/
theorem markService_nofilter (hu : UniqueSvcFn p) (j f : Nat) (svc : Service) (st : St)
    (hs : svc ∈ (p.file f).services) (hE : st.ext = []) (hc : (markService p cfg [] j f svc st).crash = false) :
    Node.svc f svc.name ∈ (markService p cfg [] j f svc st).marks ∧
      (AllOK p st.marks (markService p cfg [] j f svc st).marks →
        AllOK p (markService p cfg [] j f svc st).marks (markService p cfg [] j f svc st).marks) := by
  fun_induction markService p cfg [] j f svc st
  case case1 => cases hc
  case case2 hm => exact ⟨hm, id⟩
  case case3 st2 _ hr hb =>
    have bd : Body p _ _ _ st2 := body_nofilter hs _
    exact ⟨bd.self, fun h => h.extend hu hs bd.new (.of_none bd.fns hr hb nofun)⟩
  case case4 st2 _ hr b hb ih =>
    have bd : Body p _ _ _ st2 := body_nofilter hs _
    have hR := @markService_sub p cfg [] _ b (findSvc_mem p hb)
    obtain ⟨hbm, r⟩ := ih (findSvc_mem p hb) (bd.ext.trans hE) hc
    exact ⟨hR bd.self, fun h => r (h.extend hu hs bd.new (.of_none (fun fn hfn => hR (bd.fns fn hfn)) hr hb fun | _, rfl => hbm))⟩
  case case5 => cases hc
  case case6 st2 _ rn i hr g hg hb =>
    have bd := (body_nofilter hs _ : Body p _ _ _ st2).inc i
    exact ⟨bd.self, fun h => h.extend hu hs bd.new (.of_some bd.fns hr hg (insInc_mem _ _ _) hb nofun)⟩
  case case7 st2 _ rn i hr g hg b hb ih =>
    have bd := (body_nofilter hs _ : Body p _ _ _ st2).inc i
    have hR := @markService_sub p cfg [] g b (findSvc_mem p hb)
    obtain ⟨hbm, r⟩ := ih (findSvc_mem p hb) (bd.ext.trans hE) hc
    exact ⟨hR bd.self, fun h => r (h.extend hu hs bd.new
      (.of_some (fun fn hfn => hR (bd.fns fn hfn)) hr hg (hR (insInc_mem _ _ _)) hb fun | _, rfl => hbm))⟩
  case case8 st2 hn =>
    have bd : Body p _ _ _ st2 := body_nofilter hs _
    -- without -m the service is marked and `ext` stays empty, so nothing is cut: the branch is taken only for want of `extends`
    have he : _ = [] := Decidable.byContradiction fun he => hn ⟨he, bd.self, by simp [isCut, bd.ext.trans hE]⟩
    exact ⟨bd.self, fun h => h.extend hu hs bd.new ⟨bd.fns, fun h => absurd he h, fun h => absurd he h⟩⟩

end nofilter

theorem effMethods_eq_nil (p : Program) (cfg : Cfg) : effMethods p cfg = [] ↔ cfg.methods = [] :=
  List.map_eq_nil_iff

theorem foldSvc_nofilter {p : Program} {cfg : Cfg} (hu : UniqueSvcFn p) (j f : Nat) (l : List Service) (st : St)
    (hall : ∀ svc ∈ l, svc ∈ (p.file f).services) (hE : st.ext = [])
    (hc : (l.foldl (fun st svc => markService p cfg [] j f svc st) st).crash = false) (hi : AllOK p st.marks st.marks) :
    AllOK p (l.foldl (fun st svc => markService p cfg [] j f svc st) st).marks
        (l.foldl (fun st svc => markService p cfg [] j f svc st) st).marks ∧
      ∀ svc ∈ l, Node.svc f svc.name ∈ (l.foldl (fun st svc => markService p cfg [] j f svc st) st).marks := by
  induction l generalizing st with
  | nil => exact ⟨hi, nofun⟩
  | cons a l ih =>
    have hl : ∀ svc ∈ l, svc ∈ (p.file f).services := fun x hx => hall x (List.mem_cons_of_mem _ hx)
    have s := markService_step (cfg := cfg) (ms := []) j f a st (hall a List.mem_cons_self)
    -- the calls that follow keep what this one has marked, and a crash
    have e := (Step.foldl (p := p) (cfg := cfg) (ms := []) l (markService p cfg [] j f a st)
      fun svc hsvc st => markService_step j f svc st (hl svc hsvc)).mono
    obtain ⟨r1, r2⟩ := markService_nofilter hu j f a st (hall a List.mem_cons_self) hE (e.crash_false hc)
    obtain ⟨t1, t2⟩ := ih _ hl ((s.ext_eq rfl).trans hE) hc (r2 (hi.mono s.mono.marks))
    exact ⟨t1, fun svc hsvc => (List.mem_cons.mp hsvc).elim (· ▸ e.marks r1) (t2 svc)⟩

theorem nofilter_final (p : Program) (cfg : Cfg) (hm : cfg.methods = []) (hu : UniqueSvcFn p)
    (hc : (markAST p cfg).crash = false) :
    AllOK p (markAST p cfg).marks (markAST p cfg).marks ∧
      ∀ svc ∈ (p.file 0).services, Node.svc 0 svc.name ∈ (markAST p cfg).marks := by
  have hc2 : (stage2 p cfg).crash = false := (markKeptPart_mono p cfg 0 _).crash_false hc
  have g : Grows p (stage2 p cfg).marks (markAST p cfg).marks := markKeptPart_grows p cfg 0 (stage2 p cfg)
  unfold stage2 at hc2 g
  rw [(effMethods_eq_nil p cfg).mpr hm] at hc2 g
  obtain ⟨r1, r2⟩ := foldSvc_nofilter hu _ 0 (p.file 0).services (stage1 p cfg) (fun _ h => h)
    (stage1_plain p cfg).2 hc2 ⟨fun _ hmark => Bool.noConfusion ((stage1_plain p cfg).1 _ hmark)⟩
  exact ⟨(r1.grows g).mono g.sub, fun svc hsvc => g.sub (r2 svc hsvc)⟩

def FnHit (cfg : Cfg) (ms : List Bytes) (M : Marks) : Prop :=
  ∀ f s n, Node.fn f s n ∈ M → ∃ fa, hitLoose cfg ms (dot fa n) = true

theorem FnHit.grows {p : Program} {cfg : Cfg} {ms : List Bytes} {M R : Marks} (h : FnHit cfg ms M) (g : Grows p M R) :
    FnHit cfg ms R :=
  fun f s n hn => h f s n (g.fn_mem hn)

theorem Step.hit {p : Program} {cfg : Cfg} {ms : List Bytes} {a b : St} (h : Step p cfg ms a b) (hne : ms.isEmpty = false) :
    FnHit cfg ms a.marks → FnHit cfg ms b.marks := by
  induction h with
  | trans _ _ ih1 ih2 => exact fun h => ih2 (ih1 h)
  | svc | inc =>
    intro h g s n hn
    exact h g s n ((List.mem_cons.mp hn).resolve_left Node.noConfusion)
  | @fn st f svc fn _ _ hh =>
    intro h g s n hn
    rcases List.mem_cons.mp ((markFunction_grows p f svc.name st.marks fn).fn_mem hn) with hn | hn
    · injection hn with _ _ hn
      rw [hn]
      exact hh hne
    · exact h g s n hn
  | _ => exact id

theorem method_filter_sound (p : Program) (cfg : Cfg) (hne : cfg.methods ≠ []) :
    FnHit cfg (effMethods p cfg) (markAST p cfg).marks := by
  have hne' : (effMethods p cfg).isEmpty = false :=
    Bool.eq_false_iff.mpr fun h => hne ((effMethods_eq_nil p cfg).mp (List.isEmpty_iff.mp h))
  have h1 : FnHit cfg (effMethods p cfg) (stage1 p cfg).marks := by
    intro f s n hn
    exact Bool.noConfusion ((stage1_plain p cfg).1 _ hn)
  rw [markAST_eq]
  exact ((stage2_step p cfg).hit hne' h1).grows (markKeptPart_grows p cfg 0 _)

theorem keepInc_of_mem (p : Program) {M : Marks} {f : Nat} {ii : Include × Nat} (h : Node.inc f ii.2 ∈ M) :
    keepInc p M f ii = true := by
  simp [keepInc, h]

/-- files still reachable from the root through the includes `traversal` keeps -/
inductive KeptReach (p : Program) (M : Marks) : Nat → Prop
  | root : KeptReach p M 0
  | step {f : Nat} {ii : Include × Nat} : KeptReach p M f → ii ∈ (p.file f).includes.zipIdx →
      keepInc p M f ii = true → KeptReach p M ii.1.target

theorem ct_kept_reach (p : Program) (cfg : Cfg) (hc : (markAST p cfg).crash = false) {f : Nat}
    (hr : InclReach p f) (hct : hasCT p f = true) : KeptReach p (markAST p cfg).marks f := by
  have m := stage1_mono_final p cfg
  have hc1 : (stage1 p cfg).crash = false := m.crash_false hc
  have hmarks := preProcess_incMarks p cfg _ 0 St.init (cacheCT_init p) hc1
  -- every edge on a path from the root towards a file with constants/typedefs is marked
  have key : ∀ {g c : Nat}, Path p g c → hasCT p c = true → Path p 0 g →
      KeptReach p (markAST p cfg).marks g → KeptReach p (markAST p cfg).marks c := by
    intro g c hgc
    induction hgc with
    | refl => intro _ _ h; exact h
    | @step a i b c hi hbc ih =>
      intro hct' h0 hk
      obtain ⟨inc, hmem, rfl⟩ := incTarget_zipIdx p hi
      have hmk : Node.inc a i ∈ (markAST p cfg).marks := m.marks (hmarks a h0 _ hmem ⟨c, hbc, hct'⟩)
      exact ih hct' (h0.snoc hi) (KeptReach.step hk hmem (keepInc_of_mem p hmk))
  exact key (path_of_inclReach hr) hct (Path.refl 0) KeptReach.root

end Trim
