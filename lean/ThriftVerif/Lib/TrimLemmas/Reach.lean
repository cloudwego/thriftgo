import ThriftVerif.Lib.Trim
import ThriftVerif.Core.Dfs
/-! The DFS of the trimmer against its specification: `TyRef`/`Edge` are the relational reading of `tyTargets`/`succs`;
every target is a node of the program, so `visit` with the fuel `fuelN p` is the generic `Dfs.dfs` with enough fuel
(`visit_spec`) and more fuel changes nothing; what a fold of visits does to a mark set (`MInv`, `Grows`); the invariant
`Inv` of the states of `markAST`. -/
namespace Trim

theorem tyRef_of_mem (p : Program) (f : Nat) (ty : Ty) (n : Node) (hn : n ∈ tyTargets p f ty) : TyRef p f ty n := by
  fun_induction tyTargets p f ty
  -- cases of tyTargets: named, unary, binary, each plain (odd) or not (even)
  case case1 | case3 | case5 => cases hn
  case case2 hp => exact .self (eq_false_of_ne_true hp) hn
  case case4 hp ih =>
    rcases List.mem_append.mp hn with hn | hn
    · exact .val1 (eq_false_of_ne_true hp) (ih hn)
    · exact .self (eq_false_of_ne_true hp) hn
  case case6 hp ihk ihv =>
    rcases List.mem_append.mp hn with hn | hn
    · exact .key (eq_false_of_ne_true hp) (ihk hn)
    · rcases List.mem_append.mp hn with hn | hn
      · exact .val2 (eq_false_of_ne_true hp) (ihv hn)
      · exact .self (eq_false_of_ne_true hp) hn

theorem mem_of_tyRef (p : Program) (f : Nat) {ty : Ty} {n : Node} (h : TyRef p f ty n) : n ∈ tyTargets p f ty := by
  induction h with
  | @self ty n hp hn =>
    cases ty <;> simp [tyTargets, Ty.hdr] at * <;> simp [hp, hn]
  | val1 hp _ ih => simp [tyTargets, hp, ih]
  | key hp _ ih => simp [tyTargets, hp, ih]
  | val2 hp _ ih => simp [tyTargets, hp, ih]

theorem tyRef_iff (p : Program) (f : Nat) (ty : Ty) (n : Node) : TyRef p f ty n ↔ n ∈ tyTargets p f ty :=
  ⟨mem_of_tyRef p f, tyRef_of_mem p f ty n⟩

theorem edge_iff (p : Program) (m x : Node) : Edge p m x ↔ x ∈ succs p m := by
  constructor
  · rintro (⟨hs, hfd, ht⟩ | ⟨ht, hr⟩)
    · rw [succs, hs]
      exact List.mem_flatMap.mpr ⟨_, hfd, mem_of_tyRef p _ ht⟩
    · rw [succs, ht]
      exact mem_of_tyRef p _ hr
  · fun_cases succs p m
    -- cases of succs: a struct-like, found or not; a typedef, found or not; any other node
    case case1 hs =>
      intro h
      obtain ⟨fd, hfd, hx⟩ := List.mem_flatMap.mp h
      exact .field hs hfd (tyRef_of_mem p _ _ _ hx)
    case case3 ht => exact fun h => .typedef ht (tyRef_of_mem p _ _ _ h)
    case case2 | case4 | case5 => exact nofun

theorem file_of_ge (p : Program) {f : Nat} (h : p.files.length ≤ f) : p.file f = emptyFile := by
  simp [Program.file, List.getD, List.getElem?_eq_none h]

theorem mem_fileNodes {f : Nat} {file : File} {n : Node} : n ∈ fileNodes f file ↔
    (∃ i < file.includes.length, Node.inc f i = n) ∨ (∃ s ∈ file.structs, Node.sl f .struct s.name = n) ∨
      (∃ s ∈ file.unions, Node.sl f .union s.name = n) ∨ (∃ s ∈ file.exceptions, Node.sl f .exception s.name = n) ∨
      (∃ e ∈ file.enums, Node.enum f e = n) ∨ ∃ t ∈ file.typedefs, Node.td f t.alias = n := by
  simp only [fileNodes, List.mem_append, List.mem_map, List.mem_range, or_assoc]

theorem fileNodes_sub (p : Program) {f : Nat} {n : Node} (h : n ∈ fileNodes f (p.file f)) : n ∈ allNodes p := by
  by_cases hf : f < p.files.length
  · simp only [allNodes, List.mem_flatMap, List.mem_range]
    exact ⟨f, hf, h⟩
  · rw [file_of_ge p (Nat.le_of_not_lt hf)] at h
    simp [fileNodes, emptyFile] at h

theorem td_node_mem (p : Program) {f : Nat} {t : Typedef} (h : t ∈ (p.file f).typedefs) : Node.td f t.alias ∈ allNodes p :=
  fileNodes_sub p (mem_fileNodes.mpr (Or.inr (Or.inr (Or.inr (Or.inr (Or.inr ⟨t, h, rfl⟩))))))

theorem enum_node_mem (p : Program) {f : Nat} {e : Bytes} (h : e ∈ (p.file f).enums) : Node.enum f e ∈ allNodes p :=
  fileNodes_sub p (mem_fileNodes.mpr (Or.inr (Or.inr (Or.inr (Or.inr (Or.inl ⟨e, h, rfl⟩))))))

theorem sl_node_mem (p : Program) {f : Nat} {k : SLKind} {s : StructLike} (h : s ∈ (p.file f).sl k) :
    Node.sl f k s.name ∈ allNodes p := by
  apply fileNodes_sub p (f := f)
  rw [mem_fileNodes]
  cases k
  · exact Or.inr (Or.inl ⟨s, h, rfl⟩)
  · exact Or.inr (Or.inr (Or.inl ⟨s, h, rfl⟩))
  · exact Or.inr (Or.inr (Or.inr (Or.inl ⟨s, h, rfl⟩)))

def catKind (c : Nat) : Option SLKind :=
  if c = 13 then some .struct else if c = 15 then some .exception else if c = 14 then some .union else none

/-- `declTargets` with the three struct-like branches as one, the kind a parameter -/
theorem declTargets_eq (p : Program) (base : Nat) (h : TyHdr) : declTargets p base h =
    if h.isTd then
      match (p.file base).typedefs.find? (fun t => t.alias == h.name) with
      | some t => [Node.td base t.alias]
      | none => []
    else match catKind h.cat with
      | some k =>
        (match ((p.file base).sl k).find? (fun s => nameHit h s.name) with
        | some s => [Node.sl base k s.name]
        | none => [])
      | none =>
        if h.cat = 12 then
          match (p.file base).enums.find? (fun e => nameHit h e) with
          | some e => [Node.enum base e]
          | none => []
        else [] := by
  fun_cases declTargets
  all_goals simp only [catKind, File.sl, *, if_true, if_false, Bool.false_eq_true, Nat.reduceEqDiff]

theorem mem_declTargets (p : Program) (base : Nat) (h : TyHdr) {n : Node} (hn : n ∈ declTargets p base h) :
    (∃ t ∈ (p.file base).typedefs, n = Node.td base t.alias) ∨
    (∃ k, ∃ s ∈ (p.file base).sl k, n = Node.sl base k s.name) ∨
    (∃ e ∈ (p.file base).enums, n = Node.enum base e) := by
  revert hn
  fun_cases declTargets
  -- cases of declTargets: a typedef, struct, exception, union, enum in turn, each found (odd) or not (even); none of these
  case case1 t ht => exact fun hn => .inl ⟨t, List.mem_of_find?_eq_some ht, List.mem_singleton.mp hn⟩
  case case3 s hs | case5 s hs | case7 s hs =>
    exact fun hn => .inr (.inl ⟨_, s, List.mem_of_find?_eq_some hs, List.mem_singleton.mp hn⟩)
  case case9 e he => exact fun hn => .inr (.inr ⟨e, List.mem_of_find?_eq_some he, List.mem_singleton.mp hn⟩)
  all_goals exact nofun

theorem declTargets_sub (p : Program) (base : Nat) (h : TyHdr) {n : Node} (hn : n ∈ declTargets p base h) : n ∈ allNodes p := by
  rcases mem_declTargets p base h hn with ⟨t, ht, rfl⟩ | ⟨k, s, hs, rfl⟩ | ⟨e, he, rfl⟩
  · exact td_node_mem p ht
  · exact sl_node_mem p hs
  · exact enum_node_mem p he

theorem incTarget_lt (p : Program) {f i g : Nat} (h : p.incTarget f i = some g) : i < (p.file f).includes.length :=
  let ⟨_, hx, _⟩ := Option.map_eq_some_iff.mp h
  (List.getElem?_eq_some_iff.mp hx).1

theorem selfTargets_sub (p : Program) (f : Nat) (h : TyHdr) {n : Node} (hn : n ∈ selfTargets p f h) : n ∈ allNodes p := by
  revert hn
  fun_cases selfTargets p f h
  -- cases of selfTargets: no reference; through include `i` to file `g`; no such include
  case case1 => exact declTargets_sub p f h
  case case2 i _ _ hg =>
    intro hn
    rcases List.mem_cons.mp hn with rfl | hn
    · exact fileNodes_sub p (mem_fileNodes.mpr (Or.inl ⟨i, incTarget_lt p hg, rfl⟩))
    · exact declTargets_sub p _ h hn
  case case3 => exact nofun

theorem tyTargets_sub (p : Program) (f : Nat) (ty : Ty) {n : Node} (hn : n ∈ tyTargets p f ty) : n ∈ allNodes p := by
  have h := tyRef_of_mem p f ty n hn
  clear hn
  induction h with
  | self _ hn => exact selfTargets_sub p f _ hn
  | val1 _ _ ih => exact ih
  | key _ _ ih => exact ih
  | val2 _ _ ih => exact ih

theorem succs_sub (p : Program) {m x : Node} (h : x ∈ succs p m) : x ∈ allNodes p := by
  cases (edge_iff p m x).mpr h with
  | field _ _ ht => exact tyTargets_sub p _ _ (mem_of_tyRef p _ ht)
  | typedef _ ht => exact tyTargets_sub p _ _ (mem_of_tyRef p _ ht)

def Node.isTarget : Node → Bool
  | .svc _ _ => false
  | .fn _ _ _ => false
  | _ => true

theorem allNodes_isTarget (p : Program) {n : Node} (h : n ∈ allNodes p) : n.isTarget = true := by
  simp only [allNodes, List.mem_flatMap, mem_fileNodes] at h
  obtain ⟨f, _, h⟩ := h
  rcases h with ⟨_, _, rfl⟩ | ⟨_, _, rfl⟩ | ⟨_, _, rfl⟩ | ⟨_, _, rfl⟩ | ⟨_, _, rfl⟩ | ⟨_, _, rfl⟩ <;> rfl

theorem svc_not_node (p : Program) {f : Nat} {n : Bytes} (h : Node.svc f n ∈ allNodes p) : False :=
  Bool.noConfusion (allNodes_isTarget p h)

theorem fn_not_node (p : Program) {f : Nat} {s n : Bytes} (h : Node.fn f s n ∈ allNodes p) : False :=
  Bool.noConfusion (allNodes_isTarget p h)

def Closed (p : Program) (M : Marks) : Prop := ∀ m ∈ M, ∀ x ∈ succs p m, x ∈ M

theorem closed_cons_leaf (p : Program) {M : Marks} {n : Node} (hc : Closed p M) (hn : succs p n = []) : Closed p (n :: M) := by
  intro m hm x hx
  rcases List.mem_cons.mp hm with hm | hm
  · subst hm; simp [hn] at hx
  · exact List.mem_cons_of_mem _ (hc m hm x hx)

structure MInv (p : Program) (Q : Node → Prop) (M : Marks) : Prop where
  closed : Closed p M
  just : ∀ m ∈ M, m.isDecl = true → Q m

structure Grows (p : Program) (M R : Marks) : Prop where
  sub : M ⊆ R
  new : ∀ m ∈ R, m ∈ M ∨ m ∈ allNodes p

theorem Grows.refl (p : Program) (M : Marks) : Grows p M M := ⟨fun _ h => h, fun _ h => Or.inl h⟩

theorem Grows.fn_mem {p : Program} {M R : Marks} (g : Grows p M R) {f : Nat} {s n : Bytes} (h : Node.fn f s n ∈ R) :
    Node.fn f s n ∈ M :=
  (g.new _ h).resolve_right (fn_not_node p)

theorem Grows.svc_mem {p : Program} {M R : Marks} (g : Grows p M R) {f : Nat} {n : Bytes} (h : Node.svc f n ∈ R) :
    Node.svc f n ∈ M :=
  (g.new _ h).resolve_right (svc_not_node p)

theorem visit_eq (p : Program) : visit p = Dfs.dfs (succs p) := by
  funext k
  induction k with
  | zero => rfl
  | succ k ih =>
    funext M n
    rw [visit, Dfs.dfs, ih]

theorem visit_post (p : Program) (d : Nat) (ns : List Node) (M : Marks) (hall : ∀ n ∈ ns, n ∈ allNodes p) :
    Dfs.Post (succs p) M ns (ns.foldl (visit p (fuelN p + d)) M) ∧
      ns.foldl (visit p (fuelN p + d + 1)) M = ns.foldl (visit p (fuelN p + d)) M := by
  rw [visit_eq]
  exact Dfs.dfs_post (fun _ _ _ hx => succs_sub p hx) _ ns M
    (Nat.lt_of_lt_of_le (Nat.lt_succ_of_le (Dfs.fresh_le _ M)) (Nat.le_add_right _ d)) hall

theorem visit_spec (p : Program) (ns : List Node) (M : Marks) (hall : ∀ n ∈ ns, n ∈ allNodes p) :
    Dfs.Post (succs p) M ns (ns.foldl (visit p (fuelN p)) M) :=
  (visit_post p 0 ns M hall).1

theorem visit_fuel_ge (p : Program) (M : Marks) (n : Node) (hn : n ∈ allNodes p) :
    ∀ d, visit p (fuelN p + d) M n = visit p (fuelN p) M n := by
  intro d
  induction d with
  | zero => rfl
  | succ d ih => exact ((visit_post p d [n] M (fun _ hx => by rw [List.mem_singleton.mp hx]; exact hn)).2).trans ih

theorem visitList_grows (p : Program) (ns : List Node) (M : Marks) (hall : ∀ n ∈ ns, n ∈ allNodes p) :
    Grows p M (ns.foldl (visit p (fuelN p)) M) :=
  have s := visit_spec p ns M hall
  ⟨s.sub, fun m hm => (Decidable.em (m ∈ M)).imp_right
    (s.least (· ∈ allNodes p) (fun _ _ _ hx => succs_sub p hx) hall m hm)⟩

theorem visitList_inv (p : Program) (Q : Node → Prop) (hQ : ∀ m x, Q m → x ∈ succs p m → Q x)
    (ns : List Node) (M : Marks) (hall : ∀ n ∈ ns, n ∈ allNodes p) (hq : ∀ n ∈ ns, Q n) (h : MInv p Q M) :
    MInv p Q (ns.foldl (visit p (fuelN p)) M) :=
  have s := visit_spec p ns M hall
  ⟨fun m hm x hx => if hmM : m ∈ M then s.sub (h.closed m hmM x hx) else s.closed m hm hmM x hx,
   fun m hm hd => if hmM : m ∈ M then h.just m hmM hd else s.least Q hQ hq m hm hmM⟩

theorem markTypes_eq (p : Program) (f : Nat) (M : Marks) (tys : List Ty) :
    markTypes p f M tys = (tys.flatMap (tyTargets p f)).foldl (visit p (fuelN p)) M :=
  List.foldl_flatMap.symm

theorem tysTargets_sub (p : Program) (f : Nat) (tys : List Ty) : ∀ n ∈ tys.flatMap (tyTargets p f), n ∈ allNodes p := by
  intro n hn
  obtain ⟨ty, _, h⟩ := List.mem_flatMap.mp hn
  exact tyTargets_sub p f ty h

def FnOK (p : Program) (M : Marks) (f : Nat) (s n : Bytes) : Prop :=
  ∃ svc ∈ (p.file f).services, svc.name = s ∧ ∃ fn ∈ svc.fns, fn.name = n ∧
    ∀ ty ∈ fn.types, ∀ x ∈ tyTargets p f ty, x ∈ M

theorem FnOK.mono {p : Program} {M R : Marks} {f : Nat} {s n : Bytes} (h : FnOK p M f s n) (hs : M ⊆ R) : FnOK p R f s n :=
  let ⟨svc, hsvc, e1, fn, hf, e2, ht⟩ := h
  ⟨svc, hsvc, e1, fn, hf, e2, fun ty hty x hx => hs (ht ty hty x hx)⟩

def FnJust (p : Program) (M : Marks) : Prop := ∀ f s n, Node.fn f s n ∈ M → FnOK p M f s n

theorem FnJust.grows {p : Program} {M R : Marks} (h : FnJust p M) (g : Grows p M R) : FnJust p R :=
  fun f s n hn => (h f s n (g.fn_mem hn)).mono g.sub

theorem FnJust.cons_other {p : Program} {M : Marks} (h : FnJust p M) (n : Node) (hn : ∀ f s x, n ≠ Node.fn f s x) :
    FnJust p (n :: M) :=
  fun f s x hx => (h f s x ((List.mem_cons.mp hx).resolve_left fun e => hn f s x e.symm)).mono (List.subset_cons_self _ _)

theorem MInv.cons_leaf {p : Program} {Q : Node → Prop} {M : Marks} (h : MInv p Q M) (n : Node)
    (hs : succs p n = []) (hd : n.isDecl = false) : MInv p Q (n :: M) :=
  ⟨closed_cons_leaf p h.closed hs, fun m hm hdm => by
    rcases List.mem_cons.mp hm with hm | hm
    · subst hm; rw [hd] at hdm; cases hdm
    · exact h.just m hm hdm⟩

theorem MInv.imp {p : Program} {Q Q' : Node → Prop} {M : Marks} (h : MInv p Q M) (hq : ∀ n, Q n → Q' n) : MInv p Q' M :=
  ⟨h.closed, fun m hm hd => hq m (h.just m hm hd)⟩

/-- a step that may also add service / function / include marks -/
structure Grows' (p : Program) (M R : Marks) : Prop where
  sub : M ⊆ R
  new : ∀ m ∈ R, m ∈ M ∨ m.isDecl = false ∨ m ∈ allNodes p

theorem markFunction_grows (p : Program) (f : Nat) (s : Bytes) (M : Marks) (fn : Function) :
    Grows p (Node.fn f s fn.name :: M) (markFunction p f s M fn) := by
  unfold markFunction
  rw [markTypes_eq]
  exact visitList_grows p _ _ (tysTargets_sub p f fn.types)

theorem markFunction_sub (p : Program) (f : Nat) (s : Bytes) (M : Marks) (fn : Function) : M ⊆ markFunction p f s M fn :=
  fun _ h => (markFunction_grows p f s M fn).sub (List.mem_cons_of_mem _ h)

theorem markFunction_mem (p : Program) (f : Nat) (s : Bytes) (M : Marks) (fn : Function) :
    Node.fn f s fn.name ∈ markFunction p f s M fn :=
  (markFunction_grows p f s M fn).sub List.mem_cons_self

theorem mem_insInc {f i : Nat} {M : Marks} {x : Node} : x ∈ insInc f i M ↔ x = Node.inc f i ∨ x ∈ M := by
  unfold insInc
  split
  · rename_i h
    exact (or_iff_right_of_imp fun e => e ▸ h).symm
  · exact List.mem_cons

theorem insInc_sub (f i : Nat) (M : Marks) : M ⊆ insInc f i M :=
  fun _ h => mem_insInc.mpr (Or.inr h)

theorem insInc_mem (f i : Nat) (M : Marks) : Node.inc f i ∈ insInc f i M :=
  mem_insInc.mpr (Or.inl rfl)

theorem reach_closed (p : Program) (cfg : Cfg) (M : Marks) :
    ∀ m x, Reach p cfg M m → x ∈ succs p m → Reach p cfg M x :=
  fun m x h hx => Reach.step h ((edge_iff p m x).mpr hx)

theorem Reach.mono {p : Program} {cfg : Cfg} {M R : Marks} (hs : M ⊆ R) {n : Node} (h : Reach p cfg M n) :
    Reach p cfg R n := by
  induction h with
  | root hr =>
    refine Reach.root ?_
    cases hr with
    | fn h1 h2 h3 h4 h5 => exact Root.fn h1 h2 (hs h3) h4 h5
    | const h1 h2 h3 => exact Root.const h1 h2 h3
    | typedef h1 h2 h3 => exact Root.typedef h1 h2 h3
    | preserved h1 h2 h3 => exact Root.preserved h1 h2 h3
  | step _ he ih => exact Reach.step ih he

/-- the roots `markKeptPart` starts from in file `f`: what its constants and typedefs name, and its preserved struct-likes -/
def keptNodes (p : Program) (cfg : Cfg) (f : Nat) : List Node :=
  ((p.file f).consts.map (·.ty)).flatMap (tyTargets p f) ++
    (((p.file f).typedefs.map (·.ty)).flatMap (tyTargets p f) ++
      ((p.file f).sls.filter (fun ks => checkPreserve cfg ks.2)).map (fun ks => Node.sl f ks.1 ks.2.name))

/-- The invariant of every intermediate state of `markAST`.  Declaration marks are justified by `Reach`
over the marks of that same state; as `Reach` grows with the marks, a justification once given stays. -/
structure Inv (p : Program) (cfg : Cfg) (st : St) : Prop where
  m : MInv p (Reach p cfg st.marks) st.marks
  fnj : FnJust p st.marks
  kept : ∀ f r, (f, r) ∈ st.cache → keptNodes p cfg f ⊆ st.marks

theorem Inv.step {p : Program} {cfg : Cfg} {st : St} (h : Inv p cfg st) (st' : St)
    (hc : st'.cache = st.cache) (hsub : st.marks ⊆ st'.marks)
    (hm : MInv p (Reach p cfg st'.marks) st'.marks) (hj : FnJust p st'.marks) : Inv p cfg st' :=
  ⟨hm, hj, fun f r hfr _ hn => hsub (h.kept f r (hc ▸ hfr) hn)⟩

theorem Inv.cons_leaf {p : Program} {cfg : Cfg} {st : St} (h : Inv p cfg st) (n : Node)
    (hs : succs p n = []) (hd : n.isDecl = false) (hn : ∀ f s x, n ≠ Node.fn f s x) :
    Inv p cfg { st with marks := n :: st.marks } :=
  h.step _ rfl (List.subset_cons_self _ _)
    ((h.m.imp fun _ => Reach.mono (List.subset_cons_self _ _)).cons_leaf n hs hd) (h.fnj.cons_other n hn)

/-- `markFunction`: the function mark is a leaf; with it in place the targets of the function's types are roots of
`Reach`, and the DFS from them leaves them marked, which is what the new function mark has to answer for. -/
theorem Inv.markFn {p : Program} {cfg : Cfg} {st : St} (h : Inv p cfg st) {f : Nat} {svc : Service} {fn : Function}
    (hs : svc ∈ (p.file f).services) (hf : fn ∈ svc.fns) :
    Inv p cfg { st with marks := markFunction p f svc.name st.marks fn } := by
  have hall := tysTargets_sub p f fn.types
  have g := visitList_grows p _ (Node.fn f svc.name fn.name :: st.marks) hall
  have sub : st.marks ⊆ _ := fun _ hx => g.sub (List.mem_cons_of_mem _ hx)
  unfold markFunction
  rw [markTypes_eq]
  refine h.step _ rfl sub (visitList_inv p _ (reach_closed p cfg _) _ _ hall (fun x hx => ?_)
    ((h.m.imp fun _ => Reach.mono sub).cons_leaf _ rfl rfl)) fun f' s' n' hn => ?_
  · obtain ⟨ty, hty, hx⟩ := List.mem_flatMap.mp hx
    exact .root (.fn hs hf (g.sub List.mem_cons_self) hty (tyRef_of_mem p f ty x hx))
  · rcases List.mem_cons.mp (g.fn_mem hn) with e | hn
    · cases e
      exact ⟨svc, hs, rfl, fn, hf, rfl, fun ty hty x hx => (visit_spec p _ _ hall).mem x (List.mem_flatMap.mpr ⟨ty, hty, hx⟩)⟩
    · exact (h.fnj f' s' n' hn).mono sub

structure Mono (st st' : St) : Prop where
  marks : st.marks ⊆ st'.marks
  cache : st.cache ⊆ st'.cache
  crash : st.crash = true → st'.crash = true

theorem Mono.refl (st : St) : Mono st st := ⟨fun _ h => h, fun _ h => h, fun h => h⟩
theorem Mono.trans {a b c : St} (h1 : Mono a b) (h2 : Mono b c) : Mono a c :=
  ⟨fun _ h => h2.marks (h1.marks h), fun _ h => h2.cache (h1.cache h), fun h => h2.crash (h1.crash h)⟩

theorem Mono.crash_false {a b : St} (m : Mono a b) (h : b.crash = false) : a.crash = false := by
  cases ha : a.crash with
  | false => rfl
  | true => rw [m.crash ha] at h; cases h

end Trim
