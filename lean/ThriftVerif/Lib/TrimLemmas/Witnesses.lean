import ThriftVerif.Lib.Trim
/-! Machine-checked witnesses: regression items and counterexamples. -/
namespace Trim

def fixOff : Fix := ⟨false, false, false⟩
def fixOn : Fix := ⟨true, true, true⟩

def cfg0 : Cfg := ⟨fixOff, [], false, false, [], fun _ _ => false⟩

/-- `f0: include "f1.thrift"  service V0 extends f1.V2 {}` ; `f1: service V1 {}  service V2 extends V1 {}` -/
def progA : Program := ⟨[
  ⟨[102, 48], [⟨[102, 49], 1⟩], [], [], [], [], [], [], [⟨[86, 48], [102, 49, 46, 86, 50], some ([86, 50], 0), []⟩]⟩,
  ⟨[102, 49], [], [], [], [], [], [], [], [⟨[86, 49], [], none, []⟩, ⟨[86, 50], [86, 49], none, []⟩]⟩]⟩

/-- -m V1.put ; regexp2 finds "V1.put" in "V1.putAll" -/
def cfgB (fx : Fix) : Cfg := ⟨fx, [[86, 49, 46, 112, 117, 116]], false, false, [],
  fun pat s => pat == [86, 49, 46, 112, 117, 116] && s == [86, 49, 46, 112, 117, 116, 65, 108, 108]⟩

/-- `service V0 {}  service V1 extends V0 { void putAll() }` -/
def progB : Program := ⟨[
  ⟨[102, 48], [], [], [], [], [], [], [],
    [⟨[86, 48], [], none, []⟩, ⟨[86, 49], [86, 48], none, [⟨[112, 117, 116, 65, 108, 108], [], [], none⟩]⟩]⟩]⟩

/-- -m "^V1\.m0$" ; it matches exactly "V1.m0" -/
def cfgC (fx : Fix) : Cfg := ⟨fx, [[94, 86, 49, 92, 46, 109, 48, 36]], false, false, [],
  fun pat s => pat == [94, 86, 49, 92, 46, 109, 48, 36] && s == [86, 49, 46, 109, 48]⟩

/-- `f0: include "f1.thrift"  service V0 extends f1.V2 {}  service V1 extends V0 {}` ; `f1: service V2 { void m0() }` -/
def progC : Program := ⟨[
  ⟨[102, 48], [⟨[102, 49], 1⟩], [], [], [], [], [], [],
    [⟨[86, 48], [102, 49, 46, 86, 50], some ([86, 50], 0), []⟩, ⟨[86, 49], [86, 48], none, []⟩]⟩,
  ⟨[102, 49], [], [], [], [], [], [], [], [⟨[86, 50], [], none, [⟨[109, 48], [], [], none⟩]⟩]⟩]⟩

/-- -m V0.m0 -/
def cfgD (fx : Fix) : Cfg := ⟨fx, [[86, 48, 46, 109, 48]], false, false, [],
  fun pat s => pat == [86, 48, 46, 109, 48] && s == [86, 48, 46, 109, 48]⟩

/-- `f0: include "f1.thrift"  service V0 extends f1.V1 { void m0() }` ; `f1: service V1 {}` -/
def progD : Program := ⟨[
  ⟨[102, 48], [⟨[102, 49], 1⟩], [], [], [], [], [], [],
    [⟨[86, 48], [102, 49, 46, 86, 49], some ([86, 49], 0), [⟨[109, 48], [], [], none⟩]⟩]⟩,
  ⟨[102, 49], [], [], [], [], [], [], [], [⟨[86, 49], [], none, []⟩]⟩]⟩

theorem trimA : trimProg progA cfg0 = progA := by decide

/-- `progB` and `progD` after one trim with the three repairs; `progC` is left as it is -/
def progB1 : Program := ⟨[⟨[102, 48], [], [], [], [], [], [], [], []⟩]⟩
def progD1 : Program := ⟨[
  ⟨[102, 48], [], [], [], [], [], [], [], [⟨[86, 48], [], none, [⟨[109, 48], [], [], none⟩]⟩]⟩,
  ⟨[102, 49], [], [], [], [], [], [], [], []⟩]⟩

theorem trimB_on : trimProg progB (cfgB fixOn) = progB1 ∧ trimProg progB1 (cfgB fixOn) = progB1 := by decide
theorem trimC_on : trimProg progC (cfgC fixOn) = progC := by decide
theorem trimD_on : trimProg progD (cfgD fixOn) = progD1 ∧ trimProg progD1 (cfgD fixOn) = progD1 := by decide

end Trim
