/-! Facts about `List` that the trimmer lemmas use and core does not have. -/
namespace Trim

theorem getElem?_filter_count {β : Type} (keep : β → Bool) (l : List β) (i : Nat) (h : (l.map keep).getD i false = true) :
    (l.filter keep)[((l.map keep).take i).count true]? = l[i]? := by
  induction l generalizing i with
  | nil => simp at h
  | cons x xs ih =>
    cases i with
    | zero =>
      simp only [List.map_cons, List.getD_cons_zero] at h
      simp [h]
    | succ j =>
      simp only [List.map_cons, List.getD_cons_succ] at h
      simp only [List.map_cons, List.take_succ_cons, List.getElem?_cons_succ]
      by_cases hk : keep x = true
      · rw [List.filter_cons_of_pos hk, hk, List.count_cons_self, List.getElem?_cons_succ]
        exact ih j h
      · rw [List.filter_cons_of_neg hk, List.count_cons_of_ne (by simpa using hk)]
        exact ih j h

theorem zipIdx_map_getD {α : Type} (g : α × Nat → Bool) (l : List α) (i : Nat) (h : i < l.length) :
    (l.zipIdx.map g).getD i false = g (l[i], i) := by
  simp [List.getD, List.getElem?_map, List.getElem?_zipIdx, List.getElem?_eq_getElem h]

theorem find_filter_map {α : Type} (pred keep : α → Bool) (g : α → α) (hg : ∀ x, pred (g x) = pred x)
    (l : List α) (hk : ∀ s, l.find? pred = some s → keep s = true) :
    ((l.filter keep).map g).find? pred = (l.find? pred).map g := by
  fun_induction List.find? pred l
  case case1 => rfl
  case case2 x xs hp =>
    rw [List.filter_cons_of_pos (hk x rfl), List.map_cons, List.find?_cons_of_pos (by rw [hg]; exact hp)]
    rfl
  case case3 x xs hp ih =>
    by_cases hkx : keep x = true
    · rw [List.filter_cons_of_pos hkx, List.map_cons, List.find?_cons_of_neg (by rw [hg, hp]; exact Bool.false_ne_true)]
      exact ih hk
    · rw [List.filter_cons_of_neg hkx]
      exact ih hk

end Trim
