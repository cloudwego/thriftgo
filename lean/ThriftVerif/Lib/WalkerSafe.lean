import ThriftVerif.Lib.PegTree
import ThriftVerif.Lib.WalkerLemmas
import ThriftVerif.Generated.C03Grammar
/-
  The walker neither panics nor runs out of fuel (`NP`) on the trees the matcher builds for the generated grammar.
  `Inv buf fuel t` describes such a tree: inside the buffer (`Safe`), every node at every depth conforming to the body of
  its own rule (`Conf`), smaller than the fuel.  One lemma per walker function: `NP` on any node of such a tree, whatever
  its rule.  Where a walker follows `node.next` the siblings are read off the rule body (`kids_seq_call h.kids`: the unifier
  evaluates `ruleBody`, so a generated grammar that differs fails to build there).  At the end, on the same trees, the one
  value statement that needs them (`double_text`), and matcher and walker joined (`C03.parseString_safe`).
-/
namespace Walker
open Peg

@[simp] theorem bind_ok {α β} (a : α) (f : α → W β) : (W.ok a >>= f) = f a := rfl
@[simp] theorem bind_err {α β} (f : α → W β) : (W.err >>= f) = W.err := rfl
@[simp] theorem bind_panic {α β} (f : α → W β) : (W.panic >>= f) = W.panic := rfl
@[simp] theorem bind_crash {α β} (f : α → W β) : (W.crash >>= f) = W.crash := rfl
@[simp] theorem pure_eq {α} (a : α) : (pure a : W α) = W.ok a := rfl

theorem W_bind_assoc {α β γ} (x : W α) (f : α → W β) (g : β → W γ) :
    (x >>= f) >>= g = x >>= fun a => f a >>= g := by cases x <;> rfl

def NP {α} (x : W α) : Prop := x ≠ .panic ∧ x ≠ .crash

@[simp] theorem NP_ok {α} (a : α) : NP (W.ok a) := ⟨by simp, by simp⟩
@[simp] theorem NP_err {α} : NP (W.err : W α) := ⟨by simp, by simp⟩

/-- The model passes `err` / `panic` / `crash` on both by `x >>= k` and by a `match` on `x`; with the motive found by
abstracting `x` this serves both: `h.elim (fun a => …) NP_err`. -/
@[elab_as_elim]
theorem NP.elim {α} {motive : W α → Prop} {x : W α} (hx : NP x) (ok : ∀ a, motive (.ok a)) (err : motive .err) : motive x := by
  cases x with
  | ok a => exact ok a
  | err => exact err
  | panic => exact absurd rfl hx.1
  | crash => exact absurd rfl hx.2

theorem NP_bind {α β} {x : W α} {f : α → W β} (hx : NP x) (hf : ∀ a, NP (f a)) : NP (x >>= f) :=
  hx.elim hf NP_err

theorem NP_bind_pure {α β} {x : W α} {f : α → β} (hx : NP x) : NP (x >>= fun a => pure (f a)) :=
  NP_bind hx (fun _ => NP_ok _)

theorem ite_ind {α} {P : α → Prop} {c : Prop} [Decidable c] {x y : α} (hx : c → P x) (hy : ¬ c → P y) : P (if c then x else y) := by
  by_cases h : c
  · rw [if_pos h]; exact hx h
  · rw [if_neg h]; exact hy h

/-- used where the next step depends on where the previous one left the cursor (the enum loop) -/
def Post {α} (Q : α → Prop) (x : W α) : Prop := NP x ∧ ∀ a, x = .ok a → Q a

namespace Post

theorem pure {α} {a : α} {Q : α → Prop} (h : Q a) : Post Q (pure a : W α) :=
  ⟨NP_ok a, fun _ hb => W.ok.inj hb ▸ h⟩

theorem err {α} {Q : α → Prop} : Post Q (W.err : W α) := ⟨NP_err, fun _ h => nomatch h⟩

theorem bind {α β} {x : W α} {f : α → W β} {Q : α → Prop} {R : β → Prop}
    (hx : Post Q x) (hf : ∀ a, Q a → Post R (f a)) : Post R (x >>= f) := by
  obtain ⟨hnp, hq⟩ := hx
  revert hq
  exact hnp.elim (fun a hq => hf a (hq a rfl)) (fun _ => Post.err)

theorem of_np {α} {x : W α} (h : NP x) : Post (fun _ => True) x := ⟨h, fun _ _ => trivial⟩

theorem bind_np {α β} {x : W α} {f : α → W β} {Q : α → Prop} (hx : Post Q x) (hf : ∀ a, Q a → NP (f a)) : NP (x >>= f) :=
  (hx.bind (fun a ha => .of_np (hf a ha))).1

end Post

theorem next?_node (r b e : Nat) (up next : T) : next? (.node r b e up next) = .ok next := rfl
theorem up?_node (r b e : Nat) (up next : T) : up? (.node r b e up next) = .ok up := rfl
theorem rule?_node (r b e : Nat) (up next : T) : rule? (.node r b e up next) = .ok r := rfl

theorem checkrule_self (r b e : Nat) (up next : T) : checkrule (.node r b e up next) r = .ok up := by
  simp [checkrule, rule?, up?]

section Generic
variable (ids : Ids) (buf : Array Nat)

theorem textOf_ok (b e : Nat) (h1 : 1 ≤ b) (h2 : b < e) (h3 : e ≤ buf.size) : ∃ s, textOf buf b e = .ok s := by
  fun_cases textOf buf b e
  case case1 h => exact absurd h (by omega)
  case case2 => exact ⟨_, rfl⟩

theorem pegText_ok {n : Nat} (hn : n ≤ buf.size) {t : T} (h : Safe ids.rPegText n t) : ∃ s, pegText ids buf t = .ok s := by
  -- cases of `pegText`: nil; the children have text; they have none and the node is no PegText (on to the sibling);
  -- they have none and it is one (its own text); the children fail
  fun_induction pegText ids buf t
  case case1 => exact ⟨[], rfl⟩
  case case2 s _ _ _ => exact ⟨s, rfl⟩
  case case3 ihn => exact ihn h.next
  case case4 b e _ _ _ _ _ hr _ =>
    cases h with
    | node h1 h2 h3 _ _ => exact textOf_ok buf b e (h3 (Decidable.not_not.mp hr)) h1 (Nat.le_trans h2 hn)
  case case5 hx ihu =>
    obtain ⟨s, hs⟩ := ihu h.up
    exact absurd hs (hx s)

end Generic

abbrev G := Generated.C03.grammar
abbrev NUL := Generated.C03.nul
abbrev ids := Generated.C03.ids
open Generated.C03

/-- `Kids` and `Good` name the capture node by the grammar, `Safe` and the walker by the id table -/
theorem G_pegText : G.pegText = ids.rPegText := rfl

variable {buf : Array Nat} {fuel r b e : Nat} {u nx : T}

def ruleBody (r : Nat) : Expr := Generated.C03.rules.getD r .eps

theorem body_eq {r : Nat} {body : Expr} (h : G.rules[r]? = some body) : body = ruleBody r := by
  have : Generated.C03.rules[r]? = some body := by
    simpa [G, Generated.C03.grammar] using h
  simp [ruleBody, List.getD_eq_getElem?_getD, this]

theorem kids_call {r lo hi : Nat} {t : T} (h : Kids G NUL (.call r) lo hi t) (hnul : NUL.getD r true = false := by decide) :
    ∃ up, t = .node r lo hi up .nil ∧ lo < hi ∧ Kids G NUL (ruleBody r) lo hi up := by
  rcases h.call_inv with ⟨_, _, h2⟩ | ⟨body, up, hb, rfl, hlt, hk⟩
  · rw [hnul] at h2; cases h2
  · exact ⟨up, rfl, hlt, body_eq hb ▸ hk⟩

theorem kids_call_opt {r lo hi : Nat} {t : T} (h : Kids G NUL (.call r) lo hi t) :
    (t = .nil ∧ lo = hi) ∨ ∃ up, t = .node r lo hi up .nil ∧ lo < hi ∧ Kids G NUL (ruleBody r) lo hi up := by
  rcases h.call_inv with ⟨h1, h2, _⟩ | ⟨body, up, hb, rfl, hlt, hk⟩
  · exact .inl ⟨h1, h2⟩
  · exact .inr ⟨up, rfl, hlt, body_eq hb ▸ hk⟩

theorem kids_opt_call {r lo hi : Nat} {t : T} (h : Kids G NUL (.opt (.call r)) lo hi t) :
    t = .nil ∨ ∃ up, t = .node r lo hi up .nil := by
  cases h with
  | optNil => exact .inl rfl
  | optSome h => exact (kids_call_opt h).imp (·.1) (fun ⟨up, ht, _⟩ => ⟨up, ht⟩)

theorem kids_seq {a c : Expr} {lo hi : Nat} {t : T} (h : Kids G NUL (.seq a c) lo hi t) :
    ∃ mid t1 t2, t = t1.append t2 ∧ Kids G NUL a lo mid t1 ∧ Kids G NUL c mid hi t2 := by
  cases h with | seq h1 h2 => exact ⟨_, _, _, rfl, h1, h2⟩

theorem kids_seq_call {r : Nat} {rest : Expr} {lo hi : Nat} {t : T} (h : Kids G NUL (.seq (.call r) rest) lo hi t)
    (hnul : NUL.getD r true = false := by decide) :
    ∃ mid up t', t = .node r lo mid up t' ∧ Kids G NUL rest mid hi t' := by
  cases h with
  | seq h1 h2 =>
    obtain ⟨up, rfl, -, -⟩ := kids_call h1 hnul
    exact ⟨_, up, _, rfl, h2⟩

inductive All (P : Nat → Nat → Nat → T → Prop) : T → Prop
  | nil : All P .nil
  | node {r b e up next} : P r b e up → All P next → All P (.node r b e up next)

theorem All.append {P : Nat → Nat → Nat → T → Prop} {a b : T} (ha : All P a) (hb : All P b) : All P (a.append b) := by
  induction ha with
  | nil => exact hb
  | node h _ ihn => exact .node h ihn

/-- a node conforms to its own rule (a capture has none) -/
def Good : Nat → Nat → Nat → T → Prop :=
  fun r b e up => b < e ∧ (r ≠ G.pegText → Kids G NUL (ruleBody r) b e up)

def Alts : Expr → Bool
  | .call r => !NUL.getD r true
  | .alt a b => Alts a && Alts b
  | _ => false

theorem kids_alts {ex : Expr} {lo hi : Nat} {t : T} (h : Kids G NUL ex lo hi t) (ha : Alts ex = true := by decide) :
    ∃ r up, t = .node r lo hi up .nil ∧ NUL.getD r true = false := by
  induction h with
  | callNode _ _ _ _ => exact ⟨_, _, rfl, by simpa only [Alts, Bool.not_eq_true'] using ha⟩
  | callEmpty hn => rw [Alts, hn] at ha; cases ha
  | altL _ ih => exact ih (by simp only [Alts, Bool.and_eq_true] at ha; exact ha.1)
  | altR _ ih => exact ih (by simp only [Alts, Bool.and_eq_true] at ha; exact ha.2)
  | _ => cases ha

inductive Conf : T → Prop
  | nil : Conf .nil
  | node {r b e up next} : Good r b e up → Conf up → Conf next → Conf (.node r b e up next)

theorem Conf.append {a b : T} (ha : Conf a) (hb : Conf b) : Conf (a.append b) := by
  induction ha with
  | nil => exact hb
  | node h hu _ _ ihn => exact .node h hu ihn

theorem Conf.of_append_right {a b : T} (h : Conf (a.append b)) : Conf b := by
  induction a with
  | nil => exact h
  | node r b0 e0 up next _ ihn =>
    cases h with | node _ _ hn => exact ihn hn

theorem conf_of_kids {ex : Expr} {lo hi : Nat} {t : T} (h : Kids G NUL ex lo hi t) : Conf t := by
  induction h with
  | callNode hb hk hlt ih => exact .node ⟨hlt, fun _ => body_eq hb ▸ hk⟩ ih .nil
  | seq _ _ ih1 ih2 | starCons _ _ ih1 ih2 | plus _ _ ih1 ih2 => exact ih1.append ih2
  | altL _ ih | altR _ ih | optSome _ ih => exact ih
  | capNode _ hlt ih => exact .node ⟨hlt, fun h => absurd rfl h⟩ ih .nil
  | _ => exact .nil

theorem treeSize_append (a b : T) : treeSize (a.append b) = treeSize a + treeSize b := by
  induction a with
  | nil => simp [T.append, treeSize]
  | node r b0 e0 up next _ ih => simp only [T.append, treeSize, ih]; omega

/-- A walker that is given `fuel` is safe on the nodes of a tree with `Inv buf (fuel + 1)`: `constListLoop (fuel + 1)` calls
`parseConstValue fuel` on the node it stands on, so a bound on the node itself cannot go down with the fuel, a bound one
above it can. -/
structure Inv (buf : Array Nat) (fuel : Nat) (t : T) : Prop where
  safe : Safe ids.rPegText buf.size t
  conf : Conf t
  size : treeSize t < fuel

theorem Inv.fuel_pos {t : T} (h : Inv buf fuel t) : 0 < fuel := Nat.zero_lt_of_lt h.size

theorem Inv.up (h : Inv buf fuel (.node r b e u nx)) : Inv buf fuel u := by
  refine ⟨h.safe.up, ?_, ?_⟩
  · cases h.conf with | node _ hu _ => exact hu
  · have := h.size
    simp only [treeSize] at this
    omega

theorem Inv.next (h : Inv buf fuel (.node r b e u nx)) : Inv buf fuel nx := by
  refine ⟨h.safe.next, ?_, ?_⟩
  · cases h.conf with | node _ _ hn => exact hn
  · have := h.size
    simp only [treeSize] at this
    omega

theorem Inv.down (h : Inv buf (fuel + 1) (.node r b e u nx)) : Inv buf fuel u := by
  refine ⟨h.safe.up, h.up.conf, ?_⟩
  have := h.size
  simp only [treeSize] at this
  omega

theorem Inv.next_down (h : Inv buf (fuel + 1) (.node r b e u nx)) : Inv buf fuel nx := by
  refine ⟨h.safe.next, h.next.conf, ?_⟩
  have := h.size
  simp only [treeSize] at this
  omega

theorem Inv.good (h : Inv buf fuel (.node r b e u nx)) : Good r b e u := by
  cases h.conf with | node hg _ _ => exact hg

theorem Inv.kids (h : Inv buf fuel (.node r b e u nx)) (hr : r ≠ G.pegText := by decide) :
    Kids G NUL (ruleBody r) b e u := h.good.2 hr

theorem Inv.right {a t : T} (h : Inv buf fuel (a.append t)) : Inv buf fuel t := by
  refine ⟨Safe.of_append_right h.safe, h.conf.of_append_right, ?_⟩
  have := h.size
  rw [treeSize_append] at this
  omega

/-- `checkrule` is an error, not a panic, on a node of another rule: this is why a walker lemma can be stated for a node of
any rule -/
theorem checkrule_np {α} {X : Nat} {k : T → W α} (hk : r = X → NP (k u)) :
    NP (checkrule (.node r b e u nx) X >>= k) := by
  by_cases hr : r = X
  · subst hr
    rw [checkrule_self]
    exact hk rfl
  · simp only [checkrule, rule?_node, bind_ok, ne_eq, hr, not_false_eq_true, if_true, bind_err]
    exact NP_err

/-- Whatever chain `ex` leaves may be put in front of a chain with `C`: how the invariant `C` of a loop on the sibling
chain (`MapChain`, `EnumChain`), or what is to be shown of the loop itself (`FieldLoopNP`), is read off a rule body, along
the structure of the body. -/
structure Pre (C : T → Prop) (ex : Expr) : Prop where
  app : ∀ {lo hi : Nat} {t tail : T}, Kids G NUL ex lo hi t → C tail → C (t.append tail)

theorem Pre.seq {C : T → Prop} {a c : Expr} (ha : Pre C a) (hc : Pre C c) : Pre C (.seq a c) := by
  refine ⟨fun h ht => ?_⟩
  cases h with
  | seq h1 h2 =>
    rw [append_assoc]
    exact ha.app h1 (hc.app h2 ht)

theorem Pre.opt {C : T → Prop} {a : Expr} (ha : Pre C a) : Pre C (.opt a) := by
  refine ⟨fun h ht => ?_⟩
  cases h with
  | optNil => exact ht
  | optSome h => exact ha.app h ht

theorem Pre.star {C : T → Prop} {a : Expr} (ha : Pre C a) : Pre C (.star a) := by
  refine ⟨fun h ht => ?_⟩
  generalize he : Expr.star a = ex at h
  induction h with
  | starNil => exact ht
  | starCons h1 _ _ ih2 =>
    injection he with he'
    subst he'
    rw [append_assoc]
    exact ha.app h1 (ih2 rfl)
  | _ => cases he

theorem pegText_np {t : T} (h : Inv buf fuel t) : NP (pegText ids buf t) := by
  obtain ⟨s, hs⟩ := pegText_ok ids buf (Nat.le_refl _) h.safe
  rw [hs]
  exact NP_ok s

theorem parseAnnotation_np (h : Inv buf fuel (.node r b e u nx)) : NP (parseAnnotation ids buf (.node r b e u nx)) := by
  refine checkrule_np (fun hr => ?_)
  subst hr
  obtain ⟨_, u1, _, rfl, hk1⟩ := kids_seq_call h.kids
  obtain ⟨_, u2, _, rfl, -⟩ := kids_seq_call hk1
  simp only [next?_node, bind_ok]
  exact NP_bind (pegText_np h.up) (fun _ => NP_bind_pure (pegText_np h.up.next.next))

theorem annLoop_np {t : T} (acc : Anns) (h : Inv buf fuel t) : NP (annLoop ids buf acc t) := by
  -- cases of `annLoop`: nil; an Annotation node, `parseAnnotation` on it ok / err / panic / crash; another node
  fun_induction annLoop ids buf acc t
  case case1 => exact NP_ok _
  case case2 ih => exact ih h.next
  case case3 => exact NP_err
  case case4 hp => exact absurd hp (parseAnnotation_np h).1
  case case5 hp => exact absurd hp (parseAnnotation_np h).2
  case case6 ih => exact ih h.next

theorem parseAnnotations_np (h : Inv buf fuel (.node r b e u nx)) : NP (parseAnnotations ids buf (.node r b e u nx)) := by
  refine checkrule_np (fun hr => ?_)
  subst hr
  obtain ⟨_, u1, t, rfl, -⟩ := kids_seq_call h.kids
  simp only [next?_node, bind_ok]
  exact annLoop_np [] h.up.next

theorem parseAnnotations_np' (buf : Array Nat) (n : Nat) (hn : n ≤ buf.size) (r b e : Nat) (up next : T)
    (hs : Safe ids.rPegText n up) (hr : r = ids.rAnnotations) (hk : Kids G NUL (ruleBody ids.rAnnotations) b e up) :
    NP (parseAnnotations ids buf (.node r b e up next)) := by
  subst hr
  obtain ⟨_, u1, t, rfl, -⟩ := kids_seq_call hk
  have hc : Conf t := by
    cases conf_of_kids hk with | node _ _ hn => exact hn
  simp only [parseAnnotations, checkrule_self, next?_node, bind_ok]
  exact annLoop_np [] (fuel := treeSize t + 1) ⟨(hs.mono hn).next, hc, Nat.lt_succ_self _⟩

theorem parseAnnotations_head_np {t : T} (h : Inv buf fuel t) (ht : isRule t ids.rAnnotations = true) :
    NP (parseAnnotations ids buf t) := by
  cases t with
  | nil => cases ht
  | node => exact parseAnnotations_np h

theorem commentLoop_np {t : T} (h : Inv buf fuel t) : NP (commentLoop ids buf t) := by
  -- cases of `commentLoop`: nil; a Comment without child; its child outside the buffer; the rest of the loop is ok;
  -- it is not; another node
  fun_induction commentLoop ids buf t
  case case1 => exact NP_ok _
  case case2 =>
    -- the comment node has one child (one of the three comment kinds)
    obtain ⟨_, _, hu, -⟩ := kids_alts h.kids
    cases hu
  case case3 hb =>
    have := h.up.safe.span
    exact absurd hb (by omega)
  case case4 => exact NP_ok _
  case case5 ih => exact ih h.next
  case case6 ih => exact ih h.next

/-- `X` is ReservedComments or ReservedEndLineComments: the two Go functions differ in the rule id only and are one
function of the model -/
theorem parseReservedComments_np {X : Nat} (h : Inv buf fuel (.node r b e u nx))
    (hX : X = ids.rReservedComments ∨ X = ids.rReservedEndLineComments) :
    NP (parseReservedComments ids buf (.node r b e u nx) X) := by
  refine checkrule_np (fun hr => ?_)
  subst hr
  -- the body of either rule is one call (Skip / SkipLine); the node is not empty, so the call has left its node
  have hu : ∃ inner, Kids G NUL (.call inner) b e u := by
    rcases hX with rfl | rfl
    · exact ⟨_, h.kids⟩
    · exact ⟨_, h.kids⟩
  obtain ⟨inner, hk⟩ := hu
  rcases kids_call_opt hk with ⟨-, h0⟩ | ⟨u', rfl, -, -⟩
  · exact absurd h0 (Nat.ne_of_lt h.good.1)
  simp only [up?_node, bind_ok]
  exact NP_bind_pure (commentLoop_np h.up.up)

/-- `cppTypeText` checks no rule: its callers have seen that the node is a CppType -/
theorem cppTypeText_np {t : T} (h : Inv buf fuel t) (ht : isRule t ids.rCppType = true) : NP (cppTypeText ids buf t) := by
  cases t with
  | nil => cases ht
  | node r b e u nx =>
    cases of_decide_eq_true ht
    obtain ⟨_, u1, t, rfl, -⟩ := kids_seq_call h.kids
    exact pegText_np h.up.next

/-- `if node.pegRule == ruleX { c = …(node); node = node.next }` where an optional node of rule `X` stands in front of
`rest`, which starts with a node of another rule: either way the walk goes on at `rest`.  In continuation form (`k`) so
that it applies verbatim to the `do` block of each caller. -/
theorem optNode_np {α β} {X lo hi : Nat} {tX rest : T} {fc : W β} {d : β} {k : β × T → W α}
    (hX : Kids G NUL (.opt (.call X)) lo hi tX) (hrest : ∃ r', rule? rest = .ok r' ∧ r' ≠ X)
    (hf : ∀ u, tX = .node X lo hi u .nil → NP fc) (hk : ∀ c, NP (k (c, rest))) :
    NP (do
      let r1 ← rule? (tX.append rest)
      let x ← (if r1 = X then do
          let c ← fc
          let n ← next? (tX.append rest)
          pure (c, n)
        else pure (d, tX.append rest) : W (β × T))
      k x) := by
  obtain ⟨r', hr', hne⟩ := hrest
  rcases kids_opt_call hX with rfl | ⟨uX, rfl⟩
  · simp only [T.append, hr', bind_ok, if_neg hne, pure_eq]
    exact hk _
  · simp only [T.append, rule?_node, next?_node, bind_ok, if_true, W_bind_assoc, pure_eq]
    exact NP_bind (hf _ rfl) hk

/-- `if node.pegRule == ruleX { node = node.next }` in front of a node of another rule -/
theorem skipOpt_np {α} {X lo hi : Nat} {tX : T} {k : T → W α} (h : Kids G NUL (.call X) lo hi tX) (hr : r ≠ X)
    (hk : NP (k (.node r b e u nx))) :
    NP (do
      let r1 ← rule? (tX.append (.node r b e u nx))
      let node ← (if r1 = X then next? (tX.append (.node r b e u nx)) else pure (tX.append (.node r b e u nx)) : W T)
      k node) := by
  rcases kids_call_opt h with ⟨rfl, -⟩ | ⟨u1, rfl, -, -⟩
  · simp only [T.append, rule?_node, bind_ok, if_neg hr, pure_eq]
    exact hk
  · simp only [T.append, rule?_node, next?_node, bind_ok, if_true]
    exact hk

theorem fieldType_np : ∀ fuel : Nat,
    (∀ {r b e u nx}, Inv buf (fuel + 1) (.node r b e u nx) → NP (parseFieldType ids buf fuel (.node r b e u nx))) ∧
    (∀ {r b e u nx}, Inv buf (fuel + 1) (.node r b e u nx) → NP (parseContainerType ids buf fuel (.node r b e u nx))) := by
  intro fuel
  induction fuel with
  | zero => exact ⟨fun h => absurd h.down.fuel_pos (Nat.lt_irrefl _), fun h => absurd h.down.fuel_pos (Nat.lt_irrefl _)⟩
  | succ fuel ih =>
    obtain ⟨ihF, ihC⟩ := ih
    constructor
    · intro r b e u nx h
      refine checkrule_np (fun hr => ?_)
      subst hr
      have h' := h.down
      obtain ⟨mid, t1, t2, rfl, h1, -⟩ := kids_seq h.kids
      obtain ⟨r1, u1, rfl, -⟩ := kids_alts h1
      simp only [T.append] at h' ⊢
      simp only [rule?_node, next?_node, bind_ok]
      have hann : ∀ typ : Ty, NP (if isRule t2 ids.rAnnotations = true then
          (do let a ← parseAnnotations ids buf t2; pure (typ.setAnns a)) else pure typ : W Ty) :=
        fun typ => ite_ind (fun ha => NP_bind_pure (parseAnnotations_head_np h'.next ha)) (fun _ => NP_ok _)
      exact ite_ind (fun _ => NP_bind (ihC h') hann)
        (fun _ => ite_ind (fun _ => NP_bind (pegText_np h') (fun _ => hann _)) (fun _ => NP_err))
    · intro r b e u nx h
      refine checkrule_np (fun hr => ?_)
      subst hr
      have h' := h.down
      obtain ⟨r1, um, rfl, -⟩ := kids_alts h.kids
      simp only [rule?_node, up?_node, bind_ok]
      refine ite_ind (fun hr => ?_) (fun _ => ?_)
      · subst hr
        obtain ⟨_, u1, _, rfl, hk1⟩ := kids_seq_call h'.kids
        obtain ⟨_, tc, _, rfl, hcpp, hk2⟩ := kids_seq hk1
        obtain ⟨_, u3, _, rfl, hk3⟩ := kids_seq_call hk2
        obtain ⟨_, u4, _, rfl, hk5⟩ := kids_seq_call hk3
        obtain ⟨_, u5, _, rfl, hk6⟩ := kids_seq_call hk5
        obtain ⟨_, u6, _, rfl, -⟩ := kids_seq_call hk6
        simp only [next?_node, bind_ok]
        refine optNode_np hcpp ⟨_, rfl, by decide⟩ (fun _ ht => ?_) (fun c => ?_)
        · subst ht
          exact cppTypeText_np h'.up.next rfl
        have h4 := h'.up.next.right.next
        simp only [next?_node, bind_ok]
        exact NP_bind (ihF h4) (fun _ => NP_bind_pure (ihF h4.next.next))
      refine ite_ind (fun hr => ?_) (fun _ => ?_)
      · subst hr
        obtain ⟨_, u1, _, rfl, hk1⟩ := kids_seq_call h'.kids
        obtain ⟨_, tc, _, rfl, hcpp, hk2⟩ := kids_seq hk1
        obtain ⟨_, u3, _, rfl, hk3⟩ := kids_seq_call hk2
        obtain ⟨_, u4, _, rfl, -⟩ := kids_seq_call hk3
        simp only [next?_node, bind_ok]
        refine optNode_np hcpp ⟨_, rfl, by decide⟩ (fun _ ht => ?_) (fun c => ?_)
        · subst ht
          exact cppTypeText_np h'.up.next rfl
        simp only [next?_node, bind_ok]
        exact NP_bind_pure (ihF h'.up.next.right.next)
      refine ite_ind (fun hr => ?_) (fun _ => NP_err)
      subst hr
      obtain ⟨_, u1, _, rfl, hk1⟩ := kids_seq_call h'.kids
      obtain ⟨_, u3, _, rfl, hk2⟩ := kids_seq_call hk1
      obtain ⟨_, u4, _, rfl, hk3⟩ := kids_seq_call hk2
      obtain ⟨_, u5, tc, rfl, -⟩ := kids_seq_call hk3
      have h4 := h'.up.next.next
      simp only [next?_node, bind_ok]
      exact NP_bind (ihF h4) (fun _ => NP_bind_pure (ite_ind (cppTypeText_np h4.next.next) (fun _ => NP_ok _)))

/-- the sibling chain after LWING in a ConstMap as the loop steps through it: from a ConstValue it goes on to the
second node after it, any other node it skips -/
inductive MapChain : T → Prop
  | nil : MapChain .nil
  | skip {r b e up next} : r ≠ ids.rConstValue → MapChain next → MapChain (.node r b e up next)
  | pair {b e up rc bc ec uc rv bv ev uv rest} : MapChain rest →
      MapChain (.node ids.rConstValue b e up (.node rc bc ec uc (.node rv bv ev uv rest)))

theorem MapChain.entry : Pre MapChain
    (.seq (.call ids.rConstValue) (.seq (.call R.COLON) (.seq (.call ids.rConstValue) (.opt (.call ids.rListSeparator))))) := by
  refine ⟨fun h ht => ?_⟩
  obtain ⟨_, u1, _, rfl, h2⟩ := kids_seq_call h
  obtain ⟨_, u2, _, rfl, h3⟩ := kids_seq_call h2
  obtain ⟨_, u3, t4, rfl, h4⟩ := kids_seq_call h3
  rcases kids_opt_call h4 with rfl | ⟨u4, rfl⟩
  · exact .pair ht
  · exact .pair (.skip (by decide) ht)

theorem Safe.chain_next {pt n r b e : Nat} {u nx : T} (h : Safe pt n (.node r b e u nx)) : Safe pt n nx := h.next

theorem rawText_np {t : T} (hr : isNil t = false) (hs : Safe ids.rPegText buf.size t) : NP (rawText buf t) := by
  fun_cases rawText buf t
  case case1 => cases hr
  case case2 hb =>
    have := hs.span
    exact absurd hb (by omega)
  case case3 => exact NP_ok _

theorem findCap_safe {n : Nat} {t : T} (h : Safe ids.rPegText n t) : Safe ids.rPegText n (findCap ids t) := by
  fun_induction findCap ids t
  case case1 => exact .nil
  case case2 => exact h
  case case3 ih => exact ih h.next

theorem constValue_np : ∀ fuel : Nat,
    (∀ {r b e u nx}, Inv buf (fuel + 1) (.node r b e u nx) → NP (parseConstValue ids buf fuel (.node r b e u nx))) ∧
    (∀ {t}, Inv buf fuel t → NP (constListLoop ids buf fuel t)) ∧
    (∀ {t}, Inv buf fuel t → MapChain t → NP (constMapLoop ids buf fuel t)) := by
  intro fuel
  induction fuel with
  | zero => exact ⟨fun h => absurd h.down.fuel_pos (Nat.lt_irrefl _), fun h => absurd h.fuel_pos (Nat.lt_irrefl _),
      fun h => absurd h.fuel_pos (Nat.lt_irrefl _)⟩
  | succ fuel ih =>
    obtain ⟨ihA, ihB, ihC⟩ := ih
    refine ⟨?_, ?_, ?_⟩
    · intro r b e u nx h
      refine checkrule_np (fun hr => ?_)
      subst hr
      have h' := h.down
      obtain ⟨r1, u1, rfl, -⟩ := kids_alts h.kids
      have htext := pegText_np h'
      simp only [rule?_node, up?_node, bind_ok]
      refine ite_ind (fun _ => NP_bind htext (fun _ => ite_ind (fun _ => NP_ok _) (fun hc => ?_))) (fun _ => ?_)
      · exact NP_bind_pure (rawText_np (by simpa using hc) (findCap_safe h'.safe.up))
      refine ite_ind (fun _ => NP_bind htext (fun _ => ite_ind (fun _ => NP_err) (fun _ => NP_ok _))) (fun _ => ?_)
      refine ite_ind (fun _ => NP_bind_pure htext) (fun _ => ?_)
      refine ite_ind (fun _ => NP_bind_pure htext) (fun _ => ?_)
      refine ite_ind (fun _ => NP_bind_pure (ihB h'.down)) (fun _ => ?_)
      refine ite_ind (fun hr => ?_) (fun _ => NP_err)
      subst hr
      obtain ⟨_, u2, t1, rfl, hk1⟩ := kids_seq_call h'.kids
      obtain ⟨_, t2, _, rfl, h2, h3⟩ := kids_seq hk1
      obtain ⟨u3, rfl, -, -⟩ := kids_call h3
      simp only [next?_node, bind_ok]
      exact NP_bind_pure (ihC h'.down.next (MapChain.entry.star.app h2 (.skip (by decide) .nil)))
    · intro t h
      cases t with
      | nil => exact NP_ok _
      | node r b e up next =>
        simp only [constListLoop]
        exact ite_ind (fun _ => NP_bind (ihA h) (fun _ => NP_bind_pure (ihB h.next_down))) (fun _ => ihB h.next_down)
    · intro t h hm
      cases hm with
      | nil => exact NP_ok _
      | skip hr hrest =>
        simp only [constMapLoop]
        rw [if_pos hr]
        exact ihC h.next_down hrest
      | pair hrest =>
        simp only [constMapLoop, next?_node, bind_ok]
        rw [if_neg (fun h => h rfl)]
        exact NP_bind (ihA h) (fun _ => NP_bind (ihA h.next.next) (fun _ => NP_bind_pure (ihC h.next.next.next_down hrest)))

/-- What is to be shown of parseField's loop, as a property of the chain it runs on, so that a `Pre` term reads it off the
Field body.  The one adjacency the loop relies on, a node behind an EQUAL (it reads the ConstValue there and goes on behind
it), is used where the body shows it (`eqCall`). -/
def FieldLoopNP (buf : Array Nat) (fuel : Nat) (t : T) : Prop :=
  ∀ f : Field, Inv buf (fuel + 1) t → NP (fieldLoop ids buf fuel f t)

namespace FieldLoopNP

theorem call {r : Nat} (hr : r ≠ ids.rEQUAL := by decide) : Pre (FieldLoopNP buf fuel) (.call r) := by
  refine ⟨fun h ht f hi => ?_⟩
  rcases kids_call_opt h with ⟨rfl, _⟩ | ⟨up, rfl, -, -⟩
  · exact ht f hi
  simp only [T.append] at hi ⊢
  have ihn := fun f' => ht f' hi.next
  have htext := pegText_np hi
  rw [fieldLoop.eq_def]
  simp only []
  refine ite_ind (fun _ => ihn _) (fun _ => ?_)
  refine ite_ind (fun _ => (parseReservedComments_np hi (.inl rfl)).elim (fun _ => ihn _) NP_err) (fun _ => ?_)
  refine ite_ind (fun _ => (parseReservedComments_np hi (.inr rfl)).elim (fun _ => ihn _) NP_err) (fun _ => ?_)
  refine ite_ind (fun _ => ?_) (fun _ => ?_)
  · refine htext.elim (fun s => ?_) NP_err
    dsimp only
    cases fieldIdOf s with
    | some v => exact ihn _
    | none => exact NP_err
  refine ite_ind (fun _ => htext.elim (fun _ => ihn _) NP_err) (fun _ => ?_)
  refine ite_ind (fun _ => ((fieldType_np fuel).1 hi).elim (fun _ => ihn _) NP_err) (fun _ => ?_)
  refine ite_ind (fun _ => htext.elim (fun _ => ihn _) NP_err) (fun _ => ?_)
  refine ite_ind (fun h => absurd h hr) (fun _ => ?_)
  exact ite_ind (fun _ => (parseAnnotations_np hi).elim (fun _ => ihn _) NP_err) (fun _ => ihn _)

theorem eqCall {r : Nat} (hnul : NUL.getD r true = false := by decide) :
    Pre (FieldLoopNP buf fuel) (.seq (.call ids.rEQUAL) (.call r)) := by
  refine ⟨fun h ht f hi => ?_⟩
  obtain ⟨_, u1, _, rfl, h2⟩ := kids_seq_call h
  obtain ⟨u2, rfl, -, -⟩ := kids_call h2 hnul
  simp only [T.append] at hi ⊢
  -- the generated id equations decide the tests that come before the EQUAL branch of `fieldLoop`
  simp [fieldLoop]
  exact ((constValue_np fuel).1 hi.next).elim (fun _ => ht _ hi.next.next) NP_err

end FieldLoopNP

open FieldLoopNP in
theorem parseField_np (h : Inv buf (fuel + 1) (.node r b e u nx)) : NP (parseField ids buf fuel (.node r b e u nx)) := by
  refine checkrule_np (fun hr => ?_)
  subst hr
  have hp : Pre (FieldLoopNP buf fuel) (ruleBody ids.rField) :=
    .seq call (.seq call (.seq (.opt call) (.seq (.opt call) (.seq call (.seq call
      (.seq (.opt eqCall) (.seq (.opt call) (.seq (.opt call) (.seq call call)))))))))
  have := hp.app (tail := .nil) h.kids (fun f _ => NP_ok f) emptyField
  rw [append_nil] at this
  exact this h.up

theorem fieldsLoop_np (post : Field → Field) {t : T} (acc : List Field) (h : Inv buf (fuel + 1) t) :
    NP (fieldsLoop ids buf fuel post acc t) := by
  -- cases as for `annLoop`, with `parseField`
  fun_induction fieldsLoop ids buf fuel post acc t
  case case1 => exact NP_ok _
  case case2 ih => exact ih h.next
  case case3 => exact NP_err
  case case4 hp => exact absurd hp (parseField_np h).1
  case case5 hp => exact absurd hp (parseField_np h).2
  case case6 ih => exact ih h.next

theorem parseInclude_np (t : Thrift) (h : Inv buf fuel (.node r b e u nx)) : NP (parseInclude ids buf t (.node r b e u nx)) :=
  checkrule_np (fun _ => NP_bind (pegText_np h.up) (fun _ =>
    ite_ind (fun _ => NP_ok _) (fun _ => ite_ind (fun _ => NP_ok _) (fun _ => NP_ok _))))

theorem parseCppInclude_np (t : Thrift) (h : Inv buf fuel (.node r b e u nx)) :
    NP (parseCppInclude ids buf t (.node r b e u nx)) :=
  checkrule_np (fun _ => NP_bind_pure (pegText_np h.up))

theorem parseNamespace_np (t : Thrift) (h : Inv buf fuel (.node r b e u nx)) :
    NP (parseNamespace ids buf t (.node r b e u nx)) := by
  refine checkrule_np (fun hr => ?_)
  subst hr
  obtain ⟨_, u1, _, rfl, hk1⟩ := kids_seq_call h.kids
  obtain ⟨_, u2, _, rfl, hk2⟩ := kids_seq_call hk1
  obtain ⟨_, u3, t4, rfl, -⟩ := kids_seq_call hk2
  have h2 := h.up.next
  simp only [next?_node, up?_node, bind_ok]
  refine NP_bind (pegText_np h2.up) (fun _ => NP_bind (pegText_np h2.next.up) (fun _ => NP_bind_pure ?_))
  exact ite_ind (parseAnnotations_head_np h2.next.next) (fun _ => NP_ok _)

theorem parseHeader_np (t : Thrift) (h : Inv buf fuel (.node r b e u nx)) : NP (parseHeader ids buf t (.node r b e u nx)) := by
  refine checkrule_np (fun hr => ?_)
  subst hr
  obtain ⟨_, tS, _, rfl, h1, hk1⟩ := kids_seq h.kids
  obtain ⟨_, tH, _, rfl, h2, -⟩ := kids_seq hk1
  obtain ⟨r1, u1, rfl, hnul⟩ := kids_alts h2
  have hH := h.up.right
  simp only [T.append] at hH ⊢
  refine skipOpt_np (X := ids.rSkip) h1 (fun h => absurd (h ▸ hnul) (by decide)) ?_
  simp only [rule?_node, bind_ok]
  exact ite_ind (fun _ => parseInclude_np t hH) (fun _ => ite_ind (fun _ => parseNamespace_np t hH)
    (fun _ => ite_ind (fun _ => parseCppInclude_np t hH) (fun _ => NP_err)))

theorem parseConst_np (cm : Bytes) (h : Inv buf (fuel + 1) (.node r b e u nx)) :
    NP (parseConst ids buf fuel cm (.node r b e u nx)) := by
  refine checkrule_np (fun hr => ?_)
  subst hr
  obtain ⟨_, u1, _, rfl, hk1⟩ := kids_seq_call h.kids
  obtain ⟨_, u2, _, rfl, hk2⟩ := kids_seq_call hk1
  obtain ⟨_, u3, _, rfl, hk3⟩ := kids_seq_call hk2
  obtain ⟨_, u4, _, rfl, hk4⟩ := kids_seq_call hk3
  obtain ⟨_, u5, _, rfl, -⟩ := kids_seq_call hk4
  have h2 := h.up.next
  simp only [next?_node, bind_ok]
  exact NP_bind ((fieldType_np fuel).1 h2) (fun _ => NP_bind (pegText_np h2.next) (fun _ =>
    NP_bind_pure ((constValue_np fuel).1 h2.next.next.next)))

theorem parseTypedef_np (cm : Bytes) (h : Inv buf (fuel + 1) (.node r b e u nx)) :
    NP (parseTypedef ids buf fuel cm (.node r b e u nx)) := by
  refine checkrule_np (fun hr => ?_)
  subst hr
  obtain ⟨_, u1, _, rfl, hk1⟩ := kids_seq_call h.kids
  obtain ⟨_, u2, _, rfl, -⟩ := kids_seq_call hk1
  simp only [next?_node, bind_ok]
  exact NP_bind ((fieldType_np fuel).1 h.up.next) (fun _ => NP_bind_pure (pegText_np h.up.next.next))

/-- `KW Identifier LWING …` as parseStruct / parseUnion walk it; `hk` is the caller's `Inv.kids` for the rule at hand -/
theorem parseStructLike_np (cat rule kw : Nat) (cm : Bytes) {rest : Expr} (hkw : NUL.getD kw true = false)
    (h : Inv buf (fuel + 1) (.node r b e u nx))
    (hk : r = rule → Kids G NUL (.seq (.call kw) (.seq (.call ids.rIdentifier) (.seq (.call R.LWING) rest))) b e u) :
    NP (parseStructLike ids buf fuel cat rule cm (.node r b e u nx)) := by
  refine checkrule_np (fun hr => ?_)
  obtain ⟨_, u1, _, rfl, hk1⟩ := kids_seq_call (hk hr) hkw
  obtain ⟨_, u2, _, rfl, hk2⟩ := kids_seq_call hk1
  obtain ⟨_, u3, _, rfl, -⟩ := kids_seq_call hk2
  simp only [next?_node, bind_ok]
  exact NP_bind (pegText_np h.up.next) (fun _ => NP_bind_pure (fieldsLoop_np id [] h.up.next.next.next))

/-- parseException starts its loop at LWING, which the loop skips -/
theorem parseException_np (cm : Bytes) (h : Inv buf (fuel + 1) (.node r b e u nx)) :
    NP (parseException ids buf fuel cm (.node r b e u nx)) := by
  refine checkrule_np (fun hr => ?_)
  subst hr
  obtain ⟨_, u1, _, rfl, hk1⟩ := kids_seq_call h.kids
  obtain ⟨_, u2, _, rfl, -⟩ := kids_seq_call hk1
  simp only [next?_node, bind_ok]
  exact NP_bind (pegText_np h.up.next) (fun _ => NP_bind_pure (fieldsLoop_np id [] h.up.next.next))

theorem parseThrows_np (h : Inv buf (fuel + 1) (.node r b e u nx)) : NP (parseThrows ids buf fuel (.node r b e u nx)) := by
  refine checkrule_np (fun hr => ?_)
  subst hr
  obtain ⟨_, u1, _, rfl, -⟩ := kids_seq_call h.kids
  simp only [next?_node, bind_ok]
  exact fieldsLoop_np _ [] h.up.next

theorem functionLoop_np {t : T} (f : Function) (h : Inv buf (fuel + 1) t) : NP (functionLoop ids buf fuel f t) := by
  -- cases of `functionLoop`: nil (1); ReservedComments, its parser ok / err / panic / crash (2–5); ONEWAY (6); FunctionType
  -- without child (7), over a FieldType (8–11), over VOID (12), over another node (13); Identifier (14–17); Field (18–21);
  -- Throws (22–25); Annotations (26–29); another node (30)
  fun_induction functionLoop ids buf fuel f t
  case case1 => exact NP_ok _
  case case2 ih | case6 ih | case8 ih | case12 ih | case13 ih | case14 ih | case18 ih | case22 ih | case26 ih | case30 ih =>
    exact ih h.next
  case case3 | case9 | case15 | case19 | case23 | case27 => exact NP_err
  case case4 hp => exact absurd hp (parseReservedComments_np h (.inl rfl)).1
  case case5 hp => exact absurd hp (parseReservedComments_np h (.inl rfl)).2
  case case7 =>
    -- the FunctionType node has one child
    obtain ⟨_, _, hu, -⟩ := kids_alts h.kids
    cases hu
  case case10 hp => exact absurd hp ((fieldType_np fuel).1 h.up).1
  case case11 hp => exact absurd hp ((fieldType_np fuel).1 h.up).2
  case case16 hp => exact absurd hp (pegText_np h).1
  case case17 hp => exact absurd hp (pegText_np h).2
  case case20 hp => exact absurd hp (parseField_np h).1
  case case21 hp => exact absurd hp (parseField_np h).2
  case case24 hp => exact absurd hp (parseThrows_np h).1
  case case25 hp => exact absurd hp (parseThrows_np h).2
  case case28 hp => exact absurd hp (parseAnnotations_np h).1
  case case29 hp => exact absurd hp (parseAnnotations_np h).2

theorem parseFunction_np (h : Inv buf (fuel + 1) (.node r b e u nx)) : NP (parseFunction ids buf fuel (.node r b e u nx)) :=
  checkrule_np (fun _ => functionLoop_np emptyFunction h.up)

theorem functionsLoop_np {t : T} (acc : List Function) (h : Inv buf (fuel + 1) t) : NP (functionsLoop ids buf fuel acc t) := by
  -- cases as for `annLoop`, with `parseFunction`
  fun_induction functionsLoop ids buf fuel acc t
  case case1 => exact NP_ok _
  case case2 ih => exact ih h.next
  case case3 => exact NP_err
  case case4 hp => exact absurd hp (parseFunction_np h).1
  case case5 hp => exact absurd hp (parseFunction_np h).2
  case case6 ih => exact ih h.next

theorem parseService_np (cm : Bytes) (h : Inv buf (fuel + 1) (.node r b e u nx)) :
    NP (parseService ids buf fuel cm (.node r b e u nx)) := by
  refine checkrule_np (fun hr => ?_)
  subst hr
  obtain ⟨_, u1, _, rfl, hk1⟩ := kids_seq_call h.kids
  obtain ⟨_, u2, _, rfl, hk2⟩ := kids_seq_call hk1
  obtain ⟨_, tE, _, rfl, hext, hbody⟩ := kids_seq hk2
  -- from LWING on; the function loop skips the brace
  obtain ⟨_, u4, t5, rfl, -⟩ := kids_seq_call hbody
  have h2 := h.up.next
  cases hext with
  | optNil =>
    simp only [T.append] at h2 ⊢
    simp only [next?_node, rule?_node, bind_ok]
    rw [if_neg (by decide)]
    simp only [pure_eq, bind_ok, next?_node]
    exact NP_bind (pegText_np h2) (fun _ => NP_bind_pure (functionsLoop_np [] h2.next.next))
  | optSome hext =>
    obtain ⟨_, u5, _, rfl, h6⟩ := kids_seq_call hext
    obtain ⟨u6, rfl, -, -⟩ := kids_call h6
    simp only [T.append] at h2 ⊢
    simp only [next?_node, rule?_node, bind_ok]
    rw [if_pos (by decide)]
    simp only [pure_eq, bind_ok, next?_node, W_bind_assoc]
    exact NP_bind (pegText_np h2) (fun _ => NP_bind (pegText_np h2.next) (fun _ =>
      NP_bind_pure (functionsLoop_np [] h2.next.next.next)))

/-- the sibling chain parseEnum's loop walks: it ends with the closing brace and an EQUAL is followed by an IntConstant;
these two the proofs read (`tail`, `peekNext_ok`, `Cur.behind_eq`).  `other` also records that its node is not the
closing brace and conforms to its rule (`eq` records nothing of the EQUAL node): no proof reads either, conformity
comes from the `Inv` that `Cur` carries beside the chain -/
inductive EnumChain : T → Prop
  | last {b e up} : EnumChain (.node R.RWING b e up .nil)
  | eq {b e up bi ei ui rest} : EnumChain (.node ids.rIntConstant bi ei ui rest) →
      EnumChain (.node ids.rEQUAL b e up (.node ids.rIntConstant bi ei ui rest))
  | other {r b e up next} : r ≠ R.RWING → r ≠ ids.rEQUAL → Good r b e up → EnumChain next →
      EnumChain (.node r b e up next)

theorem EnumChain.call {r : Nat} (hr1 : r ≠ R.RWING := by decide) (hr : r ≠ ids.rEQUAL := by decide) :
    Pre EnumChain (.call r) := by
  refine ⟨fun h ht => ?_⟩
  rcases kids_call_opt h with ⟨rfl, _⟩ | ⟨up, rfl, hlt, hk⟩
  · exact ht
  · exact .other hr1 hr ⟨hlt, fun _ => hk⟩ ht

theorem EnumChain.eqInt : Pre EnumChain (.seq (.call ids.rEQUAL) (.call ids.rIntConstant)) := by
  refine ⟨fun h ht => ?_⟩
  obtain ⟨_, u1, _, rfl, h2⟩ := kids_seq_call h
  obtain ⟨u2, rfl, hlt2, hk2⟩ := kids_call h2
  exact .eq (.other (by decide) (by decide) ⟨hlt2, fun _ => hk2⟩ ht)

theorem EnumChain.exists_node {t : T} (h : EnumChain t) : ∃ r b e up next, t = .node r b e up next := by
  cases h <;> exact ⟨_, _, _, _, _, rfl⟩

theorem EnumChain.tail {r b e : Nat} {up next : T} (h : EnumChain (.node r b e up next)) (hr : r ≠ R.RWING) : EnumChain next := by
  cases h with
  | last => exact absurd rfl hr
  | eq h => exact h
  | other _ _ _ h => exact h

theorem peekNext_ok {r b e : Nat} {up next : T} (h : EnumChain (.node r b e up next)) (hr : r ≠ R.RWING) :
    ∃ r2 b2 e2 u2 rest, next = .node r2 b2 e2 u2 rest ∧ peekNext (.node r b e up next) = .ok (r2, next) := by
  obtain ⟨r2, b2, e2, u2, rest, rfl⟩ := (h.tail hr).exists_node
  exact ⟨r2, b2, e2, u2, rest, rfl, by simp [peekNext, next?, rule?]⟩

variable (buf fuel) in
/-- cursor of the enum loop: a node of an enum chain other than the closing brace, with fewer than `L` nodes behind it
(the measure `enumLoop_np` spends its fuel on) -/
inductive Cur (L : Nat) : T → Prop
  | mk {r b e : Nat} {u nx : T} : r ≠ R.RWING → EnumChain (.node r b e u nx) → Inv buf fuel (.node r b e u nx) →
      chainLen nx < L → Cur L (.node r b e u nx)

namespace Cur

theorem inv {L : Nat} {t : T} (h : Cur buf fuel L t) : Inv buf fuel t := by
  cases h with | mk _ _ hi _ => exact hi

theorem behind_eq {L : Nat} {up next : T} (h : Cur buf fuel L (.node ids.rEQUAL b e up next)) : Cur buf fuel L next := by
  cases h with
  | mk _ hch hi hl =>
    cases hch with
    | eq hc =>
      simp only [chainLen] at hl
      exact .mk (by decide) hc hi.next (by omega)
    | other _ hne _ _ => exact absurd rfl hne

theorem peek {α} {L : Nat} {t : T} {Q : α → Prop} {k : Nat × T → W α} (h : Cur buf fuel L t)
    (hk : ∀ r b e u nx, (r ≠ R.RWING → Cur buf fuel L (.node r b e u nx)) → Post Q (k (r, .node r b e u nx))) :
    Post Q (peekNext t >>= k) := by
  cases h with
  | mk hr hch hi hl =>
    obtain ⟨r2, b2, e2, u2, rest, rfl, hp⟩ := peekNext_ok hch hr
    simp only [chainLen] at hl
    rw [hp]
    exact hk _ _ _ _ _ (fun hr2 => .mk hr2 (hch.tail hr) hi.next (by omega))

end Cur

theorem enumValueAt_post {L : Nat} (values : List EnumValue) (vc : Bytes) {t : T} (h : Cur buf fuel L t) :
    Post (fun p => Cur buf fuel L p.2) (enumValueAt ids buf values vc t) := by
  unfold enumValueAt
  refine Post.bind (.of_np (pegText_np h.inv)) (fun name _ => h.peek (fun r1 b1 e1 u1 n1 h1 => ?_))
  refine Post.bind (Q := fun q => Cur buf fuel L q.2) (ite_ind (fun hr => ?_) (fun _ => Post.pure h)) (fun q hq => ?_)
  · subst hr
    have hc := (h1 (by decide)).behind_eq
    simp only [next?_node, bind_ok]
    refine Post.bind (.of_np (pegText_np hc.inv)) (fun s _ => ?_)
    cases enumValueOf s with
    | some v => exact Post.pure hc
    | none => exact Post.err
  refine hq.peek (fun r2 b2 e2 u2 n2 h2 => ?_)
  refine Post.bind (Q := fun q => Cur buf fuel L q.2) (ite_ind (fun hr => ?_) (fun _ => Post.pure hq)) (fun q hq2 => ?_)
  · subst hr
    exact Post.bind (.of_np (parseAnnotations_np (h2 (by decide)).inv)) (fun a _ => Post.pure (h2 (by decide)))
  refine hq2.peek (fun r3 b3 e3 u3 n3 h3 => ?_)
  have hc3 : Cur buf fuel L (if r3 = ids.rListSeparator then .node r3 b3 e3 u3 n3 else q.2) :=
    ite_ind (fun hr => h3 (hr ▸ by decide)) (fun _ => hq2)
  refine hc3.peek (fun r4 b4 e4 u4 n4 h4 => ite_ind (fun hr => ?_) (fun _ => Post.pure hc3))
  obtain ⟨hr, -⟩ := hr
  subst hr
  exact Post.bind (.of_np (parseReservedComments_np (h4 (by decide)).inv (.inr rfl))) (fun c _ => Post.pure (h4 (by decide)))

/-- The loop, entered behind a node of the chain (the opening brace, or where the previous round stopped); `k` is the
loop's own fuel, one unit per sibling. -/
theorem enumLoop_np : ∀ (k : Nat) {r b e : Nat} {u t : T} (values : List EnumValue),
    EnumChain (.node r b e u t) → Inv buf fuel (.node r b e u t) → chainLen t < k → NP (enumLoop ids buf k values t) := by
  intro k
  induction k with
  | zero => exact fun _ _ _ h => absurd h (Nat.not_lt_zero _)
  | succ k ih =>
    intro r0 b0 e0 u0 t values h0 hs hlen
    cases t with
    | nil => exact NP_ok values
    | node r b e up next =>
      have hch : EnumChain (.node r b e up next) := by
        cases h0 with
        | eq h => exact h
        | other _ _ _ h => exact h
      have hs := hs.next
      simp only [chainLen] at hlen
      rw [enumLoop.eq_def]
      simp only [rule?_node, bind_ok]
      -- an optional ReservedComments node first: the cursor moves on by at most one node
      refine Post.bind_np (Q := fun q => EnumChain q.2 ∧ Inv buf fuel q.2 ∧ chainLen q.2 ≤ k)
        (ite_ind (fun hr => ?_) (fun _ => Post.pure ⟨hch, hs, Nat.le_of_lt_succ hlen⟩)) (fun q hq => ?_)
      · subst hr
        exact Post.bind (.of_np (parseReservedComments_np hs (.inl rfl))) (fun c _ =>
          Post.pure ⟨hch.tail (by decide), hs.next, Nat.le_of_lt_succ (Nat.lt_of_succ_lt hlen)⟩)
      obtain ⟨vc, c⟩ := q
      obtain ⟨hc1, hc2, hc3⟩ := hq
      obtain ⟨r', b', e', up', next', rfl⟩ := hc1.exists_node
      simp only [rule?_node, next?_node, bind_ok]
      -- `hc3` serves where `chainLen next' < k` is asked: `chainLen` of the node is `chainLen next' + 1`
      refine ite_ind (fun hr => ?_) (fun _ => ih _ hc1 hc2 hc3)
      refine (enumValueAt_post values vc (.mk (hr ▸ by decide) hc1 hc2 hc3)).bind_np (fun p hp => ?_)
      obtain ⟨v, c'⟩ := p
      cases hp with
      | mk _ hch' hi' hl' =>
        simp only [next?_node, bind_ok]
        exact ih _ hch' hi' hl'

open EnumChain in
theorem parseEnum_np (cm : Bytes) (h : Inv buf fuel (.node r b e u nx)) : NP (parseEnum ids buf cm (.node r b e u nx)) := by
  refine checkrule_np (fun hr => ?_)
  subst hr
  obtain ⟨_, u1, _, rfl, hk1⟩ := kids_seq_call h.kids
  obtain ⟨_, u2, _, rfl, hk2⟩ := kids_seq_call hk1
  obtain ⟨_, u3, _, rfl, hk3⟩ := kids_seq_call hk2
  obtain ⟨_, t4, _, rfl, h4, h5⟩ := kids_seq hk3
  obtain ⟨u5, rfl, -, -⟩ := kids_call h5
  simp only [next?_node, bind_ok]
  refine NP_bind (pegText_np h.up.next) (fun _ => NP_bind_pure
    (enumLoop_np _ [] (.other (by decide) (by decide) h.up.next.next.good (Pre.app ?_ h4 .last)) h.up.next.next (by omega)))
  exact .star (.seq call (.seq call (.seq (.opt eqInt) (.seq (.opt call) (.seq (.opt call) (.seq call call))))))

theorem parseDefinition_np (t : Thrift) (h : Inv buf (fuel + 1) (.node r b e u nx)) :
    NP (parseDefinition ids buf fuel t (.node r b e u nx)) := by
  refine checkrule_np (fun hr => ?_)
  subst hr
  obtain ⟨_, tR, _, rfl, h1, hk1⟩ := kids_seq h.kids
  obtain ⟨b1, tK, _, rfl, h2, hk2⟩ := kids_seq hk1
  obtain ⟨e1, tD, tT, rfl, h3, -⟩ := kids_seq hk2
  obtain ⟨r1, u1, rfl, hnul⟩ := kids_alts h3
  simp only [T.append] at h ⊢
  -- ReservedComments and Skip may match the empty string, the rule of the definition may not
  have hr1 : r1 ≠ ids.rReservedComments := fun h => absurd (h ▸ hnul) (by decide)
  have hr2 : r1 ≠ ids.rSkip := fun h => absurd (h ▸ hnul) (by decide)
  have hK : ∃ r', rule? (tK.append (.node r1 b1 e1 u1 tT)) = .ok r' ∧ r' ≠ ids.rReservedComments := by
    rcases kids_call_opt h2 with ⟨rfl, -⟩ | ⟨u2, rfl, -, -⟩
    · exact ⟨_, rfl, hr1⟩
    · exact ⟨_, rfl, by decide⟩
  refine optNode_np (.optSome h1) hK (fun _ ht => ?_) (fun cm => ?_)
  · subst ht
    exact parseReservedComments_np h.up (.inl rfl)
  refine skipOpt_np (X := ids.rSkip) h2 hr2 ?_
  have hD := h.up.right.right
  simp only [rule?_node, next?_node, bind_ok]
  refine NP_bind ?_ (fun d => ite_ind (fun ha => NP_bind_pure (parseAnnotations_head_np hD.next ha)) (fun _ => NP_ok _))
  refine ite_ind (fun _ => NP_bind_pure (parseConst_np cm hD)) (fun _ => ?_)
  refine ite_ind (fun _ => NP_bind_pure (parseTypedef_np cm hD)) (fun _ => ?_)
  refine ite_ind (fun _ => NP_bind_pure (parseEnum_np cm hD)) (fun _ => ?_)
  refine ite_ind (fun _ => NP_bind_pure (parseStructLike_np 1 _ R.UNION cm (by decide) hD
    (fun hr => by subst hr; exact hD.kids))) (fun _ => ?_)
  refine ite_ind (fun _ => NP_bind_pure (parseStructLike_np 0 _ R.STRUCT cm (by decide) hD
    (fun hr => by subst hr; exact hD.kids))) (fun _ => ?_)
  refine ite_ind (fun _ => NP_bind_pure (parseException_np cm hD)) (fun _ => ?_)
  exact ite_ind (fun _ => NP_bind_pure (parseService_np cm hD)) (fun _ => NP_err)

theorem docLoop_np {t : T} (acc : Thrift) (h : Inv buf (fuel + 1) t) : NP (docLoop ids buf fuel acc t) := by
  -- cases of `docLoop`: nil (1); Skip / SkipLine (2); a Header, `parseHeader` ok / err / panic / crash (3–6); a Definition,
  -- `parseDefinition` likewise (7–10); another node (11)
  fun_induction docLoop ids buf fuel acc t
  case case1 => exact NP_ok _
  case case2 ih | case3 ih | case7 ih => exact ih h.next
  case case4 | case8 | case11 => exact NP_err
  case case5 hp => exact absurd hp (parseHeader_np _ h).1
  case case6 hp => exact absurd hp (parseHeader_np _ h).2
  case case9 hp => exact absurd hp (parseDefinition_np _ h).1
  case case10 hp => exact absurd hp (parseDefinition_np _ h).2

theorem walk_np {lo hi : Nat} {root : T} (hk : Kids G NUL (.call ids.rDocument) lo hi root)
    (hs : Safe ids.rPegText buf.size root) : NP (walk ids buf root) := by
  have h : Inv buf (treeSize root + 1 + 1) root := ⟨hs, conf_of_kids hk, by omega⟩
  cases root with
  | nil => exact NP_ok _
  | node r b e up next => exact ite_ind (fun _ => NP_err) (fun _ => docLoop_np {} h.up)

def dblCapBody : Expr :=
  match ruleBody ids.rDoubleConstant with
  | .seq _ (.seq (.cap x) _) => x
  | _ => .eps

theorem dbl_body : ruleBody ids.rDoubleConstant = .seq (.call R.Skip) (.seq (.cap dblCapBody) (.star (.call R.Indent))) := by decide

theorem dbl_cap_nonnull : nullable NUL dblCapBody = false := by decide

/-- C03 `double_text` (docstring at `Props.C03.double_text`). -/
theorem double_text (buf : Array Nat) (n : Nat) (hn : n ≤ buf.size) (fuel b0 e0 b e : Nat) (u next : T)
    (hs : Safe ids.rPegText n u) (hk : Kids G NUL (ruleBody ids.rDoubleConstant) b e u) :
    ∃ b1 e1, b ≤ b1 ∧ b1 < e1 ∧ e1 ≤ e ∧
      parseConstValue ids buf (fuel + 1) (.node ids.rConstValue b0 e0 (.node ids.rDoubleConstant b e u .nil) next) =
        .ok (.dbl (trimRightBlank (Utf8.encode (slice buf b1 e1)))) := by
  rw [dbl_body] at hk
  obtain ⟨mid, t1, _, rfl, h1, hk⟩ := kids_seq hk
  obtain ⟨mid2, t2, t3, rfl, h2, h3⟩ := kids_seq hk
  have hle1 := h1.le
  have hle3 := h3.le
  cases h2 with
  | capEmpty hnul => rw [dbl_cap_nonnull] at hnul; cases hnul
  | @capNode _ _ _ uc hkc hlt =>
    refine ⟨mid, mid2, hle1, hlt, hle3, ?_⟩
    simp only [T.append] at hs ⊢
    have hsc : Safe ids.rPegText n (.node G.pegText mid mid2 uc t3) := Safe.of_append_right hs
    have hfc : findCap ids (t1.append (.node G.pegText mid mid2 uc t3)) = .node G.pegText mid mid2 uc t3 := by
      rcases kids_call_opt h1 with ⟨rfl, -⟩ | ⟨us, rfl, -, -⟩
      · simp only [T.append, findCap]; rw [if_pos G_pegText]
      · simp only [T.append, findCap]; rw [if_neg (by decide), if_pos G_pegText]
    -- the text of the DoubleConstant node itself is read first and dropped
    obtain ⟨s0, hs0⟩ : ∃ s0, pegText ids buf (.node ids.rDoubleConstant b e (t1.append (.node G.pegText mid mid2 uc t3)) .nil) = .ok s0 := by
      obtain ⟨s1, h1⟩ := pegText_ok ids buf hn hs
      by_cases hne : s1 ≠ []
      · exact ⟨s1, by simp [pegText, h1, hne]⟩
      · exact ⟨[], by simp [pegText, h1, hne]⟩
    have hb : ¬ (mid2 > buf.size ∨ mid > mid2) := by have := hsc.span; omega
    simp only [parseConstValue, checkrule_self, rule?_node, up?_node, bind_ok, pure_eq, if_true, hs0, hfc, isNil, rawText, if_neg hb,
      Bool.false_eq_true, if_false]

end Walker

namespace C03
open Peg Walker

theorem parseString_cases (g : Grammar) (ids : Ids) (content : Bytes) :
    (parseRunes g (Utf8.decode content) = .oof ∧ parseString g ids content = .crash) ∨
    (parseRunes g (Utf8.decode content) = .fail ∧ parseString g ids content = .parseError) ∨
    (∃ p' s' t, parseRunes g (Utf8.decode content) = .ok p' s' t ∧
      parseString g ids content =
        match walk ids (Utf8.decode content ++ [1114112]).toArray (prune t) with
        | .ok a => .ok a
        | .err => .walkError
        | .panic => .panic
        | .crash => .crash) := by
  unfold parseString
  dsimp only
  generalize parseRunes g (Utf8.decode content) = res
  cases res with
  | oof => exact .inl ⟨rfl, rfl⟩
  | fail => exact .inr (.inl ⟨rfl, rfl⟩)
  | ok p' s' t => exact .inr (.inr ⟨p', s', t, rfl, rfl⟩)

/-- C03 `walker_no_panic`, given the two decidable grammar checks -/
theorem parseString_safe (hwf : wf Walker.G Walker.NUL Generated.C03.rank = true)
    (hcap : capOK Walker.G Walker.NUL Generated.C03.capTab = true) (content : Bytes) :
    parseString Walker.G Walker.ids content = .parseError ∨ parseString Walker.G Walker.ids content = .walkError ∨
    ∃ t, parseString Walker.G Walker.ids content = .ok t := by
  have hw := wf_unpack hwf
  rcases parseString_cases Walker.G Walker.ids content with ⟨hp, _⟩ | ⟨_, h⟩ | ⟨p', s', t, hp, h⟩
  · exact absurd hp (parseRunes_no_oof hw _)
  · exact .inl h
  · have hk := (Ok.of_parseRunes hp).kids hw.nulSound
    have hs := parse_safe hw (capOK_unpack hcap) _ _ _ _ hp
    rw [G_pegText] at hs
    rw [h]
    exact (walk_np hk (hs.mono (by simp))).elim (fun a => .inr (.inr ⟨a, rfl⟩)) (.inr (.inl rfl))

end C03
