import ThriftVerif.Lib.Resolve
import ThriftVerif.Core.Assoc
/-
  The ResolveTypedefs loop: invariant, termination measure, and what success / failure mean.
  Everything here is about the abstract loop (`LoopEnv`, work list, store); no program yet.
-/
namespace Sem

/-- `Settles le es e c`: following what the entries of `es` read, entry `e` ends at the
non-typedef category `c`. -/
inductive Settles (le : LoopEnv) (es : List TdEntry) : TdEntry → Cat → Prop
  | inc {e k c} : e ∈ es → e.ast = .inc k → le.incRoot k e.name = some c → c ≠ .typedef →
      Settles le es e c
  | curStatic {e c} : e ∈ es → e.ast = .cur → le.localRoot e.name = some c → c ≠ .typedef →
      Settles le es e c
  | curStep {e e' c0 c} : e ∈ es → e.ast = .cur → le.localRoot e.name = some c0 → e' ∈ es →
      e'.addr = (Slot.typedef e.name, 0) → Settles le es e' c → Settles le es e c

theorem Store.get_get : Assoc.IsGet fun a st => Store.get st a := ⟨fun _ => rfl, fun _ _ _ => if_pos rfl, fun _ _ => (if_neg ·)⟩

def StoreSound (le : LoopEnv) (es : List TdEntry) (st : Store) : Prop :=
  ∀ a c, st.get a = some c → c ≠ .typedef ∧ ∃ e, e ∈ es ∧ e.addr = a ∧ Settles le es e c

structure LoopInv (le : LoopEnv) (es : List TdEntry) (st : Store) (tds : List TdEntry) : Prop where
  sub : ∀ e, e ∈ tds → e ∈ es
  sound : StoreSound le es st
  done : ∀ e, e ∈ es → e ∈ tds ∨ (st.get e.addr).isSome = true

section
variable {le : LoopEnv} {es : List TdEntry} {st : Store} {e : TdEntry}

theorem readTd_inc {k : Nat} (ha : e.ast = .inc k) : readTd le st e = le.incRoot k e.name := by
  unfold readTd; rw [ha]

theorem readTd_cur {c0 : Cat} (ha : e.ast = .cur) (hl : le.localRoot e.name = some c0) :
    readTd le st e = some ((st.get (Slot.typedef e.name, 0)).getD c0) := by
  unfold readTd; rw [ha]; simp only; rw [hl]

theorem Settles.read {c : Cat} (h : Settles le es e c) (st : Store) : readTd le st e ≠ none := by
  cases h with
  | inc _ ha hr _ => rw [readTd_inc ha, hr]; nofun
  | curStatic _ ha hl _ => rw [readTd_cur ha hl]; nofun
  | curStep _ ha hl _ _ _ => rw [readTd_cur ha hl]; nofun

theorem read_settles {c : Cat} (hs : StoreSound le es st) (he : e ∈ es) :
    readTd le st e = some c → c ≠ .typedef → Settles le es e c := by
  -- 1 the file does not declare the alias, 2 it does, 3 the entry is of include `k`
  fun_cases readTd le st e with
  | case1 => nofun
  | case2 ha c0 hl =>
    intro hr hc
    cases hg : st.get (Slot.typedef e.name, 0) with
    | none =>
      rw [hg] at hr
      cases hr
      exact .curStatic he ha hl hc
    | some c' =>
      rw [hg] at hr
      cases hr
      obtain ⟨_, e', he', hadr, hse⟩ := hs _ _ hg
      exact .curStep he ha hl he' hadr hse
  | case3 k ha => exact fun hr hc => .inc he ha hr hc

theorem read_typedef_cur {c0 : Cat} (hs : StoreSound le es st) (ha : e.ast = .cur) (hl : le.localRoot e.name = some c0)
    (hr : readTd le st e = some .typedef) : st.get (Slot.typedef e.name, 0) = none ∧ c0 = .typedef := by
  rw [readTd_cur ha hl, Option.some.injEq] at hr
  cases hg : st.get (Slot.typedef e.name, 0) with
  | none => rw [hg] at hr; exact ⟨rfl, hr⟩
  | some c' => rw [hg] at hr; exact absurd hr (hs _ _ hg).1

theorem stuck_not_settles {tds : List TdEntry} (inv : LoopInv le es st tds)
    (hall : ∀ e, e ∈ tds → readTd le st e = some .typedef) :
    ∀ e c, Settles le es e c → e ∈ tds → False := by
  intro e c hs
  induction hs with
  | @inc e k c _ ha hr hc =>
    intro hm
    have := hall e hm
    rw [readTd_inc ha, hr] at this
    exact hc (Option.some.inj this)
  | @curStatic e c _ ha hl hc => exact fun hm => hc (read_typedef_cur inv.sound ha hl (hall e hm)).2
  | @curStep e e' c0 c _ ha hl he' hadr _ ih =>
    intro hm
    -- `e'` is still pending, or it has a cell — which `e`, reading `typedef`, does not see
    rcases inv.done e' he' with h | h
    · exact ih h
    · rw [hadr, (read_typedef_cur inv.sound ha hl (hall e hm)).1] at h
      cases h

end

section
variable {le : LoopEnv} (l : List TdEntry) (st : Store) {st' : Store} {tmp : List TdEntry}

/- The cases of `pass`: 1 the list is empty; 2 GetTypedef fails; 3, 4 the entry still reads `typedef` and is kept (the rest
fails, succeeds); 5 it reads another category: the cell is written and the entry dropped. -/

theorem pass_length : pass le l st = .ok (st', tmp) → tmp.length ≤ l.length := by
  fun_induction pass le l st generalizing st' tmp with
  | case1 =>
    rintro ⟨⟩
    exact Nat.le_refl 0
  | case2 => nofun
  | case3 => nofun
  | case4 e r st st1 tmp1 hp _ ih =>
    rintro ⟨⟩
    exact Nat.succ_le_succ (ih hp)
  | case5 e r st c _ _ ih => exact fun h => Nat.le_succ_of_le (ih h)

theorem pass_inv {es acc : List TdEntry} :
    pass le l st = .ok (st', tmp) → LoopInv le es st (acc ++ l) → LoopInv le es st' (acc ++ tmp) := by
  fun_induction pass le l st generalizing acc st' tmp with
  | case1 =>
    rintro ⟨⟩ inv
    exact inv
  | case2 => nofun
  | case3 => nofun
  | case4 e r st st1 tmp1 hp _ ih =>
    rintro ⟨⟩ inv
    simpa using ih (acc := acc ++ [e]) hp (by simpa using inv)
  | case5 e r st c hrd hc ih =>
    intro h inv
    have he : e ∈ es := inv.sub e (by simp)
    refine ih h ⟨fun x hx => inv.sub x ?_, fun a c' hg => ?_, fun x hx => ?_⟩
    · simp only [List.mem_append, List.mem_cons] at hx ⊢
      exact hx.imp_right .inr
    · rw [Store.get_get.cons] at hg
      by_cases hea : e.addr = a
      · rw [if_pos hea] at hg
        cases hg
        exact ⟨hc, e, he, hea, read_settles inv.sound he hrd hc⟩
      · rw [if_neg hea] at hg
        exact inv.sound a c' hg
    · rw [Store.get_get.cons]
      by_cases hea : e.addr = x.addr
      · exact Or.inr (by rw [if_pos hea]; rfl)
      · rw [if_neg hea]
        refine (inv.done x hx).imp_left fun h => ?_
        simp only [List.mem_append, List.mem_cons] at h ⊢
        exact h.imp_right fun h => h.resolve_left fun hxe => hea (hxe ▸ rfl)

theorem pass_stuck : pass le l st = .ok (st', tmp) → tmp.length = l.length →
    st' = st ∧ ∀ e, e ∈ l → readTd le st e = some .typedef := by
  fun_induction pass le l st generalizing st' tmp with
  | case1 =>
    rintro ⟨⟩ _
    exact ⟨rfl, nofun⟩
  | case2 => nofun
  | case3 => nofun
  | case4 e r st st1 tmp1 hp hrd ih =>
    rintro ⟨⟩ hlen
    obtain ⟨h1, h2⟩ := ih hp (Nat.succ.inj hlen)
    exact ⟨h1, List.forall_mem_cons.mpr ⟨hrd, h2⟩⟩
  | case5 e r st c _ _ _ =>
    intro h hlen
    have := pass_length r _ h
    rw [List.length_cons] at hlen
    omega

theorem pass_error {es : List TdEntry} {err : Err} : pass le l st = .error err →
    err = .tdNotFound ∧ ∃ e, e ∈ l ∧ ∀ c, ¬ Settles le es e c := by
  fun_induction pass le l st with
  | case1 => nofun
  | case2 e r st hrd =>
    rintro ⟨⟩
    exact ⟨rfl, e, List.mem_cons_self, fun c hc => hc.read st hrd⟩
  | case3 e r st err' hp _ ih =>
    rintro ⟨⟩
    obtain ⟨h1, x, hx, hs⟩ := ih hp
    exact ⟨h1, x, List.mem_cons_of_mem _ hx, hs⟩
  | case4 => nofun
  | case5 e r st c _ _ ih =>
    intro h
    obtain ⟨h1, x, hx, hs⟩ := ih h
    exact ⟨h1, x, List.mem_cons_of_mem _ hx, hs⟩

end

theorem tdLoop_spec {le : LoopEnv} {es : List TdEntry} (fuel : Nat) (tds : List TdEntry) (cnt : Nat) (st : Store) :
    cnt = tds.length → tds.length ≤ fuel → LoopInv le es st tds →
      match tdLoop le fuel tds cnt st with
      | .ok st' => LoopInv le es st' []
      | .error err => (err = .tdCycle ∨ err = .tdNotFound) ∧ ∃ e, e ∈ es ∧ ∀ c, ¬ Settles le es e c := by
  -- the cases of `tdLoop`: 1, 2 out of fuel (work list empty, not empty); 3 work list empty; 4 the pass fails;
  -- 5 the pass kept every entry; 6 it dropped some: next round
  fun_induction tdLoop le fuel tds cnt st with
  | case1 tds _ st hemp => intro _ _ inv; rwa [List.isEmpty_iff.mp hemp] at inv
  | case2 tds _ st hne =>
    intro _ hlen _
    exact absurd (List.isEmpty_iff.mpr (List.eq_nil_of_length_eq_zero (Nat.le_zero.mp hlen))) hne
  | case3 fuel tds cnt st hemp => intro _ _ inv; rwa [List.isEmpty_iff.mp hemp] at inv
  | case4 fuel tds cnt st _ err hp =>
    intro _ _ inv
    obtain ⟨rfl, x, hx, hs⟩ := pass_error tds st hp
    exact ⟨.inr rfl, x, inv.sub x hx, hs⟩
  | case5 fuel tds st hne st' tmp hp =>
    intro hcnt _ inv
    obtain ⟨rfl, hall⟩ := pass_stuck tds st hp hcnt
    cases tds with
    | nil => exact absurd rfl hne
    | cons e0 r0 =>
      exact ⟨.inl rfl, e0, inv.sub e0 List.mem_cons_self, fun c hc => stuck_not_settles inv hall e0 c hc List.mem_cons_self⟩
  | case6 fuel tds cnt st _ st' tmp hp hneq ih =>
    intro hcnt hlen inv
    have hlt := Nat.lt_of_le_of_ne (pass_length tds st hp) (hcnt ▸ hneq)
    exact ih rfl (Nat.le_of_lt_succ (Nat.lt_of_lt_of_le hlt hlen)) (pass_inv tds st (acc := []) hp inv)

theorem loopInv_init (le : LoopEnv) (es : List TdEntry) : LoopInv le es [] es :=
  ⟨fun _ h => h, fun a c h => by simp [Store.get_get.nil] at h, fun _ h => Or.inl h⟩

theorem resolveTypedefs_spec (le : LoopEnv) (work : List TdEntry) :
    match resolveTypedefs le work with
    | .ok st => LoopInv le work st []
    | .error err => (err = .tdCycle ∨ err = .tdNotFound) ∧ ∃ e, e ∈ work ∧ ∀ c, ¬ Settles le work e c :=
  tdLoop_spec (work.length + 1) work work.length [] rfl (Nat.le_succ _) (loopInv_init le work)

theorem resolveTypedefs_ok {le : LoopEnv} {w : List TdEntry} {st : Store} (h : resolveTypedefs le w = .ok st) :
    StoreSound le w st ∧ ∀ e, e ∈ w → ∃ c, st.get e.addr = some c := by
  have hl := resolveTypedefs_spec le w
  rw [h] at hl
  refine ⟨hl.sound, ?_⟩
  intro e he
  rcases hl.done e he with hm | hm
  · simp at hm
  · exact Option.isSome_iff_exists.mp hm

theorem settles_mono {le : LoopEnv} {w w' : List TdEntry} (hsub : ∀ x, x ∈ w → x ∈ w')
    {e : TdEntry} {c : Cat} (h : Settles le w e c) : Settles le w' e c := by
  induction h with
  | inc h1 h2 h3 h4 => exact .inc (hsub _ h1) h2 h3 h4
  | curStatic h1 h2 h3 h4 => exact .curStatic (hsub _ h1) h2 h3 h4
  | curStep h1 h2 h3 h4 h5 _ ih => exact .curStep (hsub _ h1) h2 h3 (hsub _ h4) h5 ih

end Sem
