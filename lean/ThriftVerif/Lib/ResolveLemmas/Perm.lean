import ThriftVerif.Lib.ResolveLemmas.Prog
/-
  Order independence, one file: permuting the definitions of a file changes neither what it
  declares nor the set of its events.  What a trace stores depends on the set of its events only
  (`trace_equiv`) and the fixpoint of ResolveTypedefs on the set of work-list entries only
  (`Traced.loop_perm`); hence ResolveAST on a file and on the same file with its definitions in another
  order (same views) succeed together and store the same things at every slot.
-/
namespace Sem

structure FilePerm (f f' : File) : Prop where
  filename : f.filename = f'.filename
  includes : f.includes = f'.includes
  typedefs : f.typedefs.Perm f'.typedefs
  constants : f.constants.Perm f'.constants
  enums : f.enums.Perm f'.enums
  structs : f.structs.Perm f'.structs
  unions : f.unions.Perm f'.unions
  exceptions : f.exceptions.Perm f'.exceptions
  services : f.services.Perm f'.services

theorem FilePerm.symm {f f' : File} (h : FilePerm f f') : FilePerm f' f :=
  ⟨h.filename.symm, h.includes.symm, h.typedefs.symm, h.constants.symm, h.enums.symm, h.structs.symm,
   h.unions.symm, h.exceptions.symm, h.services.symm⟩

theorem FilePerm.structLikes {f f' : File} (h : FilePerm f f') : f.structLikes.Perm f'.structLikes := by
  unfold File.structLikes
  exact (h.structs.append h.unions).append h.exceptions

theorem FilePerm.declared {f f' : File} (h : FilePerm f f') : f.declared.Perm f'.declared := by
  unfold File.declared
  exact ((((h.typedefs.map _).append (h.constants.map _)).append (h.enums.map _)).append
    (h.structLikes.map _)).append (h.services.map _)

theorem FilePerm.declares {f f' : File} (h : FilePerm f f') (n : Bytes) (c : Cat) :
    Declares f n c ↔ Declares f' n c := by
  rw [← declared_iff, ← declared_iff]
  exact h.declared.mem_iff

theorem FilePerm.nodup {f f' : File} (h : FilePerm f f') : f.names.Nodup ↔ f'.names.Nodup := by
  unfold File.names
  exact (h.declared.map _).nodup_iff

theorem FilePerm.events_perm {f f' : File} (h : FilePerm f f') : f.events.Perm f'.events := by
  unfold File.events
  exact (((h.typedefs.map _).append (h.constants.flatMap_right _)).append (h.structLikes.flatMap_right _)).append
    (h.services.flatMap_right _)

theorem FilePerm.events {f f' : File} (h : FilePerm f f') (ev : Ev) : ev ∈ f.events → ev ∈ f'.events :=
  h.events_perm.mem_iff.mp

theorem findTypedef_perm {a : Bytes} {l l' : List Typedef} (hp : l.Perm l')
    (hnd : (l.map (·.alias)).Nodup) : findTypedef a l = findTypedef a l' := by
  rw [findTypedef_eq, findTypedef_eq]
  exact find?_key_perm (·.alias) a hp hnd

theorem findEnum_perm {a : Bytes} {l l' : List Enum} (hp : l.Perm l')
    (hnd : (l.map (·.name)).Nodup) : findEnum a l = findEnum a l' := by
  rw [findEnum_eq, findEnum_eq]
  exact find?_key_perm (·.name) a hp hnd

theorem flat_mapOut_perm {α} (g : α → Res (Out DefOut)) {l l' : List α} (hp : l.Perm l')
    {o : Out DefOut} (h : flatOut (mapOut g l) = .ok o) : ∃ o', flatOut (mapOut g l') = .ok o' := by
  have hall : ∀ x, x ∈ l → ∃ a, g x = .ok a := by
    refine (mapOut_ok_iff g l).mp ?_
    cases hm : mapOut g l with
    | error e => rw [hm] at h; cases h
    | ok o1 => exact ⟨o1, rfl⟩
  obtain ⟨o1, h1⟩ := (mapOut_ok_iff g l').mpr (fun x hx => hall x (hp.mem_iff.mpr hx))
  exact ⟨_, by rw [h1]; rfl⟩

structure RFileEquiv (rf rf' : RFile) : Prop where
  n2c : ∀ n, lookupB n rf.n2c = lookupB n rf'.n2c
  used : rf.used = rf'.used
  types : ∀ s, rf.nodesAt s = rf'.nodesAt s
  binds : ∀ s, rf.bindsAt s = rf'.bindsAt s
  svc : ∀ n, rf.svcRef n = rf'.svcRef n

theorem usedFlags_congr {n : Nat} {m m' : List Nat} (h : ∀ u, u ∈ m ↔ u ∈ m') :
    usedFlags n m = usedFlags n m' := by
  unfold usedFlags
  apply List.map_congr_left
  intro k _
  exact decide_eq_decide.mpr (h k)

theorem patchNodes_congr {st st' : Store} (h : ∀ a, st'.get a = st.get a) (s : Slot) :
    ∀ (ns : List RNode) (k : Nat), patchNodes st' s k ns = patchNodes st s k ns
  | [], _ => rfl
  | n :: r, k => by simp only [patchNodes, h, patchNodes_congr h s r (k + 1)]

theorem mkView_perm {f f' : File} (hp : FilePerm f f') (hnd : f.names.Nodup) {n2c n2c' : Bytes → Option Cat}
    (hn : n2c = n2c') {types types' : List TypeRes} (ht : ∀ s, lookupSlot s types = lookupSlot s types') :
    mkView n2c types f = mkView n2c' types' f' := by
  unfold mkView
  congr 1
  · funext a
    unfold tdRootOf
    rw [← findTypedef_perm hp.typedefs (names_sublists f hnd).1, ht]
  · funext n
    rw [← findEnum_perm hp.enums (names_sublists f hnd).2.2.1]
  · rw [hp.includes]

theorem resolveAST_perm {p : Program} {views : Nat → Option FileView} {gfuel i : Nat} {f f' : File} {rf : RFile}
    (hf : p[i]? = some f) (hv : ViewsGood p views) (hp : FilePerm f f')
    (h : resolveAST views gfuel i f = .ok rf) :
    ∃ rf', resolveAST views gfuel i f' = .ok rf' ∧ RFileEquiv rf rf' := by
  obtain ⟨R⟩ := resolveAST_run h
  have T := R.traced hf hv
  have hnd := T.env.nodup
  have hn2c := (registerNames_ok R.e2).2
  have hnd' : f'.names.Nodup := hp.nodup.mp hnd
  obtain ⟨n2cL', e2'⟩ := registerNames_complete hnd'
  have hn2c' := (registerNames_ok e2').2
  have hn2ceq : ∀ n, lookupB n R.n2cL = lookupB n n2cL' := fun n => Option.ext fun c =>
    (hn2c n c).trans ((hp.declares n c).trans (hn2c' n c).symm)
  have henv : mkEnv n2cL' R.incs = R.env := by
    unfold Run.env mkEnv
    congr 1
    funext n
    exact (hn2ceq n).symm
  obtain ⟨tds', e3'⟩ := flat_mapOut_perm _ hp.typedefs R.e3
  obtain ⟨cs', e4'⟩ := flat_mapOut_perm _ hp.constants R.e4
  obtain ⟨ss', e5'⟩ := flat_mapOut_perm _ hp.structLikes R.e5
  obtain ⟨svs', e6'⟩ := flat_mapOut_perm _ hp.services R.e6
  -- the run on `f'` is put together in the environment `R.ce` of `f`; `henv`, `hcur` (below) say that
  -- `f'` builds the same one, so `Traced` / `loop_perm` for `f` apply to both traces
  obtain ⟨t1', tall'⟩ := file_trace (ce := R.ce) (f := f') e3' e4' e5' e6'
  have tdeq := (trace_equiv T.tds t1' (fun _ => (hp.typedefs.map _).mem_iff.mp)
    (fun _ => (hp.typedefs.map _).mem_iff.mpr) (tdEvents_fun f hnd)).types
  have hcur : mkCur R.env tds'.val.types f' = R.cur :=
    (mkView_perm hp hnd rfl tdeq).symm
  have teq := trace_equiv T.all tall' hp.events hp.symm.events (events_fun f hnd)
  obtain ⟨st', e7', hst⟩ := T.loop_perm (views := views) (incs := R.incs)
    (w' := (Out.seq (Out.seq (Out.seq tds' cs') ss') svs').work) (fun x => (teq.work x).symm) R.loop
  have R' : Run views gfuel i f' _ :=
    { incs := R.incs, n2cL := n2cL', tds := tds', cs := cs', ss := ss', svs := svs', st := st'
      e1 := by rw [← hp.includes]; exact R.e1
      e2 := e2'
      e3 := by rw [henv]; exact e3'
      e4 := by rw [henv, hcur]; exact e4'
      e5 := by rw [henv, hcur]; exact e5'
      e6 := by rw [henv, hcur]; exact e6'
      e7 := by rw [henv, hcur]; exact e7'
      e8 := rfl }
  refine ⟨_, resolveAST_of_run R', ?_⟩
  rw [R.rf_eq]
  refine ⟨hn2ceq, ?_, ?_, teq.binds, teq.svc⟩
  · simp only
    rw [← hp.includes]
    exact usedFlags_congr teq.used
  · intro s
    simp only [RFile.nodesAt]
    rw [lookupSlot_patch, lookupSlot_patch, teq.types s]
    congr 1
    funext ns
    exact (patchNodes_congr hst s ns 0).symm

end Sem
