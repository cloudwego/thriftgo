import ThriftVerif.Lib.ResolveLemmas.Basic
/-
  Shape of the outputs: `mapOut` / `mapOutIdx` as lists of per-item outputs; ResolveType as the
  per-node function mapped over the nodes of the type expression in pre-order; ResolveConstValue as
  the per-identifier function mapped over the identifiers in visiting order.
-/
namespace Sem

/-- per-item outputs put together the way `mapOut` does -/
def combine {β} (as : List (Out β)) : Out (List β) :=
  ⟨as.map (·.val), as.flatMap (·.work), as.flatMap (·.used)⟩

inductive IdxAll {α β} (g : Nat → α → Res (Out β)) : Nat → List α → List (Out β) → Prop
  | nil {k} : IdxAll g k [] []
  | cons {k x a r as} : g k x = .ok a → IdxAll g (k + 1) r as → IdxAll g k (x :: r) (a :: as)

theorem mapOutIdx_ok {α β} (g : Nat → α → Res (Out β)) (l : List α) (k : Nat) (o : Out (List β)) :
    mapOutIdx g k l = .ok o → ∃ as, IdxAll g k l as ∧ o = combine as := by
  -- cases of mapOutIdx: no item; the first item fails; a later one fails; all return
  fun_induction mapOutIdx g k l generalizing o with
  | case1 => exact fun h => ⟨[], .nil, (Except.ok.inj h).symm⟩
  | case2 => nofun
  | case3 => nofun
  | case4 k x r a ha b hb ih =>
    obtain ⟨as, has, rfl⟩ := ih b hb
    exact fun h => ⟨a :: as, .cons ha has, (Except.ok.inj h).symm⟩

theorem mapOutIdx_of_all {α β} (g : Nat → α → Res (Out β)) : ∀ (l : List α) (k : Nat) (as : List (Out β)),
    IdxAll g k l as → mapOutIdx g k l = .ok (combine as)
  | _, _, _, .nil => rfl
  | _, _, _, .cons hg hr => by
    simp only [mapOutIdx, hg, mapOutIdx_of_all g _ _ _ hr]
    simp [combine]

theorem IdxAll.length {α β} {g : Nat → α → Res (Out β)} {k l as} (h : IdxAll g k l as) :
    as.length = l.length := by
  induction h with
  | nil => rfl
  | cons _ _ ih => simp [ih]

theorem IdxAll.get {α β} {g : Nat → α → Res (Out β)} {k l as} (h : IdxAll g k l as) :
    ∀ j x, l[j]? = some x → ∃ a, as[j]? = some a ∧ g (k + j) x = .ok a := by
  induction h with
  | nil => nofun
  | @cons k x0 a r as hg _ ih =>
    intro j x hj
    cases j with
    | zero => cases hj; exact ⟨a, rfl, hg⟩
    | succ j =>
      obtain ⟨a', h1, h2⟩ := ih j x hj
      exact ⟨a', h1, Nat.add_right_comm k 1 j ▸ h2⟩

theorem IdxAll.get' {α β} {g : Nat → α → Res (Out β)} {k l as} (h : IdxAll g k l as) :
    ∀ j a, as[j]? = some a → ∃ x, l[j]? = some x ∧ g (k + j) x = .ok a := by
  intro j a hj
  have hlt : j < l.length := h.length ▸ (List.getElem?_eq_some_iff.mp hj).1
  obtain ⟨a', h1, h2⟩ := h.get j l[j] (List.getElem?_eq_getElem hlt)
  rw [hj] at h1
  cases h1
  exact ⟨_, List.getElem?_eq_getElem hlt, h2⟩

theorem IdxAll.append {α β} {g : Nat → α → Res (Out β)} : ∀ {k l1 as1 l2 as2},
    IdxAll g k l1 as1 → IdxAll g (k + l1.length) l2 as2 → IdxAll g k (l1 ++ l2) (as1 ++ as2) := by
  intro k l1 as1 l2 as2 h1
  induction h1 with
  | nil => exact id
  | @cons k x a r as hg _ ih => exact fun h2 => .cons hg (ih (Nat.add_right_comm k r.length 1 ▸ h2))

theorem mapOut_eq_idx {α β} (g : α → Res (Out β)) : ∀ (l : List α) (k : Nat),
    mapOut g l = mapOutIdx (fun _ => g) k l
  | [], k => rfl
  | x :: r, k => by
    simp only [mapOut, mapOutIdx, mapOut_eq_idx g r (k + 1)]

theorem mapOut_ok_iff {α β} (g : α → Res (Out β)) : ∀ l : List α,
    (∃ o, mapOut g l = .ok o) ↔ ∀ x, x ∈ l → ∃ a, g x = .ok a
  | [] => by simp [mapOut]
  | x :: r => by
    simp only [mapOut, List.forall_mem_cons, ← mapOut_ok_iff g r]
    cases g x with
    | error e => simp
    | ok a =>
      cases mapOut g r with
      | error e => simp
      | ok b => simp

theorem mem_combine_work {β} {as : List (Out β)} {e : TdEntry} :
    e ∈ (combine as).work ↔ ∃ a, a ∈ as ∧ e ∈ a.work := by
  simp [combine, List.mem_flatMap]

theorem mem_combine_used {β} {as : List (Out β)} {e : Nat} :
    e ∈ (combine as).used ↔ ∃ a, a ∈ as ∧ e ∈ a.used := by
  simp [combine, List.mem_flatMap]

theorem combine_val_get {β} {as : List (Out β)} (j : Nat) :
    (combine as).val[j]? = (as[j]?).map (·.val) := by
  simp [combine]

theorem mapOutIdx_append {α β} (g : Nat → α → Res (Out β)) (l1 l2 : List α) (k : Nat) :
    mapOutIdx g k (l1 ++ l2) =
      match mapOutIdx g k l1 with
      | .error e => .error e
      | .ok a =>
        match mapOutIdx g (k + l1.length) l2 with
        | .error e => .error e
        | .ok b => .ok ⟨a.val ++ b.val, a.work ++ b.work, a.used ++ b.used⟩ := by
  fun_induction mapOutIdx g k l1 with
  | case1 k =>
    simp only [List.nil_append, List.length_nil, Nat.add_zero]
    cases mapOutIdx g k l2 with
    | error e => rfl
    | ok b => rfl
  | case2 k x r e h => rw [List.cons_append, mapOutIdx, h]
  | case3 k x r a h e h' ih => rw [List.cons_append, mapOutIdx, h, ih, h']
  | case4 k x r a h b h' ih =>
    rw [List.cons_append, mapOutIdx, h, ih, h', List.length_cons, ← Nat.add_assoc, Nat.add_right_comm]
    cases mapOutIdx g (k + r.length + 1) l2 with
    | error e => rfl
    | ok c => simp

theorem mapOutIdx_val_length {α β} {g : Nat → α → Res (Out β)} {l : List α} {k : Nat} {o : Out (List β)}
    (h : mapOutIdx g k l = .ok o) : o.val.length = l.length := by
  obtain ⟨as, has, rfl⟩ := mapOutIdx_ok g l k o h
  simp [combine, has.length]

theorem resolveType_eq (env : Env) (slot : Slot) (te : TypeExpr) (off : Nat) :
    resolveType env slot off te = mapOutIdx (nodeOut env slot) off te.nodes := by
  -- cases of resolveType: for a name, a list, a set: the node or element type fails, returns;
  -- for a map: the key type fails, the value type fails, both return
  fun_induction resolveType env slot off te with
  | case1 off n e h => simp only [TypeExpr.nodes, mapOutIdx, nodeOut, h]
  | case2 off n o h => simp only [TypeExpr.nodes, mapOutIdx, nodeOut, h, List.append_nil]
  | case3 off v e h ih | case5 off v e h ih => simp only [TypeExpr.nodes, mapOutIdx, nodeOut, ← ih, h]
  | case4 off v o h ih | case6 off v o h ih => simp only [TypeExpr.nodes, mapOutIdx, nodeOut, ← ih, h, List.nil_append]
  | case7 off k v e h ih => simp only [TypeExpr.nodes, mapOutIdx, nodeOut, mapOutIdx_append, ← ih, h]
  | case8 off k v ok hk e hv ihk ihv =>
    rw [ihk] at hk
    rw [ihv, mapOutIdx_val_length hk] at hv
    simp only [TypeExpr.nodes, mapOutIdx, nodeOut, mapOutIdx_append, hk, hv]
  | case9 off k v ok hk ov hv ihk ihv =>
    rw [ihk] at hk
    rw [ihv, mapOutIdx_val_length hk] at hv
    simp only [TypeExpr.nodes, mapOutIdx, nodeOut, mapOutIdx_append, hk, hv, List.nil_append]

theorem resolveType_ok {env : Env} {slot : Slot} {te : TypeExpr} {off : Nat} {o : Out (List RNode)}
    (h : resolveType env slot off te = .ok o) :
    ∃ as, IdxAll (nodeOut env slot) off te.nodes as ∧ o = combine as := by
  rw [resolveType_eq] at h
  exact mapOutIdx_ok _ _ _ _ h

theorem combine_nil {β} : combine ([] : List (Out β)) = ⟨[], [], []⟩ := rfl

theorem mapOutIdx_const {α β} (g : α → Res (Out β)) (l : List α) (k k' : Nat) :
    mapOutIdx (fun _ => g) k l = mapOutIdx (fun _ => g) k' l := by
  rw [← mapOut_eq_idx g l k, mapOut_eq_idx g l k']

mutual
theorem resolveConst_eq (ce : CEnv) : ∀ v : ConstVal,
    resolveConst ce v = mapOutIdx (fun _ id => resolveIdent ce id) 0 v.idents
  | .int _ => rfl
  | .dbl _ => rfl
  | .str _ => rfl
  | .ident id => by
    simp only [resolveConst, ConstVal.idents, mapOutIdx]
    cases resolveIdent ce id with
    | error e => rfl
    | ok o => simp
  | .list xs => by simp only [resolveConst, ConstVal.idents]; exact resolveConstL_eq ce xs
  | .map kvs => by simp only [resolveConst, ConstVal.idents]; exact resolveConstM_eq ce kvs
theorem resolveConstL_eq (ce : CEnv) : ∀ l : List ConstVal,
    resolveConstL ce l = mapOutIdx (fun _ id => resolveIdent ce id) 0 (ConstVal.identsL l)
  | [] => rfl
  | x :: r => by
    simp only [resolveConstL, ConstVal.identsL, mapOutIdx_append, resolveConst_eq ce x, resolveConstL_eq ce r,
      mapOutIdx_const (resolveIdent ce) _ (0 + x.idents.length) 0]
    cases mapOutIdx (fun _ id => resolveIdent ce id) 0 x.idents with
    | error e => rfl
    | ok a =>
      cases mapOutIdx (fun _ id => resolveIdent ce id) 0 (ConstVal.identsL r) with
      | error e => rfl
      | ok b => rfl
theorem resolveConstM_eq (ce : CEnv) : ∀ l : List (ConstVal × ConstVal),
    resolveConstM ce l = mapOutIdx (fun _ id => resolveIdent ce id) 0 (ConstVal.identsM l)
  | [] => rfl
  | (k, v) :: r => by
    simp only [resolveConstM, ConstVal.identsM, mapOutIdx_append, resolveConst_eq ce k, resolveConst_eq ce v,
      resolveConstM_eq ce r, mapOutIdx_const (resolveIdent ce) _ (0 + k.idents.length) 0,
      mapOutIdx_const (resolveIdent ce) _ (0 + (k.idents ++ v.idents).length) 0]
    cases mapOutIdx (fun _ id => resolveIdent ce id) 0 k.idents with
    | error e => rfl
    | ok a =>
      cases mapOutIdx (fun _ id => resolveIdent ce id) 0 v.idents with
      | error e => rfl
      | ok a' =>
        cases mapOutIdx (fun _ id => resolveIdent ce id) 0 (ConstVal.identsM r) with
        | error e => rfl
        | ok b => rfl
end

theorem resolveConst_ok {ce : CEnv} (v : ConstVal) (b : Out (List (Option Extra))) (h : resolveConst ce v = .ok b) :
    ∃ as, IdxAll (fun _ id => resolveIdent ce id) 0 v.idents as ∧ b = combine as :=
  mapOutIdx_ok _ _ _ _ (resolveConst_eq ce v ▸ h)

theorem resolveConstL_ok {ce : CEnv} : ∀ (l : List ConstVal) (b : Out (List (Option Extra))),
    resolveConstL ce l = .ok b →
      ∃ as, IdxAll (fun _ id => resolveIdent ce id) 0 (ConstVal.identsL l) as ∧ b = combine as :=
  fun l _ h => mapOutIdx_ok _ _ _ _ (resolveConstL_eq ce l ▸ h)

theorem resolveConstM_ok {ce : CEnv} : ∀ (l : List (ConstVal × ConstVal)) (b : Out (List (Option Extra))),
    resolveConstM ce l = .ok b →
      ∃ as, IdxAll (fun _ id => resolveIdent ce id) 0 (ConstVal.identsM l) as ∧ b = combine as :=
  fun l _ h => mapOutIdx_ok _ _ _ _ (resolveConstM_eq ce l ▸ h)

end Sem
