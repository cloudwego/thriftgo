import ThriftVerif.Lib.ResolveLemmas.Good
import ThriftVerif.Lib.ResolveLemmas.Node
import ThriftVerif.Lib.ResolveLemmas.Trace
import ThriftVerif.Lib.ResolveLemmas.Loop
/-
  ResolveAST establishes `Good` for the file it resolves, given `Good` for the ASTs it reads.  `Traced` is what is known of
  the calls made on a file before ResolveTypedefs runs; on a traced file an address holds one entry and `Settles` is
  functional, so the loop's store depends on the set of queued entries only (`Traced.store_iff`, `Traced.loop_perm`), and
  a settled chain is a chain of `Den` (`settles_den`).  `Finished` adds the loop's store and the record ResolveAST returns;
  its lemmas read that record by `SlotType` / `SlotConst`, so that the theorems about a file need no events.
-/
namespace Sem

def patchNode (st : Store) (a : Addr) (n : RNode) : RNode :=
  match st.get a with
  | some c => { n with cat := c }
  | none => n

theorem patchNodes_eq (st : Store) (s : Slot) (ns : List RNode) (off : Nat) :
    patchNodes st s off ns = ns.mapIdx fun k n => patchNode st (s, off + k) n := by
  fun_induction patchNodes st s off ns with
  | case1 => rfl
  | case2 off n r ih =>
    rw [ih, List.mapIdx_cons]
    simp only [Nat.add_right_comm off 1, Nat.add_assoc]
    rfl

theorem patchNodes_length (st : Store) (s : Slot) (ns : List RNode) (off : Nat) :
    (patchNodes st s off ns).length = ns.length := by
  rw [patchNodes_eq, List.length_mapIdx]

theorem patchNodes_get (st : Store) (s : Slot) (ns : List RNode) (off k : Nat) :
    (patchNodes st s off ns)[k]? = (ns[k]?).map (patchNode st (s, off + k)) := by
  rw [patchNodes_eq, List.getElem?_mapIdx]

theorem entry_node {ce : CEnv} {f : File} {all : Out DefOut} (hall : Trace ce f.events all)
    {e : TdEntry} (he : e ∈ all.work) :
    ∃ s te k sub a, SlotType f s te ∧ te.nodes[k]? = some sub ∧ nodeOut ce.env s k sub = .ok a ∧ e ∈ a.work := by
  obtain ⟨s, te, r, h1, h2, h3⟩ := hall.work_from e he
  obtain ⟨as, ha, rfl⟩ := resolveType_ok h2
  obtain ⟨a, hm, hea⟩ := mem_combine_work.mp h3
  obtain ⟨k, hk⟩ := List.mem_iff_getElem?.mp hm
  obtain ⟨sub, hsub, hout⟩ := ha.get' k a hk
  rw [Nat.zero_add] at hout
  exact ⟨s, te, k, sub, a, (mem_events_ty f s te).mp h1, hsub, hout, hea⟩

structure Traced (p : Program) (i : Nat) (f : File) (ce : CEnv) (tds all : Out DefOut) : Prop where
  env : EnvGood p i f ce.env
  tds : Trace ce (f.tdEvents) tds
  all : Trace ce f.events all

section
variable {p : Program} {i : Nat} {f : File} {ce : CEnv} {tds all : Out DefOut}

theorem Traced.tdRoot (T : Traced p i f ce tds all) {a : Bytes} {root : TdRoot}
    (h : tdRootOf f tds.val.types a = some root) :
    ∃ td a0, td ∈ f.typedefs ∧ td.alias = a ∧ nodeOut ce.env (.typedef a) 0 td.type = .ok a0 ∧
      root = ⟨td.type.rootName, a0.val.cat, a0.val.isTypedef, a0.val.ref⟩ := by
  obtain ⟨td, hm, hal, hroot⟩ := tdRootOf_some h
  obtain ⟨r, h1, h2, _, _⟩ := T.tds.type_at (tdEvents_fun f T.env.nodup) (.typedef td.alias) td.type
    (List.mem_map.mpr ⟨td, hm, rfl⟩)
  obtain ⟨as, ha, rfl⟩ := resolveType_ok h1
  obtain ⟨a0, hg0, hout⟩ := ha.get 0 td.type (nodes_head td.type)
  rw [hal] at h2 hout
  cases as with
  | nil => simp at hg0
  | cons x r => cases hg0; exact ⟨td, a0, hm, hal, hout, hroot _ _ h2⟩

theorem Traced.entry_at (T : Traced p i f ce tds all) {e : TdEntry} {s : Slot} {te : TypeExpr} {k : Nat} {sub : TypeExpr}
    {a : Out RNode} (he : e ∈ all.work) (hadr : e.addr = (s, k)) (hs : SlotType f s te)
    (hsub : te.nodes[k]? = some sub) (hout : nodeOut ce.env s k sub = .ok a) : e ∈ a.work := by
  -- the node that queued `e` has `e`'s address, and an address names one node
  obtain ⟨s', te', k', sub', a', hs', hsub', hout', hea'⟩ := entry_node T.all he
  cases hadr.symm.trans ((nodeOut_facts T.env hout').addr e hea')
  cases slot_fun T.env.nodup hs hs'
  cases hsub.symm.trans hsub'
  cases hout.symm.trans hout'
  exact hea'

theorem Traced.work_inj (T : Traced p i f ce tds all) {e e' : TdEntry} (he : e ∈ all.work) (he' : e' ∈ all.work)
    (h : e.addr = e'.addr) : e = e' := by
  obtain ⟨s, te, k, sub, a, hs, hsub, hout, hea⟩ := entry_node T.all he
  have facts := nodeOut_facts T.env hout
  have hea' := T.entry_at he' (h ▸ facts.addr e hea) hs hsub hout
  -- a node queues at most one entry
  rcases facts.cat with ⟨hw, _⟩ | ⟨_, e0, n, hw, _, _⟩
  · rw [hw] at hea; cases hea
  · rw [hw] at hea hea'
    rw [List.mem_singleton.mp hea, List.mem_singleton.mp hea']

def Traced.le {p : Program} {i : Nat} {f : File} {ce : CEnv} {tds all : Out DefOut}
    (_ : Traced p i f ce tds all) (views : Nat → Option FileView) (incs : List IncInfo) : LoopEnv :=
  mkLE views incs (mkCur ce.env tds.val.types f)

theorem Traced.local_root (T : Traced p i f ce tds all) {views : Nat → Option FileView} {incs : List IncInfo} {a : Bytes} {c : Cat}
    (hlr : (T.le views incs).localRoot a = some c) :
    ∃ td a0, td ∈ f.typedefs ∧ td.alias = a ∧ nodeOut ce.env (.typedef a) 0 td.type = .ok a0 ∧ c = a0.val.cat := by
  obtain ⟨root, hroot, rfl⟩ := Option.map_eq_some_iff.mp hlr
  obtain ⟨td, a0, h1, h2, h3, rfl⟩ := T.tdRoot hroot
  exact ⟨td, a0, h1, h2, h3, rfl⟩

theorem Run.traced {p : Program} {views : Nat → Option FileView} {gfuel i : Nat} {f : File} {rf : RFile}
    (R : Run views gfuel i f rf) (hf : p[i]? = some f) (hv : ViewsGood p views) :
    Traced p i f R.ce R.tds R.all := by
  obtain ⟨hnd, hn2c⟩ := registerNames_ok R.e2
  exact ⟨⟨hf, hnd, hn2c, mkIncs_good hv R.e1⟩, R.traces.1, R.traces.2⟩

/-- Why `Settles.curStatic` and `Settles.curStep` exclude each other (`settles_fun`). -/
theorem Traced.root_entry (T : Traced p i f ce tds all) {views : Nat → Option FileView} {incs : List IncInfo}
    {e' : TdEntry} {a : Bytes} (he' : e' ∈ all.work) (hadr : e'.addr = (Slot.typedef a, 0)) :
    (T.le views incs).localRoot a = some .typedef := by
  obtain ⟨s, te, k, sub, a', hs, hsub, hout, hea⟩ := entry_node T.all he'
  have facts := nodeOut_facts T.env hout
  cases hadr.symm.trans (facts.addr e' hea)
  obtain ⟨td, htd, hal, rfl⟩ := slotType_iff.mp hs
  cases (nodes_head _).symm.trans hsub
  -- the root node of typedef `a` queued `e'`, so `nodeOut` gave it the category `typedef`
  have hcat : a'.val.cat = .typedef := by
    rcases facts.cat with ⟨hw, _⟩ | ⟨hc, _⟩
    · rw [hw] at hea; cases hea
    · exact hc
  obtain ⟨root, hroot⟩ := tdRootOf_exists tds.val.types htd hal
  have hlr : (T.le views incs).localRoot a = some root.cat := congrArg (Option.map TdRoot.cat) hroot
  obtain ⟨td2, a0, h1, h2, h3, h4⟩ := T.local_root hlr
  cases findTypedef_unique T.env.nodup h1 htd (h2.trans hal.symm)
  cases hout.symm.trans h3
  rw [hlr, h4, hcat]

theorem Traced.settles_fun (T : Traced p i f ce tds all) {views : Nat → Option FileView} {incs : List IncInfo}
    {e : TdEntry} {c c' : Cat}
    (h : Settles (T.le views incs) all.work e c)
    (h' : Settles (T.le views incs) all.work e c') : c = c' := by
  induction h generalizing c' with
  | inc _ h2 h3 _ =>
    cases h' with
    | inc _ q2 q3 _ =>
      cases h2.symm.trans q2
      exact Option.some.inj (h3.symm.trans q3)
    | curStatic _ q2 _ _ => cases h2.symm.trans q2
    | curStep _ q2 _ _ _ _ => cases h2.symm.trans q2
  | curStatic _ h2 h3 h4 =>
    cases h' with
    | inc _ q2 _ _ => cases h2.symm.trans q2
    | curStatic _ _ q3 _ => exact Option.some.inj (h3.symm.trans q3)
    | curStep _ _ _ q4 q5 _ =>
      exact absurd (Option.some.inj (h3.symm.trans (T.root_entry q4 q5))) h4
  | curStep _ h2 h3 h4 h5 _ ih =>
    cases h' with
    | inc _ q2 _ _ => cases h2.symm.trans q2
    | curStatic _ _ q3 q4 =>
      exact absurd (Option.some.inj (q3.symm.trans (T.root_entry h4 h5))) q4
    | curStep _ _ _ q4 q5 q6 =>
      cases T.work_inj h4 q4 (h5.trans q5.symm)
      exact ih q6

theorem Traced.store_iff (T : Traced p i f ce tds all) {views : Nat → Option FileView} {incs : List IncInfo}
    {w : List TdEntry} (hw : ∀ x, x ∈ w ↔ x ∈ all.work) {st : Store}
    (h : resolveTypedefs (T.le views incs) w = .ok st) (a : Addr) (c : Cat) :
    st.get a = some c ↔ ∃ e, e ∈ all.work ∧ e.addr = a ∧ Settles (T.le views incs) all.work e c := by
  obtain ⟨hsound, hdone⟩ := resolveTypedefs_ok h
  constructor
  · intro hg
    obtain ⟨_, e, he, hadr, hs⟩ := hsound a c hg
    exact ⟨e, (hw e).mp he, hadr, settles_mono (fun x => (hw x).mp) hs⟩
  · rintro ⟨e, he, rfl, hs⟩
    obtain ⟨c', hg⟩ := hdone e ((hw e).mpr he)
    obtain ⟨_, e', he', hadr, hs'⟩ := hsound _ _ hg
    cases T.work_inj ((hw e').mp he') he hadr
    rw [hg, T.settles_fun hs (settles_mono (fun x => (hw x).mp) hs')]

theorem Traced.loop_perm (T : Traced p i f ce tds all) {views : Nat → Option FileView} {incs : List IncInfo}
    {w' : List TdEntry} (hw : ∀ x, x ∈ w' ↔ x ∈ all.work) {st : Store}
    (h : resolveTypedefs (T.le views incs) all.work = .ok st) :
    ∃ st', resolveTypedefs (T.le views incs) w' = .ok st' ∧
      ∀ a, st'.get a = st.get a := by
  have hl' := resolveTypedefs_spec (T.le views incs) w'
  cases hr : resolveTypedefs (T.le views incs) w' with
  | error err =>
    -- a failure names an entry that never settles; in the run on `all.work` it got a cell, so it settles
    rw [hr] at hl'
    obtain ⟨_, e, he, hns⟩ := hl'
    obtain ⟨c, hg⟩ := (resolveTypedefs_ok h).2 e ((hw e).mp he)
    obtain ⟨e', he', hadr, hs⟩ := (T.store_iff (fun _ => .rfl) h _ c).mp hg
    cases T.work_inj he' ((hw e).mp he) hadr
    exact absurd (settles_mono (fun x => (hw x).mpr) hs) (hns c)
  | ok st' =>
    exact ⟨st', rfl, fun a => Option.ext fun c => (T.store_iff hw hr a c).trans (T.store_iff (fun _ => .rfl) h a c).symm⟩

structure Finished (p : Program) (i : Nat) (f : File) (ce : CEnv) (tds all : Out DefOut) (st : Store) (rf : RFile) : Prop where
  traced : Traced p i f ce tds all
  types : rf.types = patchTypes st all.val.types
  binds : rf.binds = all.val.binds
  svcRefs : rf.svcRefs = all.val.svc
  used : rf.used = usedFlags f.includes.length all.used
  n2c : ∀ n, lookupB n rf.n2c = ce.env.n2c n

theorem Run.finished {p : Program} {views : Nat → Option FileView} {gfuel i : Nat} {f : File} {rf : RFile}
    (R : Run views gfuel i f rf) (hf : p[i]? = some f) (hv : ViewsGood p views) :
    Finished p i f R.ce R.tds R.all R.st rf :=
  ⟨R.traced hf hv, congrArg RFile.types R.rf_eq, congrArg RFile.binds R.rf_eq, congrArg RFile.svcRefs R.rf_eq,
   congrArg RFile.used R.rf_eq, fun n => congrArg (lookupB n) (congrArg RFile.n2c R.rf_eq)⟩

section
variable {st : Store} {rf : RFile} (F : Finished p i f ce tds all st rf)
include F

theorem Finished.nodes {s : Slot} {te : TypeExpr} (hs : SlotType f s te) :
    ∃ as, IdxAll (nodeOut ce.env s) 0 te.nodes as ∧
      rf.nodesAt s = some (patchNodes st s 0 (as.map (·.val))) ∧
      (∀ a, a ∈ as → ∀ e, e ∈ a.work → e ∈ all.work) ∧ (∀ a, a ∈ as → ∀ u, u ∈ a.used → u ∈ all.used) := by
  obtain ⟨r, h1, h2, h3, h4⟩ := F.traced.all.type_at (events_fun f F.traced.env.nodup) s te ((mem_events_ty f s te).mpr hs)
  obtain ⟨as, ha, rfl⟩ := resolveType_ok h1
  refine ⟨as, ha, ?_, fun a hm e he => h3 e (mem_combine_work.mpr ⟨a, hm, he⟩),
    fun a hm u hu => h4 u (mem_combine_used.mpr ⟨a, hm, hu⟩)⟩
  unfold RFile.nodesAt
  rw [F.types, lookupSlot_patch, h2]
  rfl

theorem Finished.bindsAt {s : Slot} {cv : ConstVal} (hs : SlotConst f s cv) :
    ∃ b, resolveConst ce cv = .ok b ∧ rf.bindsAt s = some b.val ∧ ∀ u, u ∈ b.used → u ∈ all.used := by
  obtain ⟨b, q1, q2, q3⟩ := F.traced.all.bind_at (events_fun f F.traced.env.nodup) s cv ((mem_events_cv f s cv).mpr hs)
  exact ⟨b, q1, by unfold RFile.bindsAt; rw [F.binds]; exact q2, q3⟩

theorem Finished.svcRef {sv : Service} (hsv : sv ∈ f.services) :
    ∃ bo, resolveBaseService ce.env sv.extends = .ok bo ∧ rf.svcRef sv.name = some bo.val ∧
      ∀ u, u ∈ bo.used → u ∈ all.used := by
  obtain ⟨bo, q1, q2, q3⟩ := F.traced.all.svc_at (events_fun f F.traced.env.nodup) sv.name sv.extends
    ((mem_events_svc f _ _).mpr ⟨sv, hsv, rfl, rfl⟩)
  exact ⟨bo, q1, by unfold RFile.svcRef; rw [F.svcRefs]; exact q2, q3⟩

theorem Finished.mark_from {u : Nat} (hu : u ∈ all.used) :
    (∃ s te r, SlotType f s te ∧ resolveType ce.env s 0 te = .ok r ∧ u ∈ r.used) ∨
    (∃ s v b, SlotConst f s v ∧ resolveConst ce v = .ok b ∧ u ∈ b.used) ∨
    (∃ sv bo, sv ∈ f.services ∧ resolveBaseService ce.env sv.extends = .ok bo ∧ u ∈ bo.used) := by
  rcases F.traced.all.used_from u hu with ⟨s, te, r, h1, h2, h3⟩ | ⟨s, v, b, h1, h2, h3⟩ | ⟨n, ext, bo, h1, h2, h3⟩
  · exact Or.inl ⟨s, te, r, (mem_events_ty f s te).mp h1, h2, h3⟩
  · exact Or.inr (Or.inl ⟨s, v, b, (mem_events_cv f s v).mp h1, h2, h3⟩)
  · obtain ⟨sv, hsv, rfl, rfl⟩ := (mem_events_svc f n ext).mp h1
    exact Or.inr (Or.inr ⟨sv, bo, hsv, h2, h3⟩)

theorem Finished.flag {k : Nat} (hk : k < f.includes.length) : rf.used[k]? = some true ↔ k ∈ all.used := by
  rw [F.used, usedFlags, List.getElem?_map, List.getElem?_range hk]
  simp only [Option.map_some, Option.some.injEq, decide_eq_true_eq]

end

theorem settles_den (T : Traced p i f ce tds all) {views : Nat → Option FileView} {incs : List IncInfo} (hv : ViewsGood p views)
    (he : mkIncs views f.includes = .ok incs) {e : TdEntry} {c : Cat}
    (hs : Settles (T.le views incs) all.work e c) :
    ∀ n, EntryOf p f e n → ∃ t, Den p i (.ty (.name n)) t ∧ t.cat = c := by
  have hg := T.env
  have hf := hg.file
  induction hs with
  | @inc e k c _ ha hr hc =>
    intro n ⟨hb, hor⟩
    rw [ha] at hor
    obtain ⟨a, j, hsp, hfirst⟩ := hor
    obtain ⟨inc, g, q1, rfl, q4, _⟩ := hfirst.found
    obtain ⟨v, r7, r1⟩ := (mkIncs_ok _ incs he).2 k inc q1
    simp only [Traced.le, mkLE, r1, r7] at hr
    obtain ⟨g2, rf2, s1, rfl, s3⟩ := hv _ _ r7
    cases q4.symm.trans s1
    obtain ⟨root, hroot, rfl⟩ := Option.map_eq_some_iff.mp hr
    obtain ⟨td, nd0, hm, hal, ⟨⟨t, hden, hcat⟩, _⟩, rfl⟩ := view_typedef s3 hroot
    exact ⟨t, Den.qual hb hsp hf hfirst (hal ▸ Den.typedef q4 hm hden), hcat.symm⟩
  | @curStatic e c _ ha hl hc =>
    intro n ⟨hb, hor⟩
    rw [ha] at hor
    obtain ⟨hname, hsp⟩ := hor
    obtain ⟨td, a0, h1, h2, h3, rfl⟩ := T.local_root hl
    rcases (nodeOut_facts hg h3).cat with ⟨_, t, hden, hcat⟩ | ⟨hcat, _⟩
    · exact ⟨t, Den.loc hb hsp (hname ▸ h2 ▸ Den.typedef hf h1 hden), hcat.symm⟩
    · exact absurd hcat hc
  | @curStep e e' c0 c _ ha hl he' hadr _ ih =>
    intro n ⟨hb, hor⟩
    rw [ha] at hor
    obtain ⟨hname, hsp⟩ := hor
    obtain ⟨td, a0, h1, h2, h3, _⟩ := T.local_root hl
    -- `e'` sits at the root of typedef `e.name`, so it is the entry that node queued
    have hea := T.entry_at he' hadr (h2 ▸ SlotType.typedef h1) (nodes_head _) h3
    rcases (nodeOut_facts hg h3).cat with ⟨hw, _⟩ | ⟨_, e'', n', hw, hsubn, hentry⟩
    · rw [hw] at hea; cases hea
    · rw [hw] at hea
      cases List.mem_singleton.mp hea
      obtain ⟨t, hden, hcat⟩ := ih n' hentry
      exact ⟨t, Den.loc hb hsp (hname ▸ h2 ▸ Den.typedef hf h1 (hsubn ▸ hden)), hcat⟩

end

theorem resolveAST_good {p : Program} {views : Nat → Option FileView} {gfuel i : Nat} {f : File} {rf : RFile}
    (hf : p[i]? = some f) (hv : ViewsGood p views) (h : resolveAST views gfuel i f = .ok rf) :
    Good p i f rf := by
  obtain ⟨R⟩ := resolveAST_run h
  have F := R.finished hf hv
  have T := F.traced
  obtain ⟨hsound, hdone⟩ := resolveTypedefs_ok R.loop
  refine ⟨T.env.nodup, fun n c => by rw [F.n2c]; exact T.env.n2c n c, fun s te hs => ?_⟩
  obtain ⟨as, hidx, hnodes, hwork, _⟩ := F.nodes hs
  refine ⟨_, hnodes, by rw [patchNodes_length, List.length_map, hidx.length], fun k sub nd hsub hnd => ?_⟩
  obtain ⟨a, hak, hout⟩ := hidx.get k sub hsub
  rw [patchNodes_get, List.getElem?_map, hak] at hnd
  cases hnd
  rw [Nat.zero_add] at hout ⊢
  have facts := nodeOut_facts T.env hout
  -- a cell at this address was written for an entry, and the entry at an address is one its node queued
  have cell : ∀ c, R.st.get (s, k) = some c → ∃ e, e ∈ a.work ∧ Settles _ R.all.work e c := fun c hget =>
    let ⟨_, e, he, hadr, hset⟩ := hsound _ _ hget
    ⟨e, T.entry_at he hadr hs hsub hout, hset⟩
  unfold patchNode
  rcases facts.cat with ⟨hw, t, hden, hc⟩ | ⟨_, e, n, hw, rfl, hentry⟩
  · -- nothing queued: no cell, the node is as `nodeOut` left it
    cases hget : R.st.get (s, k) with
    | none => exact ⟨⟨t, hden, hc⟩, facts.isTd, facts.ref⟩
    | some c =>
      obtain ⟨e, he, _⟩ := cell c hget
      rw [hw] at he
      cases he
  · -- `e` queued: the cell holds the category `e` settled at, and the loop writes nothing else
    have hea : e ∈ a.work := hw ▸ List.mem_cons_self
    obtain ⟨c, hget⟩ := hdone e (hwork a (List.mem_iff_getElem?.mpr ⟨k, hak⟩) e hea)
    rw [facts.addr e hea] at hget
    obtain ⟨e', he', hset⟩ := cell c hget
    rw [hw] at he'
    cases List.mem_singleton.mp he'
    obtain ⟨t, hden, htc⟩ := settles_den T hv R.e1 hset n hentry
    rw [hget]
    exact ⟨⟨t, hden, htc.symm⟩, facts.isTd, facts.ref⟩

end Sem
