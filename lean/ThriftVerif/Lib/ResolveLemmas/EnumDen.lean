import ThriftVerif.Lib.ResolveLemmas.Unique
import ThriftVerif.Lib.ResolveLemmas.GetEnum
/-
  getEnum against `EnumDen` on views that show each file as the specification reads it (`AllViews`).  A typedef chain is a
  list of links (`TdStep`); what a view shows of a typedef is exactly a link (`tdStep_of_view`, `TdStep.view`), so links are
  functional because the view is a function (`TdStep.unique`).  getEnum follows one link per level: what it finds is what
  the name denotes (`getEnum_sound`), and where it returns it finds what the name denotes (`getEnum_complete_h`: chains
  repeat no key, `enumDenH_fun`).  Constant binding uses `getEnum_iff` only.
-/
namespace Sem

variable {p : Program} {views : Nat → Option FileView}

/-- What getEnum relies on in the AST `j` it looks at. -/
structure ViewSpec (p : Program) (views : Nat → Option FileView) (j : Nat) (v : FileView) : Prop where
  ex : ∃ g, p[j]? = some g ∧ g.names.Nodup ∧
    (∀ n c, v.n2c n = some c ↔ Declares g n c) ∧
    (∀ n, v.enum n = (findEnum n g.enums).map (fun e => e.values.map (·.name))) ∧
    (∀ b root, v.typedef b = some root → ∃ td, td ∈ g.typedefs ∧ td.alias = b ∧
        root.rootName = td.type.rootName ∧ (∀ k b', root.ref = some ⟨k, b'⟩ ↔ QualRef p j td.type k b') ∧
        ∃ t, Den p j (.ty td.type) t) ∧
    (∀ td, td ∈ g.typedefs → ∃ root, v.typedef td.alias = some root) ∧
    v.incs = g.includes.map (·.target) ∧
    (∀ (inc : Include), inc ∈ g.includes → ∃ v', views inc.target = some v')

def AllViews (p : Program) (views : Nat → Option FileView) : Prop :=
  ∀ j v, views j = some v → ViewSpec p views j v

section
variable (hv : AllViews p views) {j : Nat} {v : FileView} (hvj : views j = some v)
include hv hvj

theorem AllViews.file : ∃ g, p[j]? = some g :=
  let ⟨g, hg, _⟩ := (hv j v hvj).ex
  ⟨g, hg⟩

variable {f : File} (hf : p[j]? = some f)
include hf

theorem AllViews.nodup : f.names.Nodup := by
  obtain ⟨g, hg, h, _⟩ := (hv j v hvj).ex
  cases hf.symm.trans hg
  exact h

theorem AllViews.n2c (n : Bytes) (c : Cat) : v.n2c n = some c ↔ Declares f n c := by
  obtain ⟨g, hg, _, h, _⟩ := (hv j v hvj).ex
  cases hf.symm.trans hg
  exact h n c

theorem AllViews.enum (n : Bytes) : v.enum n = (findEnum n f.enums).map (fun e => e.values.map (·.name)) := by
  obtain ⟨g, hg, _, _, h, _⟩ := (hv j v hvj).ex
  cases hf.symm.trans hg
  exact h n

theorem AllViews.typedef {b : Bytes} {root : TdRoot} (ht : v.typedef b = some root) :
    ∃ td, td ∈ f.typedefs ∧ td.alias = b ∧ root.rootName = td.type.rootName ∧
      (∀ k b', root.ref = some ⟨k, b'⟩ ↔ QualRef p j td.type k b') ∧ ∃ t, Den p j (.ty td.type) t := by
  obtain ⟨g, hg, _, _, _, h, _⟩ := (hv j v hvj).ex
  cases hf.symm.trans hg
  exact h b root ht

theorem AllViews.typedef_ex {td : Typedef} (htd : td ∈ f.typedefs) : ∃ root, v.typedef td.alias = some root := by
  obtain ⟨g, hg, _, _, _, _, h, _⟩ := (hv j v hvj).ex
  cases hf.symm.trans hg
  exact h td htd

theorem AllViews.incs : v.incs = f.includes.map (·.target) := by
  obtain ⟨g, hg, _, _, _, _, _, h, _⟩ := (hv j v hvj).ex
  cases hf.symm.trans hg
  exact h

theorem AllViews.closed {inc : Include} (hinc : inc ∈ f.includes) : ∃ v', views inc.target = some v' := by
  obtain ⟨g, hg, _, _, _, _, _, _, h⟩ := (hv j v hvj).ex
  cases hf.symm.trans hg
  exact h inc hinc

end

theorem enumDen_declares {p : Program} {j : Nat} {b : Bytes} {e : Nat × Bytes} {idx : Int}
    (h : EnumDen p j b e idx) : ∃ g c, p[j]? = some g ∧ Declares g b c := by
  cases h with
  | enum h1 h2 => exact ⟨_, _, h1, h2⟩
  | tdLoc h1 h2 _ _ _ _ => exact ⟨_, _, h1, Declares.typedef h2⟩
  | tdQual h1 h2 _ _ _ _ _ => exact ⟨_, _, h1, Declares.typedef h2⟩

theorem kw_container : isContainerName kwList = true ∧ isContainerName kwSet = true ∧ isContainerName kwMap = true := by
  decide

/-- `ok` is the include the link goes through when the name is qualified. -/
inductive TdStep (p : Program) (j : Nat) (b : Bytes) : Option Nat → Nat → Bytes → Prop
  | loc {f td n} : p[j]? = some f → td ∈ f.typedefs → td.alias = b → td.type = .name n →
      specBase n = none → isContainerName n = false → splitLastDot n = none → TdStep p j b none j n
  | qual {f td n a b' k j' c} : p[j]? = some f → td ∈ f.typedefs → td.alias = b → td.type = .name n →
      specBase n = none → splitLastDot n = some (a, b') → FirstInc p f Cat.isTypeLikeSpec a b' k j' c →
      TdStep p j b (some k) j' b'

/-- The include index a chain reports: that of its first qualified link in the starting file. -/
def stepIdx (ok : Option Nat) (idx : Int) : Int :=
  match ok with
  | none => idx
  | some k => (k : Int)

theorem TdStep.enumDen {j : Nat} {b : Bytes} {ok : Option Nat} {j' : Nat} {b' : Bytes} {e : Nat × Bytes} {idx : Int}
    (hs : TdStep p j b ok j' b') (hd : EnumDen p j' b' e idx) : EnumDen p j b e (stepIdx ok idx) := by
  cases hs with
  | loc h1 h2 h3 h4 h5 h6 h7 => subst h3; exact .tdLoc h1 h2 h4 h5 h6 h7 hd
  | qual h1 h2 h3 h4 h5 h6 h7 => subst h3; exact .tdQual h1 h2 h4 h5 h6 h7 hd

theorem viewSpec_typedef (hv : AllViews p views)
    {j : Nat} {v : FileView} (hvj : views j = some v) {f : File} (h1 : p[j]? = some f)
    {td : Typedef} (h2 : td ∈ f.typedefs) :
    v.n2c td.alias = some .typedef ∧ ∃ root, v.typedef td.alias = some root ∧
      root.rootName = td.type.rootName ∧ ∀ k b, root.ref = some ⟨k, b⟩ ↔ QualRef p j td.type k b := by
  obtain ⟨root, ht⟩ := hv.typedef_ex hvj h1 h2
  obtain ⟨td', htdm, hal, hrn, href, _⟩ := hv.typedef hvj h1 ht
  cases findTypedef_unique (hv.nodup hvj h1) htdm h2 hal
  exact ⟨(hv.n2c hvj h1 _ _).mpr (.typedef h2), root, ht, hrn, href⟩

theorem tdStep_of_view (hv : AllViews p views) {j : Nat} {v : FileView} {b : Bytes} {root : TdRoot}
    (hvj : views j = some v) (ht : v.typedef b = some root) :
    (root.ref = none → ¬ inCategoryMap root.rootName = true → TdStep p j b none j root.rootName) ∧
    ∀ r tgt, root.ref = some r → v.incs[r.index]? = some tgt → TdStep p j b (some r.index) tgt r.name := by
  obtain ⟨g, hg⟩ := hv.file hvj
  obtain ⟨td, htdm, hal, hrn, href, t, hden⟩ := hv.typedef hvj hg ht
  refine ⟨?_, ?_⟩
  · intro hr hcm
    rw [inCategoryMap_iff, hrn, not_or] at hcm
    rw [hrn]
    cases hty : td.type with
    | name n =>
      rw [hty] at hcm hden
      have s2 : specBase n = none := Option.eq_none_iff_forall_ne_some.mpr fun c hb => hcm.1 (specBase_some_mem hb)
      refine .loc hg htdm hal hty s2 (Bool.eq_false_iff.mpr hcm.2) ?_
      cases hden with
      | base q1 => cases s2.symm.trans q1
      | loc _ q2 _ => exact q2
      | qual _ q2 q3 q4 _ =>
        -- a qualified name has a Reference
        have := (href _ _).mpr ⟨n, _, _, _, _, hty, s2, q3, q2, q4⟩
        rw [hr] at this
        cases this
    | list x =>
      rw [hty] at hcm
      exact absurd kw_container.1 hcm.2
    | set x =>
      rw [hty] at hcm
      exact absurd kw_container.2.1 hcm.2
    | map x y =>
      rw [hty] at hcm
      exact absurd kw_container.2.2 hcm.2
  · intro r tgt hr hix0
    obtain ⟨n, f', a, j', c', e1, e2, e3, e4, e5⟩ := (href r.index r.name).mp (by rw [hr])
    cases hg.symm.trans e3
    obtain ⟨inc, _, r1, r2, _⟩ := e5.found
    have hix : v.incs[r.index]? = some j' := by
      rw [hv.incs hvj hg, List.getElem?_map, r1, ← r2]
      rfl
    cases hix.symm.trans hix0
    exact .qual hg htdm hal e1 e2 e4 e5

theorem TdStep.view (hv : AllViews p views) {j : Nat} {v : FileView} {b : Bytes} {ok : Option Nat} {j' : Nat} {b' : Bytes}
    (hvj : views j = some v) (h : TdStep p j b ok j' b') :
    ∃ root, v.n2c b = some .typedef ∧ v.typedef b = some root ∧ (∃ v', views j' = some v') ∧
      match (generalizing := false) ok with
      | none => root.ref = none ∧ ¬ inCategoryMap root.rootName = true ∧ root.rootName = b' ∧ j' = j
      | some k => root.ref = some ⟨k, b'⟩ ∧ v.incs[k]? = some j' := by
  cases h with
  | @loc f td n h1 h2 h3 h4 h5 h6 h7 =>
    subst h3
    obtain ⟨hn, root, ht, hrn, href⟩ := viewSpec_typedef hv hvj h1 h2
    rw [h4] at hrn href
    refine ⟨root, hn, ht, ⟨v, hvj⟩, ?_, ?_, hrn, rfl⟩
    · cases hrr : root.ref with
      | none => rfl
      | some rr => exact absurd ((href rr.index rr.name).mp (by rw [hrr])) (not_qual_of_nodot h7 _ _)
    · rw [hrn, inCategoryMap_iff]
      simp only [TypeExpr.rootName, not_or]
      exact ⟨specBase_none_not_mem h5, by rw [h6]; simp⟩
  | @qual f td n a b' k j' c h1 h2 h3 h4 h5 h6 h7 =>
    subst h3
    obtain ⟨hn, root, ht, _, href⟩ := viewSpec_typedef hv hvj h1 h2
    obtain ⟨inc, _, r1, r2, _⟩ := h7.found
    subst r2
    refine ⟨root, hn, ht, hv.closed hvj h1 (List.mem_of_getElem? r1), ?_, ?_⟩
    · exact (href k b').mpr (by rw [h4]; exact ⟨n, f, a, _, c, rfl, h5, h1, h6, h7⟩)
    · rw [hv.incs hvj h1, List.getElem?_map, r1]; rfl

theorem TdStep.not_enum (hv : AllViews p views) {j : Nat} {v : FileView} (hvj : views j = some v) {b : Bytes}
    {ok : Option Nat} {j' : Nat} {b' : Bytes} (h : TdStep p j b ok j' b') {f : File} (hf : p[j]? = some f) :
    ¬ Declares f b .enum := by
  intro hd
  obtain ⟨_, hn, _⟩ := h.view hv hvj
  rw [(hv.n2c hvj hf b .enum).mpr hd] at hn; cases hn

theorem TdStep.unique (hv : AllViews p views) {j : Nat} {v : FileView} (hvj : views j = some v) {b : Bytes}
    {ok ok2 : Option Nat} {j' j2 : Nat} {b' b2 : Bytes} (h : TdStep p j b ok j' b') (h' : TdStep p j b ok2 j2 b2) :
    ok2 = ok ∧ j2 = j' ∧ b2 = b' := by
  obtain ⟨root, _, ht, _, hok⟩ := h.view hv hvj
  obtain ⟨root', _, ht', _, hok'⟩ := h'.view hv hvj
  cases ht.symm.trans ht'
  cases ok <;> cases ok2 <;> simp only at hok hok'
  · obtain ⟨_, _, rfl, rfl⟩ := hok
    obtain ⟨_, _, rfl, rfl⟩ := hok'
    exact ⟨rfl, rfl, rfl⟩
  · cases hok.1.symm.trans hok'.1
  · cases hok.1.symm.trans hok'.1
  · cases hok.1.symm.trans hok'.1
    cases hok.2.symm.trans hok'.2
    exact ⟨rfl, rfl, rfl⟩

theorem getEnum_sound (hv : AllViews p views) (fuel : Nat) (seen : List (Nat × Bytes)) (j : Nat) (name : Bytes)
    {vals : List Bytes} {idx : Int} (h : getEnum views fuel seen j name = .ok (some vals, idx)) :
    ∃ e, EnumDen p j name e idx ∧ ∀ x, x ∈ vals → EnumHasValue p e x := by
  -- the exits of getEnum are numbered at the head of ResolveLemmas/GetEnum.lean
  fun_induction getEnum views fuel seen j name generalizing idx with
  | case5 _ _ j name v hvj _ he hn =>
    cases h
    obtain ⟨g, hg⟩ := hv.file hvj
    rw [hv.enum hvj hg] at he
    obtain ⟨en, hfe, rfl⟩ := Option.map_eq_some_iff.mp he
    obtain ⟨hm, hnm⟩ := findEnum_some hfe
    exact ⟨(j, name), .enum hg ((hv.n2c hvj hg name _).mp hn), fun x hx => ⟨g, en, hg, hm, hnm, hx⟩⟩
  | case10 _ _ _ _ _ hvj _ ht _ r hr tgt hix _ _ hsub _ _ ih =>
    cases h
    obtain ⟨e, hed, hev⟩ := ih hsub
    exact ⟨e, ((tdStep_of_view hv hvj ht).2 r tgt hr hix).enumDen hed, hev⟩
  | case13 _ _ _ _ _ hvj _ ht _ hr hcm _ _ ih =>
    obtain ⟨e, hed, hev⟩ := ih h
    exact ⟨e, ((tdStep_of_view hv hvj ht).1 hr hcm).enumDen hed, hev⟩
  | _ => cases h

inductive EnumDenH (p : Program) : Nat → Bytes → Nat × Bytes → Int → Nat → Prop
  | enum {j f b} : p[j]? = some f → Declares f b .enum → EnumDenH p j b (j, b) (-1) 0
  | step {j b ok j' b' e idx h} : TdStep p j b ok j' b' → EnumDenH p j' b' e idx h →
      EnumDenH p j b e (stepIdx ok idx) (h + 1)

theorem enumDen_height {p : Program} {j : Nat} {b : Bytes} {e : Nat × Bytes} {idx : Int}
    (h : EnumDen p j b e idx) : ∃ n, EnumDenH p j b e idx n := by
  induction h with
  | enum h1 h2 => exact ⟨0, .enum h1 h2⟩
  | tdLoc h1 h2 h3 h4 hc h5 _ ih => obtain ⟨n, hn⟩ := ih; exact ⟨n + 1, .step (.loc h1 h2 rfl h3 h4 hc h5) hn⟩
  | tdQual h1 h2 h3 h4 h5 h6 _ ih => obtain ⟨n, hn⟩ := ih; exact ⟨n + 1, .step (.qual h1 h2 rfl h3 h4 h5 h6) hn⟩

theorem enumDenH_fun (hv : AllViews p views) :
    ∀ {j b e idx h}, EnumDenH p j b e idx h → (∃ v, views j = some v) →
      ∀ {e' idx' h'}, EnumDenH p j b e' idx' h' → h = h' := by
  intro j b e idx h hd
  induction hd with
  | enum h1 h2 =>
    intro ⟨v, hvj⟩ e' idx' h' hd'
    cases hd' with
    | enum _ _ => rfl
    | step hs' _ => exact absurd h2 (hs'.not_enum hv hvj h1)
  | step hs _ ih =>
    intro ⟨v, hvj⟩ e' idx' h' hd'
    cases hd' with
    | enum q1 q2 => exact absurd q2 (hs.not_enum hv hvj q1)
    | step hs' hsub' =>
      obtain ⟨rfl, rfl, rfl⟩ := hs.unique hv hvj hs'
      obtain ⟨_, _, _, hj', _⟩ := hs.view hv hvj
      rw [ih hj' hsub']

/-- The invariant of getEnum's visited set: it holds typedefs strictly further from the enum than the name looked at. -/
theorem seen_step (hv : AllViews p views)
    {j : Nat} {b : Bytes} {e : Nat × Bytes} {idx : Int} {h : Nat}
    (hself : EnumDenH p j b e idx (h + 1)) (hview : ∃ v, views j = some v) {seen : List (Nat × Bytes)}
    (hseen : ∀ k, k ∈ seen → ∀ e' idx' h', EnumDenH p k.1 k.2 e' idx' h' → h + 1 < h') :
    (j, b) ∉ seen ∧ ∀ k, k ∈ (j, b) :: seen → ∀ e' idx' h', EnumDenH p k.1 k.2 e' idx' h' → h < h' := by
  refine ⟨fun hm => Nat.lt_irrefl _ (hseen _ hm _ _ _ hself), ?_⟩
  intro k hk e' idx' h' hd'
  rcases List.mem_cons.mp hk with rfl | hk
  · have := enumDenH_fun hv hself hview hd'
    omega
  · have := hseen k hk e' idx' h' hd'
    omega

theorem getEnum_complete_h (hv : AllViews p views) :
    ∀ {j name e idx h}, EnumDenH p j name e idx h → (∃ v, views j = some v) →
      ∀ fuel (seen : List (Nat × Bytes)) r,
      (∀ k, k ∈ seen → ∀ e' idx' h', EnumDenH p k.1 k.2 e' idx' h' → h < h') →
      getEnum views fuel seen j name = .ok r →
      ∃ vals, r = (some vals, idx) ∧ ∀ x, EnumHasValue p e x → x ∈ vals := by
  intro j name e idx h hd
  induction hd with
  | @enum j f b h1 h2 =>
    intro ⟨v, hvj⟩ fuel seen r _ hr
    cases fuel with
    | zero => cases hr
    | succ fuel =>
      rw [getEnum_enum hvj ((hv.n2c hvj h1 b .enum).mpr h2), hv.enum hvj h1] at hr
      cases hfe : findEnum b f.enums with
      | none =>
        rw [hfe] at hr
        cases hr
      | some en =>
        rw [hfe] at hr
        cases hr
        obtain ⟨hm, hnm⟩ := findEnum_some hfe
        refine ⟨_, rfl, ?_⟩
        rintro x ⟨g', en', q1, q2, q3, q4⟩
        cases h1.symm.trans q1
        cases List.inj_of_nodup_map (·.name) (names_sublists f (hv.nodup hvj h1)).2.2.1 q2 hm (q3.trans hnm.symm)
        exact q4
  | @step j b ok j' b' e idx h hs hsub ih =>
    intro hview fuel seen r hseen hr
    obtain ⟨hns, hseen'⟩ := seen_step hv (.step hs hsub) hview hseen
    obtain ⟨v, hvj⟩ := hview
    obtain ⟨root, hn, ht, hview', hok⟩ := hs.view hv hvj
    cases fuel with
    | zero => cases hr
    | succ fuel =>
      rw [getEnum_typedef hvj hn ht hns] at hr
      cases ok with
      | none =>
        obtain ⟨hrefn, hncm, rfl, rfl⟩ := hok
        rw [hrefn] at hr
        simp only at hr
        rw [if_neg hncm] at hr
        exact ih hview' fuel _ r hseen' hr
      | some k =>
        obtain ⟨hrefs, hix⟩ := hok
        rw [hrefs] at hr
        simp only [hix] at hr
        cases hsubc : getEnum views fuel ((j, b) :: seen) j' b' with
        | error err =>
          rw [hsubc] at hr
          cases hr
        | ok res =>
          rw [hsubc] at hr
          obtain ⟨vals, rfl, e2⟩ := ih hview' fuel _ res hseen' hsubc
          cases hr
          exact ⟨vals, rfl, e2⟩

/-- Only where getEnum returns at all (`.ok r`): its errors are not excluded. -/
theorem getEnum_iff (hv : AllViews p views) {j : Nat} {name : Bytes} (hview : ∃ v, views j = some v)
    {fuel : Nat} {r : Option (List Bytes) × Int} (hr : getEnum views fuel [] j name = .ok r) (idx : Int) (x : Bytes) :
    (∃ vals, r = (some vals, idx) ∧ x ∈ vals) ↔ ∃ e, EnumDen p j name e idx ∧ EnumHasValue p e x := by
  constructor
  · rintro ⟨vals, rfl, hx⟩
    obtain ⟨e, hed, hev⟩ := getEnum_sound hv _ _ _ _ hr
    exact ⟨e, hed, hev x hx⟩
  · rintro ⟨e, hed, hx⟩
    obtain ⟨h, hh⟩ := enumDen_height hed
    obtain ⟨vals, e1, e2⟩ := getEnum_complete_h hv hh hview fuel [] r (by intro k hk; simp at hk) hr
    exact ⟨vals, e1, e2 x hx⟩

theorem allViews_keys {p : Program} {views : Nat → Option FileView} (hv : AllViews p views) :
    ∀ j v n, views j = some v → v.n2c n = some .typedef → (j, n) ∈ p.typedefKeys := by
  intro j v n hvj hn
  obtain ⟨g, hg⟩ := hv.file hvj
  obtain ⟨td, htd, hal⟩ := declares_typedef ((hv.n2c hvj hg n .typedef).mp hn)
  have := mem_keysFrom p 0 j g td hg htd
  rw [Nat.zero_add, hal] at this
  exact this

end Sem
