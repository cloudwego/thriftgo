import ThriftVerif.Lib.ResolveLemmas.Basic
/-
  The syntax ResolveAST visits, as a flat list: `File.events` are the ResolveType /
  ResolveConstValue / ResolveBaseService calls made on a file, in order.  They are the file's slots
  (`SlotType` / `SlotConst`) and its services; when the global names of the file are pairwise
  distinct, a slot names one piece of syntax (`EvFun`, `events_fun`).  No model function occurs here.
-/
namespace Sem

inductive Ev
  | ty (s : Slot) (te : TypeExpr)
  | cv (s : Slot) (v : ConstVal)
  | svc (name ext : Bytes)

def fieldEvs (mk : Nat → Slot) : Nat → List Field → List Ev
  | _, [] => []
  | k, fl :: r =>
    (Ev.ty (mk k) fl.type ::
      (match fl.dflt with
       | some d => [Ev.cv (mk k) d]
       | none => [])) ++ fieldEvs mk (k + 1) r

def fnEv (svc : Bytes) (k : Nat) (fn : Function) : List Ev :=
  (match fn.ret with
   | some t => [Ev.ty (.ret svc k) t]
   | none => []) ++
  (fieldEvs (fun a => .arg svc k a) 0 fn.args ++ fieldEvs (fun a => .throw svc k a) 0 fn.throws)

def fnEvs (svc : Bytes) : Nat → List Function → List Ev
  | _, [] => []
  | k, fn :: r => fnEv svc k fn ++ fnEvs svc (k + 1) r

def svcEvs (s : Service) : List Ev := fnEvs s.name 0 s.functions ++ [Ev.svc s.name s.extends]

def File.events (f : File) : List Ev :=
  ((f.typedefs.map (fun td => Ev.ty (.typedef td.alias) td.type) ++
    f.constants.flatMap (fun c => [Ev.ty (.const c.name) c.type, Ev.cv (.const c.name) c.value])) ++
   f.structLikes.flatMap (fun s => fieldEvs (fun k => .field s.name k) 0 s.fields)) ++
  f.services.flatMap svcEvs

/-- The calls of ResolveAST's first loop (the typedefs' types). -/
def File.tdEvents (f : File) : List Ev := f.typedefs.map (fun td => Ev.ty (.typedef td.alias) td.type)

theorem mem_fieldEvs (mk : Nat → Slot) (l : List Field) (k : Nat) (ev : Ev) :
    ev ∈ fieldEvs mk k l ↔ ∃ (j : Nat) (fl : Field), l[j]? = some fl ∧
      (ev = .ty (mk (k + j)) fl.type ∨ ∃ d, fl.dflt = some d ∧ ev = .cv (mk (k + j)) d) := by
  fun_induction fieldEvs mk k l with
  | case1 => simp
  | case2 k fl r ih =>
    simp only [Nat.add_assoc, Nat.add_comm 1] at ih
    rw [exists_getElem?_cons, Nat.add_zero, ← ih]
    simp only [List.cons_append, List.mem_cons, List.mem_append]
    cases fl.dflt <;> simp [or_assoc]

theorem mem_fnEvs (svc : Bytes) (l : List Function) (k : Nat) (ev : Ev) :
    ev ∈ fnEvs svc k l ↔ ∃ (j : Nat) (fn : Function), l[j]? = some fn ∧ ev ∈ fnEv svc (k + j) fn := by
  fun_induction fnEvs svc k l with
  | case1 => simp
  | case2 k fn r ih =>
    simp only [Nat.add_assoc, Nat.add_comm 1] at ih
    rw [List.mem_append, exists_getElem?_cons, ← ih]
    exact Iff.rfl

theorem mem_fnEv (svc : Bytes) (k : Nat) (fn : Function) (ev : Ev) :
    ev ∈ fnEv svc k fn ↔
      (∃ te, fn.ret = some te ∧ ev = .ty (.ret svc k) te) ∨
      ev ∈ fieldEvs (fun a => .arg svc k a) 0 fn.args ∨ ev ∈ fieldEvs (fun a => .throw svc k a) 0 fn.throws := by
  unfold fnEv
  simp only [List.mem_append]
  cases fn.ret <;> simp

theorem mem_svcEvs (sv : Service) (ev : Ev) :
    ev ∈ svcEvs sv ↔
      (∃ (k : Nat) (fn : Function), sv.functions[k]? = some fn ∧ ev ∈ fnEv sv.name k fn) ∨
      ev = Ev.svc sv.name sv.extends := by
  unfold svcEvs
  simp only [List.mem_append, mem_fnEvs, Nat.zero_add, List.mem_cons, List.not_mem_nil, or_false]

theorem mem_events_ty (f : File) (s : Slot) (te : TypeExpr) :
    Ev.ty s te ∈ f.events ↔ SlotType f s te := by
  unfold File.events
  simp only [List.mem_append, List.mem_map, List.mem_flatMap, List.mem_cons, Ev.ty.injEq,
    List.not_mem_nil, or_false, reduceCtorEq, mem_svcEvs, mem_fnEv, mem_fieldEvs, and_false,
    exists_false, Nat.zero_add]
  constructor
  · rintro (((⟨td, h, rfl, rfl⟩ | ⟨c, h, ⟨rfl, rfl⟩⟩) | ⟨sl, h, j, fl, h1, rfl, rfl⟩) |
      ⟨sv, h, k, fn, h1, ⟨_, h3, rfl, rfl⟩ | ⟨a, fl, h3, rfl, rfl⟩ | ⟨a, fl, h3, rfl, rfl⟩⟩)
    · exact .typedef h
    · exact .const h
    · exact .field h h1
    · exact .ret h h1 h3
    · exact .arg h h1 h3
    · exact .throw h h1 h3
  · intro h
    cases h with
    | typedef h => exact Or.inl (Or.inl (Or.inl ⟨_, h, rfl, rfl⟩))
    | const h => exact Or.inl (Or.inl (Or.inr ⟨_, h, rfl, rfl⟩))
    | field h h1 => exact Or.inl (Or.inr ⟨_, h, _, _, h1, rfl, rfl⟩)
    | ret h h1 h2 => exact Or.inr ⟨_, h, _, _, h1, Or.inl ⟨_, h2, rfl, rfl⟩⟩
    | arg h h1 h2 => exact Or.inr ⟨_, h, _, _, h1, Or.inr (Or.inl ⟨_, _, h2, rfl, rfl⟩)⟩
    | throw h h1 h2 => exact Or.inr ⟨_, h, _, _, h1, Or.inr (Or.inr ⟨_, _, h2, rfl, rfl⟩)⟩

theorem mem_events_cv (f : File) (s : Slot) (v : ConstVal) :
    Ev.cv s v ∈ f.events ↔ SlotConst f s v := by
  unfold File.events
  simp only [List.mem_append, List.mem_map, List.mem_flatMap, List.mem_cons, Ev.cv.injEq,
    List.not_mem_nil, or_false, reduceCtorEq, false_or, and_false, exists_false, mem_svcEvs, mem_fnEv, mem_fieldEvs,
    Nat.zero_add]
  constructor
  · rintro ((⟨c, h, ⟨rfl, rfl⟩⟩ | ⟨sl, h, j, fl, h1, d, h2, rfl, rfl⟩) |
      ⟨sv, h, k, fn, h1, ⟨a, fl, h3, d, h4, rfl, rfl⟩ | ⟨a, fl, h3, d, h4, rfl, rfl⟩⟩)
    · exact .const h
    · exact .field h h1 h2
    · exact .arg h h1 h3 h4
    · exact .throw h h1 h3 h4
  · intro h
    cases h with
    | const h => exact Or.inl (Or.inl ⟨_, h, rfl, rfl⟩)
    | field h h1 h2 => exact Or.inl (Or.inr ⟨_, h, _, _, h1, _, h2, rfl, rfl⟩)
    | arg h h1 h2 h3 => exact Or.inr ⟨_, h, _, _, h1, Or.inl ⟨_, _, h2, _, h3, rfl, rfl⟩⟩
    | throw h h1 h2 h3 => exact Or.inr ⟨_, h, _, _, h1, Or.inr ⟨_, _, h2, _, h3, rfl, rfl⟩⟩

theorem mem_events_svc (f : File) (n e : Bytes) :
    Ev.svc n e ∈ f.events ↔ ∃ sv, sv ∈ f.services ∧ n = sv.name ∧ e = sv.extends := by
  unfold File.events
  simp only [List.mem_append, List.mem_map, List.mem_flatMap, List.mem_cons,
    List.not_mem_nil, or_false, reduceCtorEq, false_or, and_false, exists_false, mem_svcEvs, mem_fnEv, mem_fieldEvs,
    Ev.svc.injEq]

theorem slotType_iff {f : File} {s : Slot} {te : TypeExpr} : SlotType f s te ↔
    match s with
    | .typedef a => ∃ td, td ∈ f.typedefs ∧ td.alias = a ∧ te = td.type
    | .const n => ∃ c, c ∈ f.constants ∧ c.name = n ∧ te = c.type
    | .field sn k => ∃ sl fl, sl ∈ f.structLikes ∧ sl.name = sn ∧ sl.fields[k]? = some fl ∧ te = fl.type
    | .ret sn k => ∃ sv fn, sv ∈ f.services ∧ sv.name = sn ∧ sv.functions[k]? = some fn ∧ fn.ret = some te
    | .arg sn k a => ∃ sv fn fl, sv ∈ f.services ∧ sv.name = sn ∧ sv.functions[k]? = some fn ∧
        fn.args[a]? = some fl ∧ te = fl.type
    | .throw sn k a => ∃ sv fn fl, sv ∈ f.services ∧ sv.name = sn ∧ sv.functions[k]? = some fn ∧
        fn.throws[a]? = some fl ∧ te = fl.type := by
  constructor
  · intro h
    cases h with
    | typedef h => exact ⟨_, h, rfl, rfl⟩
    | const h => exact ⟨_, h, rfl, rfl⟩
    | field h h1 => exact ⟨_, _, h, rfl, h1, rfl⟩
    | ret h h1 h2 => exact ⟨_, _, h, rfl, h1, h2⟩
    | arg h h1 h2 => exact ⟨_, _, _, h, rfl, h1, h2, rfl⟩
    | throw h h1 h2 => exact ⟨_, _, _, h, rfl, h1, h2, rfl⟩
  · cases s with
    | typedef a => rintro ⟨td, h, rfl, rfl⟩; exact .typedef h
    | const n => rintro ⟨c, h, rfl, rfl⟩; exact .const h
    | field sn k => rintro ⟨sl, fl, h, rfl, h1, rfl⟩; exact .field h h1
    | ret sn k => rintro ⟨sv, fn, h, rfl, h1, h2⟩; exact .ret h h1 h2
    | arg sn k a => rintro ⟨sv, fn, fl, h, rfl, h1, h2, rfl⟩; exact .arg h h1 h2
    | throw sn k a => rintro ⟨sv, fn, fl, h, rfl, h1, h2, rfl⟩; exact .throw h h1 h2

theorem slotConst_iff {f : File} {s : Slot} {v : ConstVal} : SlotConst f s v ↔
    match s with
    | .const n => ∃ c, c ∈ f.constants ∧ c.name = n ∧ v = c.value
    | .field sn k => ∃ sl fl, sl ∈ f.structLikes ∧ sl.name = sn ∧ sl.fields[k]? = some fl ∧ fl.dflt = some v
    | .arg sn k a => ∃ sv fn fl, sv ∈ f.services ∧ sv.name = sn ∧ sv.functions[k]? = some fn ∧
        fn.args[a]? = some fl ∧ fl.dflt = some v
    | .throw sn k a => ∃ sv fn fl, sv ∈ f.services ∧ sv.name = sn ∧ sv.functions[k]? = some fn ∧
        fn.throws[a]? = some fl ∧ fl.dflt = some v
    | _ => False := by
  constructor
  · intro h
    cases h with
    | const h => exact ⟨_, h, rfl, rfl⟩
    | field h h1 h2 => exact ⟨_, _, h, rfl, h1, h2⟩
    | arg h h1 h2 h3 => exact ⟨_, _, _, h, rfl, h1, h2, h3⟩
    | throw h h1 h2 h3 => exact ⟨_, _, _, h, rfl, h1, h2, h3⟩
  · cases s with
    | typedef a => exact False.elim
    | ret sn k => exact False.elim
    | const n => rintro ⟨c, h, rfl, rfl⟩; exact .const h
    | field sn k => rintro ⟨sl, fl, h, rfl, h1, h2⟩; exact .field h h1 h2
    | arg sn k a => rintro ⟨sv, fn, fl, h, rfl, h1, h2, h3⟩; exact .arg h h1 h2 h3
    | throw sn k a => rintro ⟨sv, fn, fl, h, rfl, h1, h2, h3⟩; exact .throw h h1 h2 h3

theorem owned_unique {α β} {key : α → Bytes} {items : α → List β} {l : List α} (hnd : (l.map key).Nodup)
    {x x' : α} (m : x ∈ l) (m' : x' ∈ l) {n : Bytes} (e : key x = n) (e' : key x' = n)
    {k : Nat} {y y' : β} (q : (items x)[k]? = some y) (q' : (items x')[k]? = some y') : y = y' := by
  cases List.inj_of_nodup_map key hnd m m' (e.trans e'.symm)
  exact Option.some.inj (q.symm.trans q')

theorem slot_fun {f : File} (hnd : f.names.Nodup) {s : Slot} {te te' : TypeExpr}
    (h : SlotType f s te) (h' : SlotType f s te') : te = te' := by
  obtain ⟨n1, n2, _, n4, n5⟩ := names_sublists f hnd
  cases h with
  | typedef m =>
    obtain ⟨x', m', e', rfl⟩ := slotType_iff.mp h'
    rw [List.inj_of_nodup_map _ n1 m' m e']
  | const m =>
    obtain ⟨x', m', e', rfl⟩ := slotType_iff.mp h'
    rw [List.inj_of_nodup_map _ n2 m' m e']
  | field m q =>
    obtain ⟨x', fl', m', e', q', rfl⟩ := slotType_iff.mp h'
    rw [owned_unique n4 m m' rfl e' q q']
  | ret m q r =>
    obtain ⟨x', fn', m', e', q', r'⟩ := slotType_iff.mp h'
    cases owned_unique n5 m m' rfl e' q q'
    exact Option.some.inj (r.symm.trans r')
  | arg m q r | throw m q r =>
    obtain ⟨x', fn', fl', m', e', q', r', rfl⟩ := slotType_iff.mp h'
    cases owned_unique n5 m m' rfl e' q q'
    rw [Option.some.inj (r.symm.trans r')]

theorem slotConst_fun {f : File} (hnd : f.names.Nodup) {s : Slot} {v v' : ConstVal}
    (h : SlotConst f s v) (h' : SlotConst f s v') : v = v' := by
  obtain ⟨_, n2, _, n4, n5⟩ := names_sublists f hnd
  cases h with
  | const m =>
    obtain ⟨x', m', e', rfl⟩ := slotConst_iff.mp h'
    rw [List.inj_of_nodup_map _ n2 m' m e']
  | field m q r =>
    obtain ⟨x', fl', m', e', q', r'⟩ := slotConst_iff.mp h'
    cases owned_unique n4 m m' rfl e' q q'
    exact Option.some.inj (r.symm.trans r')
  | arg m q r t | throw m q r t =>
    obtain ⟨x', fn', fl', m', e', q', r', t'⟩ := slotConst_iff.mp h'
    cases owned_unique n5 m m' rfl e' q q'
    cases Option.some.inj (r.symm.trans r')
    exact Option.some.inj (t.symm.trans t')
/-- An event list with one type, one value, one base per slot or service name: a first-match lookup in what is stored from its
events then returns the result of any matching event. -/
structure EvFun (evs : List Ev) : Prop where
  ty : ∀ {s te te'}, Ev.ty s te ∈ evs → Ev.ty s te' ∈ evs → te' = te
  cv : ∀ {s v v'}, Ev.cv s v ∈ evs → Ev.cv s v' ∈ evs → v' = v
  svc : ∀ {n e e'}, Ev.svc n e ∈ evs → Ev.svc n e' ∈ evs → e' = e

theorem EvFun.sub {evs evs' : List Ev} (h : EvFun evs') (hsub : ∀ ev, ev ∈ evs → ev ∈ evs') : EvFun evs :=
  ⟨fun h1 h2 => h.ty (hsub _ h1) (hsub _ h2), fun h1 h2 => h.cv (hsub _ h1) (hsub _ h2),
   fun h1 h2 => h.svc (hsub _ h1) (hsub _ h2)⟩

theorem events_fun (f : File) (hnd : f.names.Nodup) : EvFun f.events where
  ty h h' := slot_fun hnd ((mem_events_ty f _ _).mp h') ((mem_events_ty f _ _).mp h)
  cv h h' := slotConst_fun hnd ((mem_events_cv f _ _).mp h') ((mem_events_cv f _ _).mp h)
  svc h h' := by
    obtain ⟨sv, m, e, rfl⟩ := (mem_events_svc f _ _).mp h
    obtain ⟨sv', m', e', rfl⟩ := (mem_events_svc f _ _).mp h'
    rw [List.inj_of_nodup_map _ (names_sublists f hnd).2.2.2.2 m m' (e.symm.trans e')]

theorem tdEvents_fun (f : File) (hnd : f.names.Nodup) : EvFun f.tdEvents :=
  (events_fun f hnd).sub fun _ hm =>
    List.mem_append_left _ (List.mem_append_left _ (List.mem_append_left _ hm))

end Sem
