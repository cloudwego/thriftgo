import ThriftVerif.Lib.ResolveLemmas.Unique
/-
  Deref on a resolved program terminates and returns what the node denotes.
-/
namespace Sem

theorem deref_succ_none_plain (views : Nat → Option FileView) (fuel i : Nat) (name : Bytes) (cat : Cat) :
    deref views (fuel + 1) i name cat false none = .ok (i, name, cat) :=
  rfl

def Halts {α} (g : Nat → Res α) (r : α) : Prop :=
  ∃ fuel0, ∀ fuel, fuel0 ≤ fuel → g fuel = .ok r

theorem Halts.step {α} {g g' : Nat → Res α} {r : α} (h : ∀ m, g (m + 1) = g' m) (hg : Halts g' r) : Halts g r := by
  obtain ⟨fuel0, hfuel⟩ := hg
  refine ⟨fuel0 + 1, fun fuel hle => ?_⟩
  cases fuel with
  | zero => exact absurd hle (Nat.not_succ_le_zero _)
  | succ m =>
    rw [h m]
    exact hfuel m (Nat.le_of_succ_le_succ hle)

theorem Halts.now {α} {g : Nat → Res α} {r : α} (h : ∀ m, g (m + 1) = .ok r) : Halts g r :=
  Halts.step (g' := fun _ => .ok r) h ⟨0, fun _ _ => rfl⟩

theorem tableViews_at {p : Program} {tbl : Table} {j : Nat} {f : File} {rf : RFile}
    (hf : p[j]? = some f) (hr : tbl[j]? = some (some rf)) : tableViews p tbl j = some (rf.view f) := by
  unfold tableViews
  rw [hf, hr]

/-- The motive of `deref_den`. -/
def DerefGoal (p : Program) (views : Nat → Option FileView) (j : Nat) (t : Target) : NameOrType → Prop
  | .nm b => ∀ v root, views j = some v → v.typedef b = some root →
      Halts (fun fuel => deref views fuel j root.rootName root.cat root.isTypedef root.ref) (t.file, t.name, t.cat)
  | .ty sub => ∀ nd, NodeGood p j sub nd →
      Halts (fun fuel => deref views fuel j sub.rootName nd.cat nd.isTypedef nd.ref) (t.file, t.name, t.cat)

theorem ref_none_of_not_qual {p : Program} {j : Nat} {sub : TypeExpr} {nd : RNode}
    (h : NodeGood p j sub nd) (hq : ∀ k b, ¬ QualRef p j sub k b) : nd.ref = none := by
  cases hr : nd.ref with
  | none => rfl
  | some r => exact absurd ((h.2.2 r.index r.name).mp (by rw [hr])) (hq _ _)

theorem deref_plain {p : Program} {gfuel : Nat} {tbl : Table} (inv : TableInv p gfuel tbl)
    {views : Nat → Option FileView} {j : Nat} {sub : TypeExpr} {c : Cat} (hden : Den p j (.ty sub) ⟨j, sub.rootName, c⟩)
    (hj : ∃ rf, tbl[j]? = some (some rf))
    (hq : ∀ k b, ¬ QualRef p j sub k b) (hnt : ¬ NamesTypedef p j sub) :
    DerefGoal p views j ⟨j, sub.rootName, c⟩ (.ty sub) := by
  intro nd hng
  obtain ⟨t', hden', hcat⟩ := hng.1
  cases den_unique inv hden hj t' hden'
  have hit : nd.isTypedef = false := Bool.eq_false_iff.mpr fun hb => hnt (hng.2.1.mp hb)
  rw [ref_none_of_not_qual hng hq, hit, hcat]
  exact Halts.now fun m => deref_succ_none_plain _ m _ _ _

theorem deref_den {p : Program} {gfuel : Nat} {tbl : Table} (inv : TableInv p gfuel tbl) :
    ∀ {j x t}, Den p j x t → (∃ rf, tbl[j]? = some (some rf)) → DerefGoal p (tableViews p tbl) j t x := by
  intro j x t h
  induction h with
  | @concrete j f b c h1 h2 h3 =>
    -- no typedef of the file is called `b`
    intro ⟨rf, hr⟩ v root hv hroot
    cases (tableViews_at h1 hr).symm.trans hv
    have hgood := inv.good j f rf h1 hr
    obtain ⟨td, _, hm, rfl, _⟩ := view_typedef hgood hroot
    exact absurd (declares_unique hgood.nodup h2 (.typedef hm)) (concrete_ne_typedef h3)
  | @typedef j f td t h1 h2 _ ih =>
    intro ⟨rf, hr⟩ v root hv hroot
    cases (tableViews_at h1 hr).symm.trans hv
    have hgood := inv.good j f rf h1 hr
    obtain ⟨td', nd0, hm, hal, hng, rfl⟩ := view_typedef hgood hroot
    cases findTypedef_unique hgood.nodup hm h2 hal
    exact ih ⟨rf, hr⟩ nd0 hng
  | @base j n c h1 =>
    intro hj
    exact deref_plain inv (.base h1) hj (not_qual_of_base h1) (not_namesTypedef_of_base h1)
  | @list j v =>
    intro hj
    have hn := not_name_not_qual (p := p) (j := j) (sub := .list v) nofun
    exact deref_plain inv .list hj hn.1 hn.2
  | @set j v =>
    intro hj
    have hn := not_name_not_qual (p := p) (j := j) (sub := .set v) nofun
    exact deref_plain inv .set hj hn.1 hn.2
  | @map j kk v =>
    intro hj
    have hn := not_name_not_qual (p := p) (j := j) (sub := .map kk v) nofun
    exact deref_plain inv .map hj hn.1 hn.2
  | @loc j n t h1 h2 h3 ih =>
    intro ⟨rf, hr⟩ nd hng
    have hq : ∀ k b, ¬ QualRef p j (.name n) k b := not_qual_of_nodot h2
    cases h3 with
    | @concrete _ f _ c q1 q2 q3 =>
      refine deref_plain inv (.loc h1 h2 (.concrete q1 q2 q3)) ⟨rf, hr⟩ hq ?_ nd hng
      rintro ⟨_, f', e, _, hf', hor⟩
      cases e
      cases q1.symm.trans hf'
      rcases hor with ⟨_, hd⟩ | ⟨_, _, _, _, h4, _⟩
      · exact absurd (declares_unique (inv.good j f rf q1 hr).nodup q2 hd) (concrete_ne_typedef q3)
      · cases h2.symm.trans h4
    | @typedef _ f td _ q1 q2 _ =>
      have hit : nd.isTypedef = true :=
        hng.2.1.mpr ⟨_, f, rfl, h1, q1, Or.inl ⟨h2, .typedef q2⟩⟩
      have hv := tableViews_at q1 hr
      obtain ⟨root, hroot⟩ := view_typedef_exists (rf := rf) q2
      rw [ref_none_of_not_qual hng hq, hit]
      refine Halts.step (fun m => ?_) (ih ⟨rf, hr⟩ _ root hv hroot)
      simp only [deref, TypeExpr.rootName, Bool.not_true, Bool.false_eq_true, if_false, hv, hroot]
  | @qual j f n a b k j' c t h1 h2 h3 h4 h5 ih =>
    intro ⟨rf, hr⟩ nd hng
    have href : nd.ref = some ⟨k, b⟩ := (hng.2.2 k b).mpr ⟨n, f, a, j', c, rfl, h1, h3, h2, h4⟩
    obtain ⟨inc, g, r1, rfl, r4, r5, _⟩ := h4.found
    obtain ⟨g', rf', hg', hr'⟩ := inv.closed j f rf h3 hr inc (List.mem_of_getElem? r1)
    cases r4.symm.trans hg'
    have hgood' := inv.good _ g rf' r4 hr'
    have hv := tableViews_at h3 hr
    have hv' := tableViews_at r4 hr'
    have hincs : (rf.view f).incs[k]? = some inc.target := by
      simp only [RFile.view, mkView, List.getElem?_map, r1, Option.map_some]
    have hn2c : (rf'.view g).n2c b = some c := (hgood'.n2c b c).mpr r5
    rw [href]
    cases h5 with
    | @concrete _ _ _ c2 q1 q2 q3 =>
      cases r4.symm.trans q1
      cases declares_unique hgood'.nodup r5 q2
      refine Halts.now fun m => ?_
      simp only [deref, hv, hincs, hv', hn2c, Option.getD_some, if_neg (concrete_ne_typedef q3),
        isDerefTarget_eq_concrete, q3, if_true]
    | @typedef _ _ td _ q1 q2 _ =>
      cases r4.symm.trans q1
      cases declares_unique hgood'.nodup r5 (.typedef q2)
      obtain ⟨root, hroot⟩ := view_typedef_exists (rf := rf') q2
      refine Halts.step (fun m => ?_) (ih ⟨rf', hr'⟩ _ root hv' hroot)
      simp only [deref, hv, hincs, hv', hn2c, Option.getD_some, if_true, hroot]

end Sem
