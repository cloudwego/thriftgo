import ThriftVerif.Lib.ResolveSpec
import ThriftVerif.Core.ListLemmas
import ThriftVerif.Core.Assoc
/-
  Basic facts: association lists and lookups by key, RegisterNames, the regenerated tables against
  the specification's tables.
-/
namespace Sem

theorem lookupB_get {α} : Assoc.IsGet (lookupB (α := α)) := ⟨fun _ => rfl, fun _ _ _ => if_pos rfl, fun _ _ => (if_neg ·)⟩

theorem exists_getElem?_cons {α} {x : α} {l : List α} {P : Nat → α → Prop} :
    (∃ (j : Nat) (y : α), (x :: l)[j]? = some y ∧ P j y) ↔
      P 0 x ∨ ∃ (j : Nat) (y : α), l[j]? = some y ∧ P (j + 1) y := by
  constructor
  · rintro ⟨j, y, h, hp⟩
    cases j with
    | zero =>
      simp only [List.getElem?_cons_zero, Option.some.injEq] at h
      subst h
      exact Or.inl hp
    | succ j => exact Or.inr ⟨j, y, by simpa using h, hp⟩
  · rintro (hp | ⟨j, y, h, hp⟩)
    · exact ⟨0, x, rfl, hp⟩
    · exact ⟨j + 1, y, by simpa using h, hp⟩

def FreshKeys (l : List (Bytes × Cat)) (m : N2C) : Prop :=
  (l.map Prod.fst).Nodup ∧ ∀ k, k ∈ l.map Prod.fst → k ∉ m.map Prod.fst

theorem freshKeys_cons {n c r m} :
    FreshKeys ((n, c) :: r) m ↔ n ∉ m.map Prod.fst ∧ FreshKeys r ((n, c) :: m) := by
  simp only [FreshKeys, List.map_cons, List.nodup_cons, List.mem_cons, not_or]
  constructor
  · rintro ⟨⟨h1, h2⟩, h3⟩
    exact ⟨h3 n (.inl rfl), h2, fun k hk => ⟨fun e => h1 (e ▸ hk), h3 k (.inr hk)⟩⟩
  · rintro ⟨h3, h2, h4⟩
    exact ⟨⟨fun hn => (h4 n hn).1 rfl, h2⟩, fun k hk => hk.elim (· ▸ h3) fun hk => (h4 k hk).2⟩

theorem addNames_cases : ∀ (l : List (Bytes × Cat)) (m : N2C),
    (FreshKeys l m ∧ addNames m l = .ok (l.reverse ++ m)) ∨ (¬FreshKeys l m ∧ addNames m l = .error .multidef)
  | [], m => .inl ⟨⟨.nil, nofun⟩, rfl⟩
  | (n, c) :: r, m => by
    rw [freshKeys_cons, ← lookupB_get.eq_none_iff, List.reverse_cons, List.append_assoc]
    simp only [addNames, addName]
    cases lookupB n m with
    | some x => exact .inr ⟨fun h => (nomatch h.1), rfl⟩
    | none =>
      rcases addNames_cases r ((n, c) :: m) with ⟨h1, h2⟩ | ⟨h1, h2⟩
      · exact .inl ⟨⟨rfl, h1⟩, h2⟩
      · exact .inr ⟨fun h => h1 h.2, h2⟩

theorem declared_iff (f : File) (n : Bytes) (c : Cat) : (n, c) ∈ f.declared ↔ Declares f n c := by
  unfold File.declared
  simp only [List.mem_append, List.mem_map, Prod.mk.injEq]
  constructor
  · rintro ((((⟨x, hx, rfl, rfl⟩ | ⟨x, hx, rfl, rfl⟩) | ⟨x, hx, rfl, rfl⟩) | ⟨x, hx, rfl, rfl⟩) | ⟨x, hx, rfl, rfl⟩)
    · exact .typedef hx
    · exact .constant hx
    · exact .enum hx
    · exact .structLike hx
    · exact .service hx
  · intro h
    cases h with
    | typedef h => exact Or.inl (Or.inl (Or.inl (Or.inl ⟨_, h, rfl, rfl⟩)))
    | constant h => exact Or.inl (Or.inl (Or.inl (Or.inr ⟨_, h, rfl, rfl⟩)))
    | enum h => exact Or.inl (Or.inl (Or.inr ⟨_, h, rfl, rfl⟩))
    | structLike h => exact Or.inl (Or.inr ⟨_, h, rfl, rfl⟩)
    | service h => exact Or.inr ⟨_, h, rfl, rfl⟩

theorem registerNames_cases (f : File) :
    (f.names.Nodup ∧ registerNames f = .ok f.declared.reverse) ∨ (¬f.names.Nodup ∧ registerNames f = .error .multidef) := by
  have : FreshKeys f.declared [] ↔ f.names.Nodup := and_iff_left fun _ _ => List.not_mem_nil
  rw [← this, ← List.append_nil f.declared.reverse]
  exact addNames_cases f.declared []

theorem registerNames_ok {f : File} {m : N2C} (h : registerNames f = .ok m) :
    f.names.Nodup ∧ ∀ n c, lookupB n m = some c ↔ Declares f n c := by
  rcases registerNames_cases f with ⟨hnd, h'⟩ | ⟨_, h'⟩
  · cases h.symm.trans h'
    refine ⟨hnd, fun n c => ?_⟩
    rw [← declared_iff, ← List.mem_reverse, lookupB_get.eq_some_iff]
    rw [List.map_reverse]
    exact (List.reverse_perm _).nodup_iff.mpr hnd
  · cases h.symm.trans h'

theorem registerNames_error {f : File} {e : Err} (h : registerNames f = .error e) : e = .multidef := by
  rcases registerNames_cases f with ⟨_, h'⟩ | ⟨_, h'⟩
  · cases h.symm.trans h'
  · exact Except.error.inj (h.symm.trans h')

theorem registerNames_complete {f : File} (h : f.names.Nodup) : ∃ m, registerNames f = .ok m :=
  (registerNames_cases f).elim (fun h' => ⟨_, h'.2⟩) fun h' => absurd h h'.1

theorem declares_unique {f : File} (hnd : f.names.Nodup) {n : Bytes} {c c' : Cat}
    (h : Declares f n c) (h' : Declares f n c') : c = c' := by
  rw [← declared_iff] at h h'
  have h1 := lookupB_get.of_mem hnd h
  have h2 := lookupB_get.of_mem hnd h'
  rw [h1] at h2
  exact Option.some.inj h2

theorem declares_typedef {f : File} {n : Bytes} (h : Declares f n .typedef) :
    ∃ td, td ∈ f.typedefs ∧ td.alias = n := by
  generalize hc : Cat.typedef = c at h
  cases h with
  | typedef h => exact ⟨_, h, rfl⟩
  | @structLike s h => cases hk : s.kind <;> rw [hk] at hc <;> cases hc
  | _ => cases hc

theorem declares_enum {f : File} {n : Bytes} (h : Declares f n .enum) : ∃ e, e ∈ f.enums ∧ e.name = n := by
  generalize hc : Cat.enum = c at h
  cases h with
  | enum h => exact ⟨_, h, rfl⟩
  | @structLike s h => cases hk : s.kind <;> rw [hk] at hc <;> cases hc
  | _ => cases hc

theorem findTypedef_eq (a : Bytes) (l : List Typedef) : findTypedef a l = l.find? (fun t => t.alias = a) := by
  fun_induction findTypedef a l with
  | case1 => rfl
  | case2 t r h => simp [h]
  | case3 t r h ih => simp [h, ih]

theorem findEnum_eq (n : Bytes) (l : List Enum) : findEnum n l = l.find? (fun e => e.name = n) := by
  fun_induction findEnum n l with
  | case1 => rfl
  | case2 e r h => simp [h]
  | case3 e r h ih => simp [h, ih]

theorem findTypedef_some {a : Bytes} {l : List Typedef} {td : Typedef} (h : findTypedef a l = some td) :
    td ∈ l ∧ td.alias = a := by
  rw [findTypedef_eq] at h
  exact ⟨List.mem_of_find?_eq_some h, by simpa using List.find?_some h⟩

theorem findTypedef_of_mem {a : Bytes} {l : List Typedef} {td : Typedef} (h : td ∈ l) (ha : td.alias = a) :
    ∃ td', findTypedef a l = some td' := by
  rw [findTypedef_eq]
  exact Option.isSome_iff_exists.mp (List.find?_isSome.mpr ⟨td, h, by simpa using ha⟩)

theorem findEnum_some {n : Bytes} {l : List Enum} {e : Enum} (h : findEnum n l = some e) :
    e ∈ l ∧ e.name = n := by
  rw [findEnum_eq] at h
  exact ⟨List.mem_of_find?_eq_some h, by simpa using List.find?_some h⟩

theorem findEnum_of_mem {n : Bytes} {l : List Enum} {e : Enum} (h : e ∈ l) (ha : e.name = n) :
    ∃ e', findEnum n l = some e' := by
  rw [findEnum_eq]
  exact Option.isSome_iff_exists.mp (List.find?_isSome.mpr ⟨e, h, by simpa using ha⟩)

theorem find?_key_perm {α β} [DecidableEq β] (key : α → β) (b : β) {l l' : List α} (hp : l.Perm l')
    (hnd : (l.map key).Nodup) : l.find? (fun x => key x = b) = l'.find? (fun x => key x = b) :=
  hp.find?_eq_of_unique fun _ _ hx hy ex ey =>
    List.inj_of_nodup_map key hnd hx hy ((of_decide_eq_true ex).trans (of_decide_eq_true ey).symm)

theorem names_sublists (f : File) (h : f.names.Nodup) :
    (f.typedefs.map (·.alias)).Nodup ∧ (f.constants.map (·.name)).Nodup ∧ (f.enums.map (·.name)).Nodup ∧
    (f.structLikes.map (·.name)).Nodup ∧ (f.services.map (·.name)).Nodup := by
  unfold File.names File.declared at h
  simp only [List.map_append, List.map_map, List.nodup_append] at h
  exact ⟨h.1.1.1.1, h.1.1.1.2.1, h.1.1.2.1, h.1.2.1, h.2.1⟩

theorem findTypedef_unique {f : File} (hnd : f.names.Nodup) {td td' : Typedef}
    (h : td ∈ f.typedefs) (h' : td' ∈ f.typedefs) (e : td.alias = td'.alias) : td = td' :=
  List.inj_of_nodup_map (·.alias) (names_sublists f hnd).1 h h' e

theorem specBase_keys : specBaseTable.map (·.1) = Generated.C05.baseCase := by decide

theorem baseCat_on_table : ∀ n, n ∈ Generated.C05.baseCase → baseCat n = specBase n := by decide

/-- `categoryMap` restricted to ResolveType's first case list is the IDL's base-type table. -/
theorem baseCat_eq_specBase (n : Bytes) : baseCat n = specBase n := by
  by_cases h : n ∈ Generated.C05.baseCase
  · exact baseCat_on_table n h
  · have h1 : baseCat n = none := by unfold baseCat; rw [if_neg h]
    have h2 : specBase n = none := by
      unfold specBase
      rw [lookupB_get.eq_none_iff, specBase_keys]
      exact h
    rw [h1, h2]

theorem isTypeLike_eq_spec : ∀ c : Cat, c.isTypeLike = c.isTypeLikeSpec := by
  intro c; cases c <;> decide

theorem isDerefTarget_eq_concrete : ∀ c : Cat, c.isDerefTarget = c.isConcrete := by
  intro c; cases c <;> decide

theorem container_table :
    Generated.C05.containerCase = [kwMap, kwList, kwSet] ∧
    lookupB kwMap Generated.C05.categoryMap = some Cat.map.toNat ∧
    lookupB kwList Generated.C05.categoryMap = some Cat.list.toNat ∧
    lookupB kwSet Generated.C05.categoryMap = some Cat.set.toNat := by decide

/-- Go names of the categories in numeric order (parser/AST.thrift, enum Category). -/
def specCategoryNames : List Bytes :=
  [[67, 111, 110, 115, 116, 97, 110, 116], [66, 111, 111, 108], [66, 121, 116, 101], [73, 49, 54],
   [73, 51, 50], [73, 54, 52], [68, 111, 117, 98, 108, 101], [83, 116, 114, 105, 110, 103],
   [66, 105, 110, 97, 114, 121], [77, 97, 112], [76, 105, 115, 116], [83, 101, 116], [69, 110, 117, 109],
   [83, 116, 114, 117, 99, 116], [85, 110, 105, 111, 110], [69, 120, 99, 101, 112, 116, 105, 111, 110],
   [84, 121, 112, 101, 100, 101, 102], [83, 101, 114, 118, 105, 99, 101]]

theorem category_numbering :
    Generated.C05.categoryNames = specCategoryNames ∧ (Cat.all.map Cat.toNat) = List.range 18 := by decide

theorem specBase_isBase {n : Bytes} {c : Cat} (h : specBase n = some c) :
    c ≠ .typedef ∧ c.isConcrete = false ∧ splitLastDot n = none ∧ isContainerName n = false := by
  have hm := lookupB_get.mem h
  revert hm
  have : ∀ x, x ∈ specBaseTable → x.2 ≠ Cat.typedef ∧ x.2.isConcrete = false ∧ splitLastDot x.1 = none ∧
      isContainerName x.1 = false := by decide
  intro hm
  exact this (n, c) hm

theorem categoryMap_keys :
    Generated.C05.categoryMap.map (·.1) = Generated.C05.baseCase ++ Generated.C05.containerCase := by decide

theorem inCategoryMap_iff (n : Bytes) :
    inCategoryMap n = true ↔ n ∈ Generated.C05.baseCase ∨ isContainerName n = true := by
  unfold inCategoryMap isContainerName
  rw [Option.isSome_iff_ne_none, Ne, lookupB_get.eq_none_iff, categoryMap_keys, List.mem_append]
  simp only [Classical.not_not, decide_eq_true_eq]

theorem specBase_some_mem {n : Bytes} {c : Cat} (h : specBase n = some c) : n ∈ Generated.C05.baseCase := by
  rw [← specBase_keys]
  exact List.mem_map.mpr ⟨(n, c), lookupB_get.mem h, rfl⟩

theorem specBase_none_not_mem {n : Bytes} (h : specBase n = none) : n ∉ Generated.C05.baseCase := by
  rw [← specBase_keys]
  exact lookupB_get.eq_none_iff.1 h

end Sem
