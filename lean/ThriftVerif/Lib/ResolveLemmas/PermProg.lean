import ThriftVerif.Lib.ResolveLemmas.Perm
/-
  Order independence, the program: the recursion over includes, in lockstep on a program and on the
  same program with the definitions of its files in other orders.
-/
namespace Sem

def ProgPerm (p p' : Program) : Prop :=
  p.length = p'.length ∧ ∀ (i : Nat) (f f' : File), p[i]? = some f → p'[i]? = some f' → FilePerm f f'

def TableEquiv (t t' : Table) : Prop :=
  t.length = t'.length ∧ ∀ (i : Nat),
    match t[i]?, t'[i]? with
    | some (some rf), some (some rf') => RFileEquiv rf rf'
    | some none, some none => True
    | none, none => True
    | _, _ => False

theorem RFileEquiv.symm {a b : RFile} (h : RFileEquiv a b) : RFileEquiv b a :=
  ⟨fun n => (h.n2c n).symm, h.used.symm, fun s => (h.types s).symm, fun s => (h.binds s).symm,
   fun n => (h.svc n).symm⟩

theorem TableEquiv.symm {t t' : Table} (h : TableEquiv t t') : TableEquiv t' t := by
  refine ⟨h.1.symm, fun i => ?_⟩
  have := h.2 i
  -- rows of `TableEquiv`: both finished; both entered; both outside the table; any other pair
  split at this
  next h1 h2 =>
    rw [h1, h2]
    exact this.symm
  next h1 h2 =>
    rw [h1, h2]
    trivial
  next h1 h2 =>
    rw [h1, h2]
    trivial
  next => exact this.elim

theorem ProgPerm.symm {p p' : Program} (h : ProgPerm p p') : ProgPerm p' p :=
  ⟨h.1.symm, fun i f f' h1 h2 => (h.2 i f' f h2 h1).symm⟩

theorem view_eq {f f' : File} {rf rf' : RFile} (hp : FilePerm f f') (hnd : f.names.Nodup)
    (he : RFileEquiv rf rf') : rf.view f = rf'.view f' :=
  mkView_perm hp hnd (funext he.n2c) he.types

theorem ProgPerm.get {p p' : Program} (h : ProgPerm p p') {i : Nat} {f : File} (hf : p[i]? = some f) :
    ∃ f', p'[i]? = some f' ∧ FilePerm f f' := by
  have hlt : i < p'.length := by rw [← h.1]; exact (List.getElem?_eq_some_iff.mp hf).1
  exact ⟨p'[i], List.getElem?_eq_getElem hlt, h.2 i f _ hf (List.getElem?_eq_getElem hlt)⟩

theorem ProgPerm.get_none {p p' : Program} (h : ProgPerm p p') {i : Nat} (hf : p[i]? = none) : p'[i]? = none := by
  rw [List.getElem?_eq_none_iff] at hf ⊢
  rw [← h.1]; exact hf

theorem TableEquiv.cell {t t' : Table} (h : TableEquiv t t') (i : Nat) :
    (∃ rf rf', t[i]? = some (some rf) ∧ t'[i]? = some (some rf') ∧ RFileEquiv rf rf') ∨
    ((∀ rf, t[i]? ≠ some (some rf)) ∧ ∀ rf', t'[i]? ≠ some (some rf')) := by
  have := h.2 i
  split at this
  next rf rf' h1 h2 => exact .inl ⟨rf, rf', h1, h2, this⟩
  next h1 h2 =>
    rw [h1, h2]
    exact .inr ⟨nofun, nofun⟩
  next h1 h2 =>
    rw [h1, h2]
    exact .inr ⟨nofun, nofun⟩
  next => exact this.elim

theorem tableViews_none {p : Program} {tbl : Table} {j : Nat} (h : ∀ rf, tbl[j]? ≠ some (some rf)) :
    tableViews p tbl j = none := by
  fun_cases tableViews p tbl j with
  | case1 f rf ht => exact absurd ht (h rf)
  | case2 => rfl

theorem tableViews_eq {p p' : Program} {gfuel : Nat} {t t' : Table} (hp : ProgPerm p p')
    (inv : TableInv p gfuel t) (he : TableEquiv t t') : tableViews p t = tableViews p' t' := by
  funext j
  rcases he.cell j with ⟨rf, rf', h1, h2, hr⟩ | ⟨n1, n2⟩
  · cases hf : p[j]? with
    | none => unfold tableViews; rw [hf, hp.get_none hf]
    | some f =>
      obtain ⟨f', hf', hperm⟩ := hp.get hf
      unfold tableViews
      rw [hf, hf', h1, h2]
      exact congrArg some (view_eq hperm (inv.good j f rf hf h1).nodup hr)
  · rw [tableViews_none n1, tableViews_none n2]

theorem tableEquiv_set {t t' : Table} (he : TableEquiv t t') (i : Nat) {rf rf' : RFile}
    (hr : RFileEquiv rf rf') : TableEquiv (t.set i (some rf)) (t'.set i (some rf')) := by
  refine ⟨by simp [he.1], ?_⟩
  intro j
  rw [List.getElem?_set, List.getElem?_set]
  by_cases hij : i = j
  · rw [if_pos hij, if_pos hij, ← he.1]
    by_cases hl : i < t.length
    · rw [if_pos hl, if_pos hl]; exact hr
    · rw [if_neg hl, if_neg hl]; trivial
  · rw [if_neg hij, if_neg hij]
    exact he.2 j

theorem resolveSymbols_perm {p p' : Program} (hp : ProgPerm p p') (gfuel : Nat) :
    ∀ (fuel i : Nat) (t t' t1 : Table), t.length = p.length → TableInv p gfuel t → TableEquiv t t' →
      resolveSymbols p gfuel fuel i t = .ok t1 →
      ∃ t1', resolveSymbols p' gfuel fuel i t' = .ok t1' ∧ TableEquiv t1 t1' := by
  intro fuel
  induction fuel with
  | zero =>
    intro i t t' t1 _ _ _ h
    cases h
  | succ fuel ih =>
    intro i t t' t1 hlen inv he h
    have loop : ∀ (l : List Include) (u u' u1 : Table), u.length = p.length → TableInv p gfuel u →
        TableEquiv u u' → incLoop (resolveSymbols p gfuel fuel) l u = .ok u1 →
        ∃ u1', incLoop (resolveSymbols p' gfuel fuel) l u' = .ok u1' ∧ TableEquiv u1 u1' ∧
          u1.length = p.length ∧ TableInv p gfuel u1 := by
      intro l
      induction l with
      | nil =>
        intro u u' u1 hl hi hu h
        simp only [incLoop, Except.ok.injEq] at h
        subst h
        exact ⟨u', rfl, hu, hl, hi⟩
      | cons inc r ihl =>
        intro u u' u1 hl hi hu h
        obtain ⟨u2, h1, h⟩ := incLoop_cons_ok.mp h
        obtain ⟨u2', q1, q2⟩ := ih inc.target u u' u2 hl hi hu h1
        obtain ⟨i1, n1⟩ := resolveSymbols_inv p gfuel fuel inc.target u u2 hl h1 hi
        obtain ⟨u1', q3, q4⟩ := ihl u2 u2' u1 n1 i1 q2 h
        exact ⟨u1', incLoop_cons_ok.mpr ⟨u2', q1, q3⟩, q4⟩
    obtain ⟨f, hf, ⟨⟨rf0, ht⟩, rfl⟩ | ⟨hni, u1, rf, hl, ha, rfl⟩⟩ := resolveSymbols_ok_iff.mp h
    · obtain ⟨f', hf', _⟩ := hp.get hf
      rcases he.cell i with ⟨_, rf', _, h2, _⟩ | ⟨n1, _⟩
      · exact ⟨t', resolveSymbols_ok_iff.mpr ⟨f', hf', Or.inl ⟨⟨rf', h2⟩, rfl⟩⟩, he⟩
      · exact absurd ht (n1 rf0)
    · obtain ⟨f', hf', hperm⟩ := hp.get hf
      have hni' : ∀ rf', t'[i]? ≠ some (some rf') := by
        rcases he.cell i with ⟨rf, _, h1, _⟩ | ⟨_, n2⟩
        · exact absurd h1 (hni rf)
        · exact n2
      obtain ⟨u1', q1, q2, n1, i1⟩ := loop f.includes t t' u1 hlen inv he hl
      obtain ⟨rf', r1, r2⟩ := resolveAST_perm hf (viewsGood_of_inv i1) hperm ha
      refine ⟨u1'.set i (some rf'),
        resolveSymbols_ok_iff.mpr ⟨f', hf', Or.inr ⟨hni', u1', rf', ?_, ?_, rfl⟩⟩, tableEquiv_set q2 i r2⟩
      · rw [← hperm.includes]; exact q1
      · rw [← tableViews_eq hp i1 q2]; exact r1

theorem typedefCount_perm {p p' : Program} (hp : ProgPerm p p') : p.typedefCount = p'.typedefCount := by
  unfold Program.typedefCount
  have : p.map (fun f => f.typedefs.length) = p'.map (fun f => f.typedefs.length) := by
    apply List.ext_getElem?
    intro i
    rw [List.getElem?_map, List.getElem?_map]
    cases hf : p[i]? with
    | none => rw [hp.get_none hf]
    | some f =>
      obtain ⟨f', hf', hperm⟩ := hp.get hf
      rw [hf']
      simp only [Option.map_some, Option.some.injEq]
      exact hperm.typedefs.length_eq
  rw [this]

theorem tableEquiv_init (n : Nat) : TableEquiv (List.replicate n none) (List.replicate n none) := by
  refine ⟨rfl, ?_⟩
  intro i
  rw [List.getElem?_replicate]
  by_cases h : i < n
  · rw [if_pos h]; trivial
  · rw [if_neg h]; trivial

theorem resolve_perm {p p' : Program} (hp : ProgPerm p p') (root : Nat) {tbl : Table}
    (h : resolve p root = .ok tbl) : ∃ tbl', resolve p' root = .ok tbl' ∧ TableEquiv tbl tbl' := by
  unfold resolve at h ⊢
  have hc : p'.chainFuel = p.chainFuel := by
    unfold Program.chainFuel
    rw [typedefCount_perm hp, hp.1]
  rw [hc, ← hp.1]
  exact resolveSymbols_perm hp p.chainFuel (p.length + 1) root _ _ tbl (by simp) (tableInv_init p _)
    (tableEquiv_init _) h

end Sem
