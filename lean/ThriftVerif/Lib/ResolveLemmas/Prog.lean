import ThriftVerif.Lib.ResolveLemmas.GoodFile
/-
  The recursion over includes (ResolveSymbols): every AST it has finished satisfies `Good`, and
  a finished AST has all its includes finished.
-/
namespace Sem

def ViewsClosed (p : Program) (views : Nat → Option FileView) : Prop :=
  ∀ j v, views j = some v → ∃ g, p[j]? = some g ∧
    ∀ (inc : Include), inc ∈ g.includes → ∃ v', views inc.target = some v'

structure TableInv (p : Program) (gfuel : Nat) (tbl : Table) : Prop where
  produced : ∀ (j : Nat) (f : File) (rf : RFile), p[j]? = some f → tbl[j]? = some (some rf) →
    ∃ views, ViewsGood p views ∧ ViewsClosed p views ∧ resolveAST views gfuel j f = .ok rf
  good : ∀ (j : Nat) (f : File) (rf : RFile), p[j]? = some f → tbl[j]? = some (some rf) → Good p j f rf
  closed : ∀ (j : Nat) (f : File) (rf : RFile), p[j]? = some f → tbl[j]? = some (some rf) →
    ∀ (inc : Include), inc ∈ f.includes →
      ∃ (g : File) (rf' : RFile), p[inc.target]? = some g ∧ tbl[inc.target]? = some (some rf')

theorem tableViews_some {p : Program} {tbl : Table} {j : Nat} {v : FileView}
    (h : tableViews p tbl j = some v) : ∃ f rf, p[j]? = some f ∧ tbl[j]? = some (some rf) ∧ v = rf.view f := by
  unfold tableViews at h
  split at h
  · next f rf hf ht =>
    simp only [Option.some.injEq] at h
    exact ⟨f, rf, hf, ht, h.symm⟩
  · simp at h

theorem viewsGood_of_inv {p : Program} {gfuel : Nat} {tbl : Table} (h : TableInv p gfuel tbl) : ViewsGood p (tableViews p tbl) := by
  intro j v hv
  obtain ⟨f, rf, hf, ht, e⟩ := tableViews_some hv
  exact ⟨f, rf, hf, e, h.good j f rf hf ht⟩

theorem viewsClosed_of_inv {p : Program} {gfuel : Nat} {tbl : Table} (h : TableInv p gfuel tbl) :
    ViewsClosed p (tableViews p tbl) := by
  intro j v hv
  obtain ⟨f, rf, hf, ht, _⟩ := tableViews_some hv
  refine ⟨f, hf, ?_⟩
  intro inc hinc
  obtain ⟨g, rf', hg, ht'⟩ := h.closed j f rf hf ht inc hinc
  refine ⟨rf'.view g, ?_⟩
  unfold tableViews
  rw [hg, ht']

theorem mkIncs_views {views : Nat → Option FileView} (l : List Include) (incs : List IncInfo)
    (h : mkIncs views l = .ok incs) (inc : Include) (hm : inc ∈ l) : ∃ v, views inc.target = some v := by
  obtain ⟨k, hk⟩ := List.mem_iff_getElem?.mp hm
  obtain ⟨v, hv, _⟩ := (mkIncs_ok l incs h).2 k inc hk
  exact ⟨v, hv⟩

theorem resolveAST_includes {views : Nat → Option FileView} {gfuel i : Nat} {f : File} {rf : RFile}
    (h : resolveAST views gfuel i f = .ok rf) : ∀ inc, inc ∈ f.includes → ∃ v, views inc.target = some v := by
  obtain ⟨R⟩ := resolveAST_run h
  exact mkIncs_views f.includes R.incs R.e1

theorem incLoop_cons_ok {rs : Nat → Table → Res Table} {inc : Include} {r : List Include} {t t' : Table} :
    incLoop rs (inc :: r) t = .ok t' ↔ ∃ t1, rs inc.target t = .ok t1 ∧ incLoop rs r t1 = .ok t' := by
  simp only [incLoop]
  cases rs inc.target t with
  | error e => simp
  | ok t1 => simp

theorem resolveSymbols_ok_iff {p : Program} {gfuel fuel i : Nat} {tbl tbl' : Table} :
    resolveSymbols p gfuel (fuel + 1) i tbl = .ok tbl' ↔
      ∃ f, p[i]? = some f ∧
        (((∃ rf, tbl[i]? = some (some rf)) ∧ tbl' = tbl) ∨
         ((∀ rf, tbl[i]? ≠ some (some rf)) ∧ ∃ tbl1 rf,
            incLoop (resolveSymbols p gfuel fuel) f.includes tbl = .ok tbl1 ∧
            resolveAST (tableViews p tbl1) gfuel i f = .ok rf ∧ tbl' = tbl1.set i (some rf))) := by
  rw [resolveSymbols]
  split
  next hf => exact ⟨nofun, fun ⟨f, hf', _⟩ => nomatch hf.symm.trans hf'⟩
  next f hf =>
    split
    next rf0 hrf =>
      constructor
      · rintro ⟨⟩
        exact ⟨f, hf, .inl ⟨⟨rf0, hrf⟩, rfl⟩⟩
      · rintro ⟨_, _, ⟨_, rfl⟩ | ⟨hni, _⟩⟩
        · rfl
        · exact absurd hrf (hni rf0)
    next hni =>
      split
      next e hl =>
        refine ⟨nofun, ?_⟩
        rintro ⟨f', hf', ⟨⟨rf, hrf⟩, _⟩ | ⟨_, tbl1, rf, hl', _⟩⟩
        · exact (hni rf hrf).elim
        · cases hf.symm.trans hf'
          nomatch hl.symm.trans hl'
      next t' hl =>
        split
        next e ha =>
          refine ⟨nofun, ?_⟩
          rintro ⟨f', hf', ⟨⟨rf, hrf⟩, _⟩ | ⟨_, tbl1, rf, hl', ha', _⟩⟩
          · exact (hni rf hrf).elim
          · cases hf.symm.trans hf'
            cases hl.symm.trans hl'
            nomatch ha.symm.trans ha'
        next rf ha =>
          constructor
          · rintro ⟨⟩
            exact ⟨f, hf, .inr ⟨hni, t', rf, hl, ha, rfl⟩⟩
          · rintro ⟨f', hf', ⟨⟨rf', hrf⟩, _⟩ | ⟨_, tbl1, rf', hl', ha', rfl⟩⟩
            · exact (hni rf' hrf).elim
            · cases hf.symm.trans hf'
              cases hl.symm.trans hl'
              cases ha.symm.trans ha'
              rfl

theorem tableInv_set {p : Program} {gfuel i : Nat} {f : File} {rf : RFile} {tbl : Table} (inv : TableInv p gfuel tbl)
    (hlen : tbl.length = p.length) (hf : p[i]? = some f) (ha : resolveAST (tableViews p tbl) gfuel i f = .ok rf) :
    TableInv p gfuel (tbl.set i (some rf)) := by
  have hilt : i < tbl.length := hlen ▸ (List.getElem?_eq_some_iff.mp hf).1
  have at_j : ∀ {j g rg}, p[j]? = some g → (tbl.set i (some rf))[j]? = some (some rg) →
      (j = i ∧ g = f ∧ rg = rf) ∨ tbl[j]? = some (some rg) := by
    intro j g rg hg hj
    by_cases hij : i = j
    · subst hij
      rw [List.getElem?_set_self hilt] at hj
      cases hj
      cases hf.symm.trans hg
      exact .inl ⟨rfl, rfl, rfl⟩
    · rw [List.getElem?_set_ne hij] at hj
      exact .inr hj
  have keep : ∀ {j' : Nat} {rf' : RFile}, tbl[j']? = some (some rf') →
      ∃ rf'', (tbl.set i (some rf))[j']? = some (some rf'') := by
    intro j' rf' hj'
    by_cases hij : i = j'
    · exact ⟨rf, hij ▸ List.getElem?_set_self hilt⟩
    · exact ⟨rf', (List.getElem?_set_ne hij).trans hj'⟩
  refine ⟨fun j g rg hg hj => ?_, fun j g rg hg hj => ?_, fun j g rg hg hj inc hinc => ?_⟩
  · rcases at_j hg hj with ⟨rfl, rfl, rfl⟩ | hj
    · exact ⟨_, viewsGood_of_inv inv, viewsClosed_of_inv inv, ha⟩
    · exact inv.produced j g rg hg hj
  · rcases at_j hg hj with ⟨rfl, rfl, rfl⟩ | hj
    · exact resolveAST_good hf (viewsGood_of_inv inv) ha
    · exact inv.good j g rg hg hj
  · have : ∃ g' rf', p[inc.target]? = some g' ∧ tbl[inc.target]? = some (some rf') := by
      rcases at_j hg hj with ⟨rfl, rfl, rfl⟩ | hj
      · obtain ⟨v, hv⟩ := resolveAST_includes ha inc hinc
        obtain ⟨g', rf', hg', ht', _⟩ := tableViews_some hv
        exact ⟨g', rf', hg', ht'⟩
      · exact inv.closed j g rg hg hj inc hinc
    obtain ⟨g', rf', hg', ht'⟩ := this
    obtain ⟨rf'', h''⟩ := keep ht'
    exact ⟨g', rf'', hg', h''⟩

theorem resolveSymbols_inv (p : Program) (gfuel : Nat) : ∀ (fuel i : Nat) (tbl tbl' : Table),
    tbl.length = p.length → resolveSymbols p gfuel fuel i tbl = .ok tbl' → TableInv p gfuel tbl →
    TableInv p gfuel tbl' ∧ tbl'.length = p.length := by
  intro fuel
  induction fuel with
  | zero => intro i tbl tbl' _ h; simp [resolveSymbols] at h
  | succ fuel ih =>
    intro i tbl tbl' hlen h inv
    have loop : ∀ (l : List Include) (t t' : Table), t.length = p.length →
        incLoop (resolveSymbols p gfuel fuel) l t = .ok t' → TableInv p gfuel t →
        TableInv p gfuel t' ∧ t'.length = p.length := by
      intro l t
      fun_induction incLoop (resolveSymbols p gfuel fuel) l t with
      | case1 =>
        rintro t' hl ⟨⟩ hi
        exact ⟨hi, hl⟩
      | case2 => nofun
      | case3 inc r t t1 h1 ihl =>
        intro t' hl h hi
        obtain ⟨i1, n1⟩ := ih inc.target t t1 hl h1 hi
        exact ihl t' n1 h i1
    obtain ⟨f, hf, ⟨_, rfl⟩ | ⟨_, tbl1, rf, hl, ha, rfl⟩⟩ := resolveSymbols_ok_iff.mp h
    · exact ⟨inv, hlen⟩
    · obtain ⟨i1, n1⟩ := loop f.includes tbl tbl1 hlen hl inv
      exact ⟨tableInv_set i1 n1 hf ha, by simp [n1]⟩

theorem tableInv_init (p : Program) (gfuel : Nat) : TableInv p gfuel (List.replicate p.length none) := by
  have empty : ∀ {j : Nat} {rf : RFile}, (List.replicate p.length (none : Option RFile))[j]? ≠ some (some rf) :=
    fun h => nomatch List.eq_of_mem_replicate (List.mem_of_getElem? h)
  exact ⟨fun _ _ _ _ h => absurd h empty, fun _ _ _ _ h => absurd h empty, fun _ _ _ _ h _ => absurd h empty⟩

theorem resolve_inv {p : Program} {root : Nat} {tbl : Table} (h : resolve p root = .ok tbl) :
    TableInv p p.chainFuel tbl :=
  (resolveSymbols_inv p p.chainFuel (p.length + 1) root _ tbl (by simp) h (tableInv_init p _)).1

end Sem
