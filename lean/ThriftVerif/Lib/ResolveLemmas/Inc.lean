import ThriftVerif.Lib.ResolveLemmas.Basic
/-
  Reading a name: the include loops of ResolveType / ResolveBaseService (`findInc`) against `FirstInc`,
  `FirstInc` is functional, `splitType` against `splitLastDot`, and which written names cannot be
  qualified or name a typedef.  Model and specification only.
-/
namespace Sem

def IncsGood (p : Program) (f : File) (incs : List IncInfo) : Prop :=
  incs.length = f.includes.length ∧
  ∀ (k : Nat) (inc : Include), f.includes[k]? = some inc →
    ∃ (ii : IncInfo) (g : File), incs[k]? = some ii ∧ ii.pfx = idlPrefix inc.path ∧ ii.target = inc.target ∧
      p[inc.target]? = some g ∧ g.names.Nodup ∧ ∀ n c, ii.n2c n = some c ↔ Declares g n c

theorem IncsGood.get {p : Program} {f : File} {incs : List IncInfo} (hi : IncsGood p f incs) {k : Nat} {inc : Include}
    {g : File} (hk : f.includes[k]? = some inc) (hg : p[inc.target]? = some g) :
    ∃ ii, incs[k]? = some ii ∧ ii.pfx = idlPrefix inc.path ∧ g.names.Nodup ∧
      ∀ n c, ii.n2c n = some c ↔ Declares g n c := by
  obtain ⟨ii, g', q1, q2, _, q4, q5, q6⟩ := hi.2 k inc hk
  cases hg.symm.trans q4
  exact ⟨ii, q1, q2, q5, q6⟩

theorem incs_at {p : Program} {f : File} {incs : List IncInfo} (hi : IncsGood p f incs)
    {j : Nat} {ii : IncInfo} (h : incs[j]? = some ii) :
    ∃ inc g, f.includes[j]? = some inc ∧ ii.pfx = idlPrefix inc.path ∧ ii.target = inc.target ∧
      p[inc.target]? = some g ∧ ∀ n c, ii.n2c n = some c ↔ Declares g n c := by
  have hlt : j < f.includes.length := by
    rw [← hi.1]; exact (List.getElem?_eq_some_iff.mp h).1
  have hinc : f.includes[j]? = some f.includes[j] := List.getElem?_eq_getElem hlt
  obtain ⟨ii', g, q1, q2, q3, q4, _, q6⟩ := hi.2 j _ hinc
  cases h.symm.trans q1
  exact ⟨_, g, hinc, q2, q3, q4, q6⟩

/- The cases of `findInc`: 1 no include left; 2 prefix and name match and the category is accepted; the head is passed
over because 3 the category is not accepted, 4 the name is absent, 5 the prefix differs. -/

theorem findInc_some {okc : Cat → Bool} {a b : Bytes} (l : List IncInfo) (k0 k : Nat) (c : Cat) :
    findInc okc a b l k0 = some (k, c) →
    ∃ (j : Nat) (ii : IncInfo), k = k0 + j ∧ l[j]? = some ii ∧ ii.pfx = a ∧ ii.n2c b = some c ∧ okc c = true ∧
      ∀ ii', ii' ∈ l.take j → ii'.pfx = a → ∀ c', ii'.n2c b = some c' → okc c' = false := by
  fun_induction findInc okc a b l k0 with
  | case1 => nofun
  | case2 ii0 r k0 hp c0 hn hok =>
    rintro ⟨⟩
    exact ⟨0, ii0, rfl, rfl, hp, hn, hok, fun _ hm => nomatch hm⟩
  | case3 ii0 r k0 hp c0 hn hok ih =>
    intro h
    obtain ⟨j, ii, e, h1, h2, h3, h4, h5⟩ := ih h
    exact ⟨j + 1, ii, e.trans (Nat.add_right_comm k0 1 j), h1, h2, h3, h4,
      List.forall_mem_cons.mpr ⟨fun _ c' hc' => by cases hn.symm.trans hc'; simpa using hok, h5⟩⟩
  | case4 ii0 r k0 hp hn ih =>
    intro h
    obtain ⟨j, ii, e, h1, h2, h3, h4, h5⟩ := ih h
    exact ⟨j + 1, ii, e.trans (Nat.add_right_comm k0 1 j), h1, h2, h3, h4, List.forall_mem_cons.mpr ⟨fun _ c' hc' => (nomatch hn.symm.trans hc'), h5⟩⟩
  | case5 ii0 r k0 hp ih =>
    intro h
    obtain ⟨j, ii, e, h1, h2, h3, h4, h5⟩ := ih h
    exact ⟨j + 1, ii, e.trans (Nat.add_right_comm k0 1 j), h1, h2, h3, h4, List.forall_mem_cons.mpr ⟨fun hp' => absurd hp' hp, h5⟩⟩

theorem findInc_none {okc : Cat → Bool} {a b : Bytes} (l : List IncInfo) (k0 : Nat) :
    findInc okc a b l k0 = none →
    ∀ ii, ii ∈ l → ii.pfx = a → ∀ c', ii.n2c b = some c' → okc c' = false := by
  fun_induction findInc okc a b l k0 with
  | case1 => exact fun _ _ hm => nomatch hm
  | case2 => nofun
  | case3 ii0 r k0 hp c0 hn hok ih =>
    exact fun h => List.forall_mem_cons.mpr ⟨fun _ c' hc' => by cases hn.symm.trans hc'; simpa using hok, ih h⟩
  | case4 ii0 r k0 hp hn ih => exact fun h => List.forall_mem_cons.mpr ⟨fun _ c' hc' => (nomatch hn.symm.trans hc'), ih h⟩
  | case5 ii0 r k0 hp ih => exact fun h => List.forall_mem_cons.mpr ⟨fun hp' => absurd hp' hp, ih h⟩

theorem firstInc_of_findInc {p : Program} {f : File} {incs : List IncInfo} (hi : IncsGood p f incs)
    {okc : Cat → Bool} {a b : Bytes} {k : Nat} {c : Cat}
    (h : findInc okc a b incs 0 = some (k, c)) :
    ∃ j, FirstInc p f okc a b k j c := by
  obtain ⟨j, ii, e, h1, h2, h3, h4, h5⟩ := findInc_some incs 0 k c h
  rw [Nat.zero_add] at e
  subst e
  obtain ⟨inc, g, hinc, g2, _, g4, g6⟩ := incs_at hi h1
  refine ⟨inc.target, inc, g, hinc, rfl, g2.symm.trans h2, g4, (g6 b c).mp h3, h4, ?_⟩
  intro k' inc' g' c' hk' hinc' hp' hg' hd'
  obtain ⟨ii2, q1, q2, _, q6⟩ := hi.get hinc' hg'
  exact h5 ii2 (List.mem_of_getElem? ((List.getElem?_take_of_lt hk').trans q1)) (q2.trans hp') c' ((q6 b c').mpr hd')

theorem no_firstInc_of_findInc {p : Program} {f : File} {incs : List IncInfo} (hi : IncsGood p f incs)
    {okc : Cat → Bool} {a b : Bytes}
    (h : findInc okc a b incs 0 = none) : ∀ k j c, ¬ FirstInc p f okc a b k j c := by
  intro k j c hfirst
  obtain ⟨inc, g, h1, rfl, h3, h4, h5, h6, _⟩ := hfirst
  obtain ⟨ii, q1, q2, _, q6⟩ := hi.get h1 h4
  have := findInc_none incs 0 h ii (List.mem_of_getElem? q1) (q2.trans h3) c ((q6 b c).mpr h5)
  rw [h6] at this
  cases this

/-- The include and the declaration found; what is left out says that it is the first such include. -/
theorem FirstInc.found {p : Program} {f : File} {okc : Cat → Bool} {a b : Bytes} {k j : Nat} {c : Cat}
    (h : FirstInc p f okc a b k j c) :
    ∃ inc g, f.includes[k]? = some inc ∧ inc.target = j ∧ p[j]? = some g ∧ Declares g b c ∧ okc c = true := by
  obtain ⟨inc, g, h1, h2, _, h4, h5, h6, _⟩ := h
  exact ⟨inc, g, h1, h2, h4, h5, h6⟩

theorem firstInc_unique {p : Program} {f : File}
    (hN : ∀ (k : Nat) (inc : Include) (g : File), f.includes[k]? = some inc → p[inc.target]? = some g → g.names.Nodup)
    {okc : Cat → Bool} {a b : Bytes} {k j k' j' : Nat} {c c' : Cat}
    (h : FirstInc p f okc a b k j c) (h' : FirstInc p f okc a b k' j' c') : k = k' ∧ j = j' ∧ c = c' := by
  obtain ⟨inc, g, h1, h2, h3, h4, h5, h6, h7⟩ := h
  obtain ⟨inc', g', h1', h2', h3', h4', h5', h6', h7'⟩ := h'
  subst h2 h2'
  -- neither include comes before the other: each is the first that matches
  have hk : k = k' := Nat.le_antisymm
    (Nat.not_lt.mp fun hgt => Bool.false_ne_true ((h7 k' inc' g' c' hgt h1' h3' h4' h5').symm.trans h6'))
    (Nat.not_lt.mp fun hlt => Bool.false_ne_true ((h7' k inc g c hlt h1 h3 h4 h5).symm.trans h6))
  subst hk
  cases h1.symm.trans h1'
  cases h4.symm.trans h4'
  exact ⟨rfl, rfl, declares_unique (hN k inc g h1 h4) h5 h5'⟩

theorem firstInc_unique_of_incs {p : Program} {f : File} {incs : List IncInfo} (hi : IncsGood p f incs)
    {okc : Cat → Bool} {a b : Bytes} {k j k' j' : Nat} {c c' : Cat}
    (h : FirstInc p f okc a b k j c) (h' : FirstInc p f okc a b k' j' c') : k = k' ∧ j = j' ∧ c = c' :=
  firstInc_unique (fun _ _ _ hk hg => let ⟨_, _, _, hnd, _⟩ := hi.get hk hg; hnd) h h'

theorem splitType_one {n a : Bytes} : splitType n = [a] → splitLastDot n = none ∧ a = n := by
  fun_cases splitType n with
  | case1 => nofun
  | case2 _ hs =>
    rintro ⟨⟩
    exact ⟨hs, rfl⟩
  | case3 => nofun

theorem splitType_two {n a b : Bytes} : splitType n = [a, b] → splitLastDot n = some (a, b) := by
  fun_cases splitType n with
  | case1 => nofun
  | case2 => nofun
  | case3 hn a' b' hs =>
    rintro ⟨⟩
    exact hs

theorem splitType_cases (n : Bytes) :
    splitType n = [] ∨ (∃ a, splitType n = [a]) ∨ (∃ a b, splitType n = [a, b]) := by
  fun_cases splitType n with
  | case1 => exact .inl rfl
  | case2 => exact .inr (.inl ⟨_, rfl⟩)
  | case3 => exact .inr (.inr ⟨_, _, rfl⟩)

theorem not_qual_of_nodot {p : Program} {j : Nat} {n : Bytes} (h : splitLastDot n = none) :
    ∀ k b, ¬ QualRef p j (.name n) k b := by
  rintro k b ⟨n', _, _, _, _, e, _, _, h4, _⟩
  simp only [TypeExpr.name.injEq] at e; subst e
  rw [h] at h4; cases h4

theorem not_qual_of_base {p : Program} {j : Nat} {n : Bytes} {c : Cat} (h : specBase n = some c) :
    ∀ k b, ¬ QualRef p j (.name n) k b := by
  rintro k b ⟨n', _, _, _, _, e, h2, _⟩
  simp only [TypeExpr.name.injEq] at e; subst e
  rw [h] at h2; cases h2

theorem not_namesTypedef_of_base {p : Program} {j : Nat} {n : Bytes} {c : Cat} (h : specBase n = some c) :
    ¬ NamesTypedef p j (.name n) := by
  rintro ⟨n', _, e, h2, _⟩
  simp only [TypeExpr.name.injEq] at e; subst e
  rw [h] at h2; cases h2

theorem not_name_not_qual {p : Program} {j : Nat} {sub : TypeExpr} (hsub : ∀ n, sub ≠ .name n) :
    (∀ k b, ¬ QualRef p j sub k b) ∧ ¬ NamesTypedef p j sub :=
  ⟨by rintro k b ⟨n, _, _, _, _, e, _⟩; exact hsub n e, by rintro ⟨n, _, e, _⟩; exact hsub n e⟩

end Sem
