import ThriftVerif.Lib.ResolveLemmas.Inc
/-
  The invariant of resolution (`Good`): what is known of a file once ResolveAST succeeded on it,
  stated against the declarative specification; what a resolver reads of the other ASTs (`ViewsGood`,
  `mkIncs_good`, `view_typedef`).
-/
namespace Sem

def NodeGood (p : Program) (i : Nat) (sub : TypeExpr) (nd : RNode) : Prop :=
  (∃ t, Den p i (.ty sub) t ∧ nd.cat = t.cat) ∧
  (nd.isTypedef = true ↔ NamesTypedef p i sub) ∧
  (∀ k b, nd.ref = some ⟨k, b⟩ ↔ QualRef p i sub k b)

def NodesGood (p : Program) (i : Nat) (te : TypeExpr) (ns : List RNode) : Prop :=
  ns.length = te.nodes.length ∧
  ∀ (k : Nat) sub nd, te.nodes[k]? = some sub → ns[k]? = some nd → NodeGood p i sub nd

/-- The part of the invariant other resolvers rely on: Name2Category and the Type nodes.  Bindings and
`Used` flags are not in it; the theorems about them go back to the ResolveAST run (`TableInv.produced`). -/
structure Good (p : Program) (i : Nat) (f : File) (rf : RFile) : Prop where
  nodup : f.names.Nodup
  n2c : ∀ n c, lookupB n rf.n2c = some c ↔ Declares f n c
  nodes : ∀ s te, SlotType f s te → ∃ ns, rf.nodesAt s = some ns ∧ NodesGood p i te ns

def ViewsGood (p : Program) (views : Nat → Option FileView) : Prop :=
  ∀ j v, views j = some v → ∃ g rf, p[j]? = some g ∧ v = rf.view g ∧ Good p j g rf

theorem mkIncs_ok {views : Nat → Option FileView} (l : List Include) (incs : List IncInfo) :
    mkIncs views l = .ok incs → incs.length = l.length ∧
      ∀ (k : Nat) (inc : Include), l[k]? = some inc →
        ∃ v, views inc.target = some v ∧ incs[k]? = some ⟨idlPrefix inc.path, inc.target, v.n2c⟩ := by
  fun_induction mkIncs views l generalizing incs with
  | case1 =>
    rintro ⟨⟩
    exact ⟨rfl, nofun⟩
  | case2 => nofun
  | case3 => nofun
  | case4 inc0 r v hv0 is hr ih =>
    rintro ⟨⟩
    obtain ⟨ih1, ih2⟩ := ih is hr
    refine ⟨congrArg (· + 1) ih1, fun k inc hk => ?_⟩
    cases k with
    | zero => cases hk; exact ⟨v, hv0, rfl⟩
    | succ k => exact ih2 k inc hk

theorem mkIncs_good {p : Program} {views : Nat → Option FileView} (hv : ViewsGood p views) {f : File}
    {incs : List IncInfo} (h : mkIncs views f.includes = .ok incs) : IncsGood p f incs := by
  obtain ⟨h1, h2⟩ := mkIncs_ok _ incs h
  refine ⟨h1, fun k inc hk => ?_⟩
  obtain ⟨v, hv0, hii⟩ := h2 k inc hk
  obtain ⟨g, rf, hg, hvv, hgood⟩ := hv _ _ hv0
  exact ⟨_, g, hii, rfl, rfl, hg, hgood.nodup, fun n c => by rw [hvv]; exact hgood.n2c n c⟩

theorem nodes_head (te : TypeExpr) : te.nodes[0]? = some te := by
  cases te <;> simp [TypeExpr.nodes]

theorem nodes_pos (te : TypeExpr) : 0 < te.nodes.length := by
  cases te <;> simp [TypeExpr.nodes]

theorem tdRootOf_some {f : File} {types : List TypeRes} {a : Bytes} {root : TdRoot} :
    tdRootOf f types a = some root →
    ∃ td, td ∈ f.typedefs ∧ td.alias = a ∧ ∀ nd0 rest, lookupSlot (.typedef a) types = some (nd0 :: rest) →
      root = ⟨td.type.rootName, nd0.cat, nd0.isTypedef, nd0.ref⟩ := by
  unfold tdRootOf
  split
  · nofun
  next td hft =>
    intro h
    refine ⟨td, (findTypedef_some hft).1, (findTypedef_some hft).2, fun nd0 rest hl => ?_⟩
    rw [hl] at h
    exact (Option.some.inj h).symm

theorem view_typedef {p : Program} {j : Nat} {g : File} {rf : RFile} (hgood : Good p j g rf)
    {b : Bytes} {root : TdRoot} (h : (rf.view g).typedef b = some root) :
    ∃ td nd0, td ∈ g.typedefs ∧ td.alias = b ∧ NodeGood p j td.type nd0 ∧
      root = ⟨td.type.rootName, nd0.cat, nd0.isTypedef, nd0.ref⟩ := by
  obtain ⟨td, hm, hal, hroot⟩ := tdRootOf_some h
  obtain ⟨ns, hns, hlen, hgn⟩ := hgood.nodes (.typedef td.alias) td.type (.typedef hm)
  rw [hal] at hns
  cases ns with
  | nil =>
    have := nodes_pos td.type
    simp at hlen
    omega
  | cons nd0 rest => exact ⟨td, nd0, hm, hal, hgn 0 td.type nd0 (nodes_head _) rfl, hroot nd0 rest hns⟩

theorem tdRootOf_exists {f : File} (types : List TypeRes) {td : Typedef} {a : Bytes} (h : td ∈ f.typedefs)
    (ha : td.alias = a) : ∃ root, tdRootOf f types a = some root := by
  unfold tdRootOf
  obtain ⟨td', h'⟩ := findTypedef_of_mem h ha
  rw [h']
  simp only
  split <;> exact ⟨_, rfl⟩

theorem view_typedef_exists {g : File} {rf : RFile} {td : Typedef} (h : td ∈ g.typedefs) :
    ∃ root, (rf.view g).typedef td.alias = some root :=
  tdRootOf_exists rf.types h rfl

end Sem
