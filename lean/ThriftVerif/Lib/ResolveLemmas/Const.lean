import ThriftVerif.Lib.ResolveLemmas.Basic
/-
  ResolveConstValue on the model alone: which candidates the include loops collect (exactly) and how a
  candidate's include index relates to the include it marks.
-/
namespace Sem

theorem mem_enumCands {vals : List Bytes} {x : Bytes} {mk c : Cand} :
    c ∈ enumCands vals x mk ↔ c = mk ∧ x ∈ vals := by
  unfold enumCands
  simp only [List.mem_map, List.mem_filter, decide_eq_true_eq]
  constructor
  · rintro ⟨y, ⟨hy, rfl⟩, e⟩; exact ⟨e.symm, hy⟩
  · rintro ⟨e, hx⟩; exact ⟨x, ⟨hx, rfl⟩, e.symm⟩

theorem mem_incConstCands (a v : Bytes) : ∀ (l : List IncInfo) (k0 : Nat) (c : Cand),
    c ∈ incConstCands a v l k0 ↔
      ∃ (j : Nat) (ii : IncInfo), l[j]? = some ii ∧ ii.pfx = a ∧ ii.n2c v = some .constant ∧
        c = (⟨false, ((k0 + j : Nat) : Int), v, a⟩, some (k0 + j))
  | [], k0, c => by simp [incConstCands]
  | inc :: r, k0, c => by
    have ih := mem_incConstCands a v r (k0 + 1) c
    simp only [Nat.add_assoc, Nat.add_comm 1] at ih
    rw [exists_getElem?_cons, Nat.add_zero, ← ih]
    simp only [incConstCands]
    by_cases hp : inc.pfx = a
    · rw [if_pos hp]
      cases hn : inc.n2c v with
      | none => simp [hp]
      | some cc =>
        by_cases hc : cc = .constant
        · subst hc; simp [hp]
        · simp [hp, hc]
    · simp [hp]

theorem mem_incEnumCands (views : Nat → Option FileView) (fuel : Nat) (a e v : Bytes)
    (l : List IncInfo) (k0 : Nat) (cs : List Cand) : incEnumCands views fuel a e v l k0 = .ok cs →
      (∀ ii, ii ∈ l → ii.pfx = a → ∃ r, getEnum views fuel [] ii.target e = .ok r) ∧
      ∀ c, c ∈ cs ↔
        ∃ (j : Nat) (ii : IncInfo), l[j]? = some ii ∧ ii.pfx = a ∧ ∃ (vals : List Bytes) (idx : Int),
          getEnum views fuel [] ii.target e = .ok (some vals, idx) ∧ v ∈ vals ∧
          c = (⟨true, ((k0 + j : Nat) : Int), v, e⟩, some (k0 + j)) := by
  -- 1 no include left; the include's prefix is `a`: 2 `getEnum` fails, 3 the rest fails, 4 an enum is found, 5 none is; 6 another prefix
  fun_induction incEnumCands views fuel a e v l k0 generalizing cs with
  | case1 =>
    rintro ⟨⟩
    simp
  | case2 => nofun
  | case3 => nofun
  | case4 inc r k hp idx rest hr vals hg ih =>
    rintro ⟨⟩
    obtain ⟨t1, t2⟩ := ih rest hr
    simp only [Nat.add_assoc, Nat.add_comm 1] at t2
    refine ⟨List.forall_mem_cons.mpr ⟨fun _ => ⟨_, hg⟩, t1⟩, fun c => ?_⟩
    rw [exists_getElem?_cons, Nat.add_zero, ← t2 c, List.mem_append, mem_enumCands]
    simp [hp, hg, and_comm]
  | case5 inc r k hp idx rest hr hg ih =>
    rintro ⟨⟩
    obtain ⟨t1, t2⟩ := ih rest hr
    simp only [Nat.add_assoc, Nat.add_comm 1] at t2
    refine ⟨List.forall_mem_cons.mpr ⟨fun _ => ⟨_, hg⟩, t1⟩, fun c => ?_⟩
    rw [exists_getElem?_cons, Nat.add_zero, ← t2 c]
    simp [hg]
  | case6 inc r k hp ih =>
    intro h
    obtain ⟨t1, t2⟩ := ih cs h
    simp only [Nat.add_assoc, Nat.add_comm 1] at t2
    refine ⟨List.forall_mem_cons.mpr ⟨fun hp' => absurd hp' hp, t1⟩, fun c => ?_⟩
    rw [exists_getElem?_cons, Nat.add_zero, ← t2 c]
    simp [hp]
theorem allCands_cons_ok {ce : CEnv} {ss : List Bytes} {r : List (List Bytes)} {cs : List Cand}
    (h : allCands ce (ss :: r) = .ok cs) :
    ∃ c1 c2, altCands ce ss = .ok c1 ∧ allCands ce r = .ok c2 ∧ cs = c1 ++ c2 := by
  simp only [allCands] at h
  split at h
  · cases h
  next c1 ha =>
  split at h
  · cases h
  next c2 hb =>
  cases h
  exact ⟨c1, c2, ha, hb, rfl⟩

theorem resolveIdent_spec {ce : CEnv} {id : Bytes} {o : Out (Option Extra)} (h : resolveIdent ce id = .ok o) :
    ((id = kwTrue ∨ id = kwFalse) ∧ o = ⟨none, [], []⟩) ∨
    (¬ (id = kwTrue ∨ id = kwFalse) ∧ ∃ c, allCands ce (splitValue id) = .ok [c] ∧
      o = ⟨some c.1, [], candMarks [c]⟩) := by
  unfold resolveIdent at h
  by_cases hk : id = kwTrue ∨ id = kwFalse
  · rw [if_pos hk] at h
    cases h
    exact Or.inl ⟨hk, rfl⟩
  · rw [if_neg hk] at h
    split at h
    · cases h
    next cs hc =>
    split at h
    · cases h
    next c =>
      cases h
      exact Or.inr ⟨hk, c, hc, rfl⟩
    · cases h

def CandOK (ce : CEnv) (c : Cand) : Prop :=
  (∃ k : Nat, c.2 = some k ∧ c.1.index = (k : Int)) ∨
  (c.2 = none ∧ (c.1.index = -1 ∨
    ∃ a vals, getEnum ce.views ce.fuel [] ce.self a = .ok (some vals, c.1.index)))

theorem altCands_ok (ce : CEnv) (ss : List Bytes) (cs : List Cand) :
    altCands ce ss = .ok cs → ∀ c, c ∈ cs → CandOK ce c := by
  -- cases of `altCands`: `[a]` a constant / of another category / not declared; `[a, v]` getEnum fails / returns;
  -- `[a, e, v]`; any other length
  fun_cases altCands ce ss with
  | case1 =>
    rintro ⟨⟩ c hc
    cases List.mem_singleton.mp hc
    exact .inr ⟨rfl, .inl rfl⟩
  | case4 => nofun
  | case5 a v en idx hg =>
    rintro ⟨⟩ c hc
    rcases List.mem_append.mp hc with hc | hc
    · cases en with
      | none => exact absurd hc List.not_mem_nil
      | some vals =>
        rw [(mem_enumCands.mp hc).1]
        exact .inr ⟨rfl, .inr ⟨a, vals, hg⟩⟩
    · obtain ⟨j, _, _, _, _, rfl⟩ := (mem_incConstCands a v _ 0 c).mp hc
      exact .inl ⟨0 + j, rfl, rfl⟩
  | case6 a e v =>
    intro h c hc
    obtain ⟨j, _, _, _, _, _, _, _, rfl⟩ := ((mem_incEnumCands ce.views ce.fuel a e v _ 0 cs h).2 c).mp hc
    exact .inl ⟨0 + j, rfl, rfl⟩
  | _ =>
    rintro ⟨⟩ c hc
    cases hc

theorem allCands_ok (ce : CEnv) (sss : List (List Bytes)) (cs : List Cand) (h : allCands ce sss = .ok cs)
    (c : Cand) (hc : c ∈ cs) : CandOK ce c := by
  fun_induction allCands ce sss generalizing cs with
  | case1 =>
    cases h
    cases hc
  | case2 => cases h
  | case3 => cases h
  | case4 ss r c1 ha c2 hr ih =>
    cases h
    rcases List.mem_append.mp hc with hc | hc
    · exact altCands_ok ce ss c1 ha c hc
    · exact ih c2 hr hc

end Sem
