import ThriftVerif.Lib.ResolveLemmas.GoodFile
import ThriftVerif.Lib.ResolveLemmas.Const
import ThriftVerif.Lib.ResolveLemmas.GetEnum
/-
  `Include.Used` is set exactly for the includes something in the file is bound through.
-/
namespace Sem

theorem usedFlags_length (n : Nat) (marks : List Nat) : (usedFlags n marks).length = n := by
  simp [usedFlags]

theorem resolveBaseService_used {env : Env} {ext : Bytes} {o : Out (Option Ref)}
    (h : resolveBaseService env ext = .ok o) (u : Nat) : u ∈ o.used ↔ ∃ b, o.val = some ⟨u, b⟩ := by
  rcases resolveBaseService_ok h with rfl | ⟨k, b, rfl⟩
  · simp
  · exact used_iff_ref k b u

theorem patchNode_ref (st : Store) (a : Addr) (n : RNode) : (patchNode st a n).ref = n.ref := by
  fun_cases patchNode st a n <;> rfl

section
variable {p : Program} {i : Nat} {f : File} {ce : CEnv} {tds all : Out DefOut} {rf : RFile} {st : Store} {k : Nat}
  (F : Finished p i f ce tds all st rf)
include F

theorem refers_of_type_used {s : Slot} {te : TypeExpr} {r : Out (List RNode)} (hs : SlotType f s te)
    (h2 : resolveType ce.env s 0 te = .ok r) (h3 : k ∈ r.used) : RefersTo f rf k := by
  obtain ⟨as, hidx, hnodes, _⟩ := F.nodes hs
  obtain ⟨as', hidx', rfl⟩ := resolveType_ok h2
  obtain ⟨a, ham, hua⟩ := mem_combine_used.mp h3
  obtain ⟨j, hj⟩ := List.mem_iff_getElem?.mp ham
  obtain ⟨sub, hsub, hout⟩ := hidx'.get' j a hj
  obtain ⟨b, hb⟩ := ((nodeOut_facts F.traced.env hout).used k).mp hua
  obtain ⟨a2, ha2, hout2⟩ := hidx.get j sub hsub
  cases hout.symm.trans hout2
  refine Or.inl ⟨s, te, _, j, patchNode st (s, 0 + j) a.val, b, hs, hnodes, ?_, ?_⟩
  · rw [patchNodes_get, List.getElem?_map, ha2]
    rfl
  · rw [patchNode_ref]
    exact hb

theorem refers_of_const_used {s : Slot} {v : ConstVal} {b : Out (List (Option Extra))} (hs : SlotConst f s v)
    (h2 : resolveConst ce v = .ok b) (h3 : k ∈ b.used) : RefersTo f rf k := by
  obtain ⟨b', q1, q2, _⟩ := F.bindsAt hs
  cases h2.symm.trans q1
  obtain ⟨as, hidx, rfl⟩ := resolveConst_ok v b h2
  obtain ⟨a, ham, hua⟩ := mem_combine_used.mp h3
  obtain ⟨j, hj⟩ := List.mem_iff_getElem?.mp ham
  obtain ⟨id, _, hout⟩ := hidx.get' j a hj
  rcases resolveIdent_spec hout with ⟨_, rfl⟩ | ⟨_, c, hc, rfl⟩
  · cases hua
  · -- the mark is the candidate's, and a candidate that marks an include has its index
    rcases allCands_ok ce _ _ hc c (List.mem_cons_self ..) with ⟨k', e1, e2⟩ | ⟨e1, _⟩
    · simp only [candMarks, List.filterMap_cons, List.filterMap_nil, e1, List.mem_singleton] at hua
      subst hua
      exact Or.inr (Or.inl ⟨s, v, _, c.1, hs, q2, List.mem_map.mpr ⟨_, ham, rfl⟩, e2⟩)
    · simp [candMarks, e1] at hua

theorem used_of_type_ref {s : Slot} {te : TypeExpr} {ns : List RNode} {j : Nat} {nd : RNode} {b : Bytes} (hs : SlotType f s te)
    (hns : rf.nodesAt s = some ns) (hj : ns[j]? = some nd) (hb : nd.ref = some ⟨k, b⟩) : k ∈ all.used := by
  obtain ⟨as, hidx, hnodes, _, hused⟩ := F.nodes hs
  cases hnodes.symm.trans hns
  rw [patchNodes_get, List.getElem?_map] at hj
  obtain ⟨_, hn, rfl⟩ := Option.map_eq_some_iff.mp hj
  obtain ⟨a, haj, rfl⟩ := Option.map_eq_some_iff.mp hn
  rw [patchNode_ref] at hb
  obtain ⟨sub, _, hout⟩ := hidx.get' j a haj
  exact hused a (List.mem_of_getElem? haj) k (((nodeOut_facts F.traced.env hout).used k).mpr ⟨b, hb⟩)

/-- An identifier whose Extra has Index `k` marked include `k`: directly, or, for `T.X` with `T` a
typedef of this file whose type is qualified, through that typedef's own type node. -/
theorem used_of_bind
    (hcur : ce.views ce.self = some (mkCur ce.env tds.val.types f))
    {s : Slot} {cv : ConstVal} {bs : List (Option Extra)} {x : Extra} (hs : SlotConst f s cv)
    (hbs : rf.bindsAt s = some bs) (hx : some x ∈ bs) (hxi : x.index = (k : Int)) : k ∈ all.used := by
  obtain ⟨b, q1, q2, q3⟩ := F.bindsAt hs
  cases q2.symm.trans hbs
  obtain ⟨as, hidx, rfl⟩ := resolveConst_ok cv b q1
  obtain ⟨a, ham, hax⟩ := List.mem_map.mp hx
  obtain ⟨j, hj⟩ := List.mem_iff_getElem?.mp ham
  obtain ⟨id, _, hout⟩ := hidx.get' j a hj
  rcases resolveIdent_spec hout with ⟨_, rfl⟩ | ⟨_, c, hc, rfl⟩
  · cases hax
  · cases hax
    rcases allCands_ok ce _ _ hc c (List.mem_cons_self ..) with ⟨k', e1, e2⟩ | ⟨_, e2 | ⟨a', vals, hge⟩⟩
    · -- the candidate marked the include itself
      cases Int.ofNat_inj.mp (hxi.symm.trans e2)
      exact q3 k (mem_combine_used.mpr ⟨_, ham, by simp [candMarks, e1]⟩)
    · rw [hxi] at e2
      exact absurd e2 (by omega)
    · rw [hxi] at hge
      rcases getEnum_idx ce.views ce.fuel [] ce.self a' hge with h1 | ⟨v, a'', root, r, g1, g2, g3, g4⟩
      · exact absurd h1 (by omega)
      · -- the index is that of the root node of a typedef `a''` of this file, and that node marked the include
        cases hcur.symm.trans g1
        obtain ⟨td, a0, t1, rfl, t3, rfl⟩ := F.traced.tdRoot g2
        obtain ⟨as', hidx', _, _, hused'⟩ := F.nodes (.typedef t1)
        obtain ⟨a0', h0, hout0⟩ := hidx'.get 0 td.type (nodes_head _)
        cases t3.symm.trans hout0
        have hr : a0.val.ref = some ⟨k, r.name⟩ := by
          rw [Int.ofNat_inj.mp g4]
          exact g3
        exact hused' a0 (List.mem_of_getElem? h0) k (((nodeOut_facts F.traced.env t3).used k).mpr ⟨_, hr⟩)

end

theorem resolveAST_used {p : Program} {views : Nat → Option FileView} {gfuel i : Nat} {f : File} {rf : RFile}
    (hf : p[i]? = some f) (hv : ViewsGood p views) (h : resolveAST views gfuel i f = .ok rf) :
    rf.used.length = f.includes.length ∧
    ∀ k, k < f.includes.length → (rf.used[k]? = some true ↔ RefersTo f rf k) := by
  obtain ⟨R⟩ := resolveAST_run h
  have F := R.finished hf hv
  refine ⟨by rw [F.used]; exact usedFlags_length _ _, ?_⟩
  intro k hk
  rw [F.flag hk]
  constructor
  · intro hm
    rcases F.mark_from hm with ⟨s, te, r, h1, h2, h3⟩ | ⟨s, v, b, h1, h2, h3⟩ | ⟨sv, bo, hsv, h2, h3⟩
    · exact refers_of_type_used F h1 h2 h3
    · exact refers_of_const_used F h1 h2 h3
    · obtain ⟨b', q1, q2, _⟩ := F.svcRef hsv
      cases h2.symm.trans q1
      obtain ⟨b, hb⟩ := (resolveBaseService_used h2 k).mp h3
      exact Or.inr (Or.inr ⟨sv, b, hsv, by rw [q2, hb]⟩)
  · rintro (⟨s, te, ns, j, nd, b, hs, hns, hj, hb⟩ | ⟨s, cv, bs, x, hs, hbs, hx, hxi⟩ | ⟨sv, b, hsv, hb⟩)
    · exact used_of_type_ref F hs hns hj hb
    · exact used_of_bind F R.ce_cur hs hbs hx hxi
    · obtain ⟨bo, q1, q2, q3⟩ := F.svcRef hsv
      rw [q2] at hb
      exact q3 k ((resolveBaseService_used q1 k).mpr ⟨b, Option.some.inj hb⟩)

end Sem
