import ThriftVerif.Lib.ResolveLemmas.Prog
/-
  `Den` is functional on resolved programs (`den_unique`): a name or type expression of a finished file denotes one target.
-/
namespace Sem

/-- The inversion of `Den` at a name, as a statement: in `den_unique` the name is `td.alias`, not a variable, and `cases` cannot
invert the derivation. -/
theorem den_nm_inv {p : Program} {j : Nat} {b : Bytes} {t : Target} (h : Den p j (.nm b) t) :
    (∃ f c, p[j]? = some f ∧ Declares f b c ∧ c.isConcrete = true ∧ t = ⟨j, b, c⟩) ∨
    (∃ f td, p[j]? = some f ∧ td ∈ f.typedefs ∧ td.alias = b ∧ Den p j (.ty td.type) t) := by
  cases h with
  | concrete h1 h2 h3 => exact Or.inl ⟨_, _, h1, h2, h3, rfl⟩
  | typedef h1 h2 h3 => exact Or.inr ⟨_, _, h1, h2, rfl, h3⟩

theorem den_ty_name_inv {p : Program} {j : Nat} {n : Bytes} {t : Target} (h : Den p j (.ty (.name n)) t) :
    (∃ c, specBase n = some c ∧ t = ⟨j, n, c⟩) ∨
    (specBase n = none ∧ splitLastDot n = none ∧ Den p j (.nm n) t) ∨
    (∃ f a b k j' c, specBase n = none ∧ splitLastDot n = some (a, b) ∧ p[j]? = some f ∧
      FirstInc p f Cat.isTypeLikeSpec a b k j' c ∧ Den p j' (.nm b) t) := by
  cases h with
  | base h1 => exact Or.inl ⟨_, h1, rfl⟩
  | loc h1 h2 h3 => exact Or.inr (Or.inl ⟨h1, h2, h3⟩)
  | qual h1 h2 h3 h4 h5 => exact Or.inr (Or.inr ⟨_, _, _, _, _, _, h1, h2, h3, h4, h5⟩)

theorem concrete_ne_typedef {c : Cat} (h : c.isConcrete = true) : c ≠ .typedef := by
  intro e; subst e; simp [Cat.isConcrete] at h

theorem den_cat_ne_typedef {p : Program} {j : Nat} {x : NameOrType} {t : Target} (h : Den p j x t) :
    t.cat ≠ .typedef := by
  induction h with
  | concrete _ _ h3 => exact concrete_ne_typedef h3
  | typedef _ _ _ ih => exact ih
  | base h1 => exact (specBase_isBase h1).1
  | list => simp
  | set => simp
  | map => simp
  | loc _ _ _ ih => exact ih
  | qual _ _ _ _ _ ih => exact ih

/-- At every fork the two derivations took the same branch: a name is declared once in a finished file (`Good.nodup`),
and `FirstInc` is functional on the includes of a finished file, which are finished (`TableInv.closed`). -/
theorem den_unique {p : Program} {gfuel : Nat} {tbl : Table} (inv : TableInv p gfuel tbl) :
    ∀ {j x t}, Den p j x t → (∃ rf, tbl[j]? = some (some rf)) → ∀ t', Den p j x t' → t = t' := by
  have hNodup : ∀ {j : Nat} {f : File}, p[j]? = some f → (∃ rf, tbl[j]? = some (some rf)) → f.names.Nodup :=
    fun hf ⟨rf, hr⟩ => (inv.good _ _ rf hf hr).nodup
  have hIncs : ∀ {j : Nat} {f : File}, p[j]? = some f → (∃ rf, tbl[j]? = some (some rf)) →
      ∀ (k : Nat) (inc : Include) (g : File), f.includes[k]? = some inc → p[inc.target]? = some g →
        g.names.Nodup ∧ ∃ rf', tbl[inc.target]? = some (some rf') := by
    intro j f hf ⟨rf, hr⟩ k inc g hk hg
    obtain ⟨g', rf', hg', hr'⟩ := inv.closed j f rf hf hr inc (List.mem_of_getElem? hk)
    cases hg.symm.trans hg'
    exact ⟨(inv.good _ g rf' hg hr').nodup, rf', hr'⟩
  intro j x t h
  induction h with
  | @concrete j f b c h1 h2 h3 =>
    intro hj t' h'
    cases h' with
    | concrete q1 q2 _ =>
      cases h1.symm.trans q1
      rw [declares_unique (hNodup h1 hj) h2 q2]
    | typedef q1 q2 _ =>
      cases h1.symm.trans q1
      exact absurd (declares_unique (hNodup h1 hj) h2 (.typedef q2)) (concrete_ne_typedef h3)
  | @typedef j f td t h1 h2 _ ih =>
    intro hj t' h'
    rcases den_nm_inv h' with ⟨f', c', q1, q2, q3, _⟩ | ⟨f', td', q1, q2, q3, q4⟩
    · cases h1.symm.trans q1
      exact absurd (declares_unique (hNodup h1 hj) q2 (.typedef h2)) (concrete_ne_typedef q3)
    · cases h1.symm.trans q1
      cases findTypedef_unique (hNodup h1 hj) q2 h2 q3
      exact ih hj t' q4
  | @base j n c h1 =>
    intro _ t' h'
    cases h' with
    | base q1 =>
      cases h1.symm.trans q1
      rfl
    | loc q1 _ _ => cases h1.symm.trans q1
    | qual q1 _ _ _ _ => cases h1.symm.trans q1
  | list =>
    intro _ t' h'
    cases h'
    rfl
  | set =>
    intro _ t' h'
    cases h'
    rfl
  | map =>
    intro _ t' h'
    cases h'
    rfl
  | @loc j n t h1 h2 _ ih =>
    intro hj t' h'
    cases h' with
    | base q1 => cases h1.symm.trans q1
    | loc _ _ q3 => exact ih hj t' q3
    | qual _ q2 _ _ _ => cases h2.symm.trans q2
  | @qual j f n a b k j' c t h1 h2 h3 h4 _ ih =>
    intro hj t' h'
    cases h' with
    | base q1 => cases h1.symm.trans q1
    | loc _ q2 _ => cases h2.symm.trans q2
    | qual _ q2 q3 q4 q5 =>
      cases h3.symm.trans q3
      cases h2.symm.trans q2
      obtain ⟨rfl, rfl, rfl⟩ := firstInc_unique (fun k inc g hk hg => (hIncs h3 hj k inc g hk hg).1) h4 q4
      obtain ⟨inc, g, r1, rfl, r4, _⟩ := h4.found
      exact ih (hIncs h3 hj k inc g r1 r4).2 t' q5

end Sem
