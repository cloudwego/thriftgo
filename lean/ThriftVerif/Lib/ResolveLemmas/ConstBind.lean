import ThriftVerif.Lib.ResolveLemmas.EnumDen
import ThriftVerif.Lib.ResolveLemmas.Const
/-
  Constant values: the candidates ResolveConstValue collects for an identifier against `ConstCand`
  (`cands_spec`), the views ResolveAST hands to getEnum (`allViews_of_run`), and the per-file statement
  of resolve_const_binding.
-/
namespace Sem

variable {p : Program} {views : Nat → Option FileView}

structure CandCtx (p : Program) (i : Nat) (f : File) (ce : CEnv) : Prop where
  self : ce.self = i
  env : EnvGood p i f ce.env
  views : AllViews p ce.views
  cur : ∃ v, ce.views i = some v

theorem CandCtx.viewed {p : Program} {i : Nat} {f : File} {ce : CEnv} (C : CandCtx p i f ce)
    {k : Nat} {inc : Include} (hk : f.includes[k]? = some inc) : ∃ v, ce.views inc.target = some v := by
  obtain ⟨vi, hvi⟩ := C.cur
  exact C.views.closed hvi C.env.file (List.mem_of_getElem? hk)

theorem alt_two_spec {p : Program} {i : Nat} {f : File} {ce : CEnv} (C : CandCtx p i f ce)
    {id a v : Bytes} (hsp : splitLastDot id = some (a, v)) {cs : List Cand} (h : altCands ce [a, v] = .ok cs) :
    (∀ c, c ∈ cs → ConstCand p i id c.1) ∧
    (∀ {e idx}, EnumDen p i a e idx → EnumHasValue p e v → ∃ c, c ∈ cs ∧ c.1 = ⟨true, idx, v, a⟩) ∧
    (∀ {k : Nat} {inc : Include} {g : File}, f.includes[k]? = some inc → idlPrefix inc.path = a →
      p[inc.target]? = some g → Declares g v .constant → ∃ c, c ∈ cs ∧ c.1 = ⟨false, (k : Int), v, a⟩) := by
  simp only [altCands] at h
  split at h
  · cases h
  next en idx0 hg =>
    cases h
    rw [C.self] at hg
    refine ⟨?_, ?_, ?_⟩
    · intro c hc
      rcases List.mem_append.mp hc with hc | hc
      · cases en with
        | none => cases hc
        | some vals =>
          obtain ⟨rfl, e2⟩ := mem_enumCands.mp hc
          obtain ⟨e, hed, hev⟩ := (getEnum_iff C.views C.cur hg idx0 v).mp ⟨vals, rfl, e2⟩
          exact .enumValue hsp hed hev
      · obtain ⟨j, ii, h1, h2, h3, rfl⟩ := (mem_incConstCands a v _ 0 c).mp hc
        obtain ⟨inc, g, q1, q2, q3, q4, q5⟩ := incs_at C.env.incs h1
        rw [Nat.zero_add]
        exact .incConst C.env.file hsp q1 (q2.symm.trans h2) q4 ((q5 v .constant).mp h3)
    · intro e idx hed hval
      obtain ⟨vals, e1, hx⟩ := (getEnum_iff C.views C.cur hg idx v).mpr ⟨e, hed, hval⟩
      cases e1
      exact ⟨(⟨true, idx0, v, a⟩, none), List.mem_append.mpr (Or.inl (mem_enumCands.mpr ⟨rfl, hx⟩)), rfl⟩
    · intro k inc g hk hp hgk hd
      obtain ⟨ii, q1, q2, _, q6⟩ := C.env.incs.get hk hgk
      refine ⟨(⟨false, ((0 + k : Nat) : Int), v, a⟩, some (0 + k)), List.mem_append.mpr (Or.inr ?_), by simp⟩
      exact (mem_incConstCands a v _ 0 _).mpr ⟨k, ii, q1, q2.trans hp, (q6 v .constant).mpr hd, rfl⟩

theorem alt_three_spec {p : Program} {i : Nat} {f : File} {ce : CEnv} (C : CandCtx p i f ce)
    {id ae a en v : Bytes} (hsp : splitLastDot id = some (ae, v)) (hsp2 : splitLastDot ae = some (a, en))
    {cs : List Cand} (h : altCands ce [a, en, v] = .ok cs) :
    (∀ c, c ∈ cs → ConstCand p i id c.1) ∧
    (∀ {k : Nat} {inc : Include} {e idx}, f.includes[k]? = some inc → idlPrefix inc.path = a →
      EnumDen p inc.target en e idx → EnumHasValue p e v → ∃ c, c ∈ cs ∧ c.1 = ⟨true, (k : Int), v, en⟩) := by
  simp only [altCands] at h
  obtain ⟨m1, m2⟩ := mem_incEnumCands ce.views ce.fuel a en v _ 0 cs h
  refine ⟨?_, ?_⟩
  · intro c hc
    obtain ⟨j, ii, h1, h2, vals, idx, h3, h4, rfl⟩ := (m2 c).mp hc
    obtain ⟨inc, g, q1, q2, q3, q4, _⟩ := incs_at C.env.incs h1
    rw [q3] at h3
    obtain ⟨e, hed, hev⟩ := (getEnum_iff C.views (C.viewed q1) h3 idx v).mp ⟨vals, rfl, h4⟩
    rw [Nat.zero_add]
    exact .incEnumValue C.env.file hsp hsp2 q1 (q2.symm.trans h2) hed hev
  · intro k inc e idx hk hp hed hval
    obtain ⟨ii, g', q1, q2, q3, q4, _, _⟩ := C.env.incs.2 k inc hk
    obtain ⟨r, hr⟩ := m1 ii (List.mem_of_getElem? q1) (q2.trans hp)
    rw [q3] at hr
    obtain ⟨vals, rfl, hx⟩ := (getEnum_iff C.views (C.viewed hk) hr idx v).mpr ⟨e, hed, hval⟩
    refine ⟨(⟨true, ((0 + k : Nat) : Int), v, en⟩, some (0 + k)), ?_, by simp⟩
    exact (m2 _).mpr ⟨k, ii, q1, q2.trans hp, vals, idx, q3 ▸ hr, hx, rfl⟩

theorem cands_spec {p : Program} {i : Nat} {f : File} {ce : CEnv} (C : CandCtx p i f ce)
    {id : Bytes} {cs : List Cand} : allCands ce (splitValue id) = .ok cs →
    (∀ c, c ∈ cs → ConstCand p i id c.1) ∧ (∀ y, ConstCand p i id y → ∃ c, c ∈ cs ∧ c.1 = y) := by
  -- cases of `splitValue`: the empty identifier; no dot; a last dot
  fun_cases splitValue id with
  | case1 hid =>
    rintro ⟨⟩
    subst hid
    refine ⟨fun _ hc => absurd hc List.not_mem_nil, fun y hy => ?_⟩
    cases hy with
    | localConst _ h2 _ _ => exact absurd rfl h2
    | enumValue h1 _ _ => cases h1
    | incConst _ h1 _ _ _ _ => cases h1
    | incEnumValue _ h1 _ _ _ _ _ => cases h1
  | case2 hid hsp =>
    intro h
    -- no dot: the one reading is a constant of the file
    obtain ⟨c1, c2, h1, h2, rfl⟩ := allCands_cons_ok h
    cases h2
    rw [List.append_nil]
    simp only [altCands] at h1
    refine ⟨fun c hc => ?_, fun y hy => ?_⟩
    · split at h1
      next cc hn =>
        by_cases hcc : cc = .constant
        · rw [if_pos hcc] at h1
          cases h1
          cases List.mem_singleton.mp hc
          exact .localConst C.env.file hid hsp ((C.env.n2c id _).mp (hcc ▸ hn))
        · rw [if_neg hcc] at h1
          cases h1
          cases hc
      next =>
        cases h1
        cases hc
    · cases hy with
      | localConst q1 _ _ q3 =>
        cases C.env.file.symm.trans q1
        rw [(C.env.n2c id .constant).mpr q3] at h1
        cases h1
        exact ⟨_, List.mem_cons_self .., rfl⟩
      | enumValue q1 _ _ => cases hsp.symm.trans q1
      | incConst _ q1 _ _ _ _ => cases hsp.symm.trans q1
      | incEnumValue _ q1 _ _ _ _ _ => cases hsp.symm.trans q1
  | case3 hid a v hsp =>
    intro h
    obtain ⟨c1, c2, h1, h2, rfl⟩ := allCands_cons_ok h
    obtain ⟨s1, s2, s3⟩ := alt_two_spec C hsp h1
    have third : (∀ c, c ∈ c2 → ConstCand p i id c.1) ∧
        ∀ {a' en : Bytes}, splitLastDot a = some (a', en) →
          ∀ {k : Nat} {inc : Include} {e idx}, f.includes[k]? = some inc → idlPrefix inc.path = a' →
            EnumDen p inc.target en e idx → EnumHasValue p e v → ∃ c, c ∈ c2 ∧ c.1 = ⟨true, (k : Int), v, en⟩ := by
      split at h2
      next a' en hsp2 =>
        obtain ⟨c3, c4, h3, h4, rfl⟩ := allCands_cons_ok h2
        cases h4
        rw [List.append_nil]
        obtain ⟨t1, t2⟩ := alt_three_spec C hsp hsp2 h3
        exact ⟨t1, fun e => by cases hsp2.symm.trans e; exact t2⟩
      next hsp2 =>
        cases h2
        exact ⟨fun _ hc => absurd hc List.not_mem_nil, fun e => by cases hsp2.symm.trans e⟩
    refine ⟨fun c hc => (List.mem_append.mp hc).elim (s1 c) (third.1 c), fun y hy => ?_⟩
    cases hy with
    | localConst _ _ q2 _ => cases hsp.symm.trans q2
    | enumValue q1 q2 q3 =>
      cases hsp.symm.trans q1
      obtain ⟨c, hc, e⟩ := s2 q2 q3
      exact ⟨c, List.mem_append.mpr (Or.inl hc), e⟩
    | incConst q0 q1 q2 q3 q4 q5 =>
      cases hsp.symm.trans q1
      cases C.env.file.symm.trans q0
      obtain ⟨c, hc, e⟩ := s3 q2 q3 q4 q5
      exact ⟨c, List.mem_append.mpr (Or.inl hc), e⟩
    | incEnumValue q0 q1 q2 q3 q4 q5 q6 =>
      cases hsp.symm.trans q1
      cases C.env.file.symm.trans q0
      obtain ⟨c, hc, e⟩ := third.2 q2 q3 q4 q5 q6
      exact ⟨c, List.mem_append.mpr (Or.inr hc), e⟩

theorem viewSpec_finished {p : Program} {V : Nat → Option FileView} {j : Nat} {g : File} {rf : RFile}
    (hg : p[j]? = some g) (hgood : Good p j g rf)
    (hcl : ∀ (inc : Include), inc ∈ g.includes → ∃ v', V inc.target = some v') :
    ViewSpec p V j (rf.view g) := by
  refine ⟨g, hg, hgood.nodup, ?_, ?_, ?_, ?_, rfl, hcl⟩
  · intro n c
    simp only [RFile.view, mkView]
    exact hgood.n2c n c
  · intro n; rfl
  · intro b root hroot
    obtain ⟨td, nd0, h1, h2, h3, h4⟩ := view_typedef hgood hroot
    refine ⟨td, h1, h2, by rw [h4], ?_, ?_⟩
    · intro k b'; rw [h4]; exact h3.2.2 k b'
    · obtain ⟨t, ht, _⟩ := h3.1; exact ⟨t, ht⟩
  · intro td htd
    exact view_typedef_exists htd

theorem allViews_of_run {gfuel i : Nat} {f : File} {rf : RFile}
    (R : Run views gfuel i f rf) (hf : p[i]? = some f) (hv : ViewsGood p views) (hc : ViewsClosed p views)
    (hgood : Good p i f rf) : AllViews p R.ce.views := by
  have T := R.traced hf hv
  have hg := T.env
  have hnd := hg.nodup
  have hincl := mkIncs_views f.includes R.incs R.e1
  have hsome : ∀ (inc : Include), (∃ v', views inc.target = some v') → ∃ v', R.ce.views inc.target = some v' := by
    intro inc ⟨v', hv'⟩
    by_cases hji : inc.target = i
    · rw [hji]; exact ⟨_, R.ce_cur⟩
    · rw [R.ce_other hji]; exact ⟨v', hv'⟩
  intro j v hvj
  by_cases hji : j = i
  · subst hji
    cases R.ce_cur.symm.trans hvj
    refine ⟨f, hf, hnd, ?_, ?_, ?_, ?_, rfl, ?_⟩
    · intro n c
      simp only [mkCur, mkView]
      exact hg.n2c n c
    · intro n; rfl
    · intro b root hroot
      simp only [mkCur, mkView] at hroot
      obtain ⟨td, a0, t1, t2, t3, t4⟩ := T.tdRoot hroot
      refine ⟨td, t1, t2, by rw [t4], ?_, ?_⟩
      · intro k b'
        rw [t4]
        exact (nodeOut_facts hg t3).ref k b'
      · obtain ⟨ns, _, hlen, hgn⟩ := hgood.nodes (.typedef td.alias) td.type (.typedef t1)
        have hpos := nodes_pos td.type
        cases ns with
        | nil => exact absurd hlen (Nat.ne_of_lt hpos)
        | cons nd0 rest =>
          obtain ⟨⟨t, ht, _⟩, _⟩ := hgn 0 td.type nd0 (nodes_head _) rfl
          exact ⟨t, ht⟩
    · intro td htd
      exact tdRootOf_exists _ htd rfl
    · intro inc hinc
      exact hsome inc (hincl inc hinc)
  · rw [R.ce_other hji] at hvj
    obtain ⟨g, rf', hg', hvv, hgood'⟩ := hv j v hvj
    obtain ⟨g2, hg2, hcl⟩ := hc j v hvj
    cases hg'.symm.trans hg2
    rw [hvv]
    exact viewSpec_finished hg' hgood' (fun inc hinc => hsome inc (hcl inc hinc))

theorem resolveAST_binds {gfuel i : Nat} {f : File} {rf : RFile}
    (hf : p[i]? = some f) (hv : ViewsGood p views) (hc : ViewsClosed p views)
    (h : resolveAST views gfuel i f = .ok rf) (hgood : Good p i f rf)
    {s : Slot} {cv : ConstVal} (hs : SlotConst f s cv) :
    ∃ bs, rf.bindsAt s = some bs ∧ bs.length = cv.idents.length ∧
      ∀ (k : Nat) id b, cv.idents[k]? = some id → bs[k]? = some b →
        ((id = kwTrue ∨ id = kwFalse) ∧ b = none) ∨
        (¬ (id = kwTrue ∨ id = kwFalse) ∧ ∃ x, b = some x ∧ ConstCand p i id x ∧
          ∀ y, ConstCand p i id y → y = x) := by
  obtain ⟨R⟩ := resolveAST_run h
  have F := R.finished hf hv
  have C : CandCtx p i f R.ce := ⟨rfl, F.traced.env, allViews_of_run R hf hv hc hgood, ⟨_, R.ce_cur⟩⟩
  obtain ⟨b, q1, q2, _⟩ := F.bindsAt hs
  obtain ⟨as, hidx, hb⟩ := resolveConst_ok cv b q1
  refine ⟨b.val, q2, by rw [hb]; simp [combine, hidx.length], ?_⟩
  intro k id bd hid hbd
  rw [hb, combine_val_get] at hbd
  obtain ⟨a, hak, hout⟩ := hidx.get k id hid
  rw [hak] at hbd
  cases hbd
  rcases resolveIdent_spec hout with ⟨hk, rfl⟩ | ⟨hk, c, hc', rfl⟩
  · exact Or.inl ⟨hk, rfl⟩
  · obtain ⟨s1, s2⟩ := cands_spec C hc'
    refine Or.inr ⟨hk, c.1, rfl, s1 c (List.mem_cons_self ..), fun y hy => ?_⟩
    obtain ⟨c', hc'', rfl⟩ := s2 y hy
    rw [List.mem_singleton.mp hc'']

end Sem
