import ThriftVerif.Lib.ResolveLemmas.Inc
/-
  What ResolveType does at one node against the specification (`nodeOut_facts`), by the branch of
  `nodeOut` / `resolveName` taken, in an environment that reads the file and its includes correctly
  (`EnvGood`): the flags, the Reference, the mark, and either a denotation or the queued entry.
-/
namespace Sem

structure EnvGood (p : Program) (i : Nat) (f : File) (env : Env) : Prop where
  file : p[i]? = some f
  nodup : f.names.Nodup
  n2c : ∀ n c, env.n2c n = some c ↔ Declares f n c
  incs : IncsGood p f env.incs

/-- `e` is the work-list entry of a node written `n`. -/
def EntryOf (p : Program) (f : File) (e : TdEntry) (n : Bytes) : Prop :=
  specBase n = none ∧
  match e.ast with
  | .cur => e.name = n ∧ splitLastDot n = none
  | .inc k => ∃ a j, splitLastDot n = some (a, e.name) ∧ FirstInc p f Cat.isTypeLikeSpec a e.name k j .typedef

theorem concrete_of_typeLike {c : Cat} (h : c.isTypeLikeSpec = true) (hc : c ≠ .typedef) :
    c.isConcrete = true := by
  unfold Cat.isTypeLikeSpec at h
  simp only [Bool.or_eq_true, decide_eq_true_eq] at h
  exact h.resolve_right hc

structure NodeFacts (p : Program) (i : Nat) (f : File) (s : Slot) (k : Nat) (sub : TypeExpr)
    (a : Out RNode) : Prop where
  isTd : a.val.isTypedef = true ↔ NamesTypedef p i sub
  ref : ∀ k' b, a.val.ref = some ⟨k', b⟩ ↔ QualRef p i sub k' b
  addr : ∀ e, e ∈ a.work → e.addr = (s, k)
  cat : (a.work = [] ∧ ∃ t, Den p i (.ty sub) t ∧ a.val.cat = t.cat) ∨
        (a.val.cat = .typedef ∧ ∃ e n, a.work = [e] ∧ sub = .name n ∧ EntryOf p f e n)
  used : ∀ u, u ∈ a.used ↔ ∃ b, a.val.ref = some ⟨u, b⟩

section
variable {p : Program} {i : Nat} {f : File} {env : Env} {s : Slot} {k : Nat} {n : Bytes}

theorem used_none (u : Nat) : u ∈ ([] : List Nat) ↔ ∃ b, (none : Option Ref) = some ⟨u, b⟩ :=
  ⟨fun hu => absurd hu List.not_mem_nil, fun ⟨_, h⟩ => nomatch h⟩

theorem plain_facts {sub : TypeExpr} {c : Cat}
    (hq : ∀ k b, ¬ QualRef p i sub k b) (hnt : ¬ NamesTypedef p i sub)
    (hden : ∃ t, Den p i (.ty sub) t ∧ c = t.cat) :
    NodeFacts p i f s k sub ⟨plainNode c, [], []⟩ where
  isTd := ⟨fun h => absurd h Bool.false_ne_true, fun h => absurd h hnt⟩
  ref k' b := ⟨(nomatch ·), fun h => absurd h (hq k' b)⟩
  addr _ he := absurd he List.not_mem_nil
  cat := .inl ⟨rfl, hden⟩
  used := used_none

theorem local_typedef_facts (hf : p[i]? = some f) (hb : specBase n = none) (hsp : splitLastDot n = none)
    (hdecl : Declares f n .typedef) :
    NodeFacts p i f s k (.name n) ⟨⟨.typedef, true, none⟩, [⟨(s, k), .cur, n⟩], []⟩ where
  isTd := ⟨fun _ => ⟨n, f, rfl, hb, hf, .inl ⟨hsp, hdecl⟩⟩, fun _ => rfl⟩
  ref k' b := ⟨(nomatch ·), fun h => absurd h (not_qual_of_nodot hsp k' b)⟩
  addr e he := by cases List.mem_singleton.mp he; rfl
  cat := .inr ⟨rfl, _, n, rfl, rfl, hb, rfl, hsp⟩
  used := used_none

theorem not_namesTypedef_of_local (hg : EnvGood p i f env) {c : Cat} (hsp : splitLastDot n = none)
    (hdecl : Declares f n c) (hct : c ≠ .typedef) : ¬ NamesTypedef p i (.name n) := by
  rintro ⟨_, f', ⟨⟩, _, hf', ⟨_, hd⟩ | ⟨_, _, _, _, h4, _⟩⟩
  · cases hg.file.symm.trans hf'
    exact hct (declares_unique hg.nodup hdecl hd)
  · rw [hsp] at h4; cases h4

section
variable {a b : Bytes} {k0 j : Nat} {c : Cat} (hg : EnvGood p i f env) (hb : specBase n = none)
  (hsp : splitLastDot n = some (a, b)) (hfirst : FirstInc p f Cat.isTypeLikeSpec a b k0 j c)
include hg hb hsp hfirst

theorem qualRef_of_first (k' : Nat) (b' : Bytes) :
    (some (Ref.mk k0 b) = some ⟨k', b'⟩) ↔ QualRef p i (.name n) k' b' := by
  rw [Option.some.injEq, Ref.mk.injEq]
  constructor
  · rintro ⟨rfl, rfl⟩
    exact ⟨n, f, a, j, c, rfl, hb, hg.file, hsp, hfirst⟩
  · rintro ⟨_, f', a', j', c', ⟨⟩, _, hf', h4, h5⟩
    cases hg.file.symm.trans hf'
    cases hsp.symm.trans h4
    exact ⟨(firstInc_unique_of_incs hg.incs hfirst h5).1, rfl⟩

theorem namesTypedef_of_first : NamesTypedef p i (.name n) ↔ c = .typedef := by
  constructor
  · rintro ⟨_, f', ⟨⟩, _, hf', ⟨h4, _⟩ | ⟨a', b', k', j', h4, h5⟩⟩
    · rw [hsp] at h4; cases h4
    · cases hg.file.symm.trans hf'
      cases hsp.symm.trans h4
      exact (firstInc_unique_of_incs hg.incs hfirst h5).2.2
  · rintro rfl
    exact ⟨n, f, rfl, hb, hg.file, .inr ⟨a, b, k0, j, hsp, hfirst⟩⟩

end

theorem used_iff_ref (k0 : Nat) (b : Bytes) (u : Nat) : u ∈ [k0] ↔ ∃ b', some (Ref.mk k0 b) = some ⟨u, b'⟩ := by
  simp only [List.mem_singleton, Option.some.injEq, Ref.mk.injEq]
  exact ⟨fun hu => ⟨b, hu.symm, rfl⟩, fun ⟨_, hu, _⟩ => hu.symm⟩

theorem qual_typedef_facts (hg : EnvGood p i f env) {a b : Bytes} {k0 j : Nat} (hb : specBase n = none)
    (hsp : splitLastDot n = some (a, b)) (hfirst : FirstInc p f Cat.isTypeLikeSpec a b k0 j .typedef) :
    NodeFacts p i f s k (.name n) ⟨⟨.typedef, true, some ⟨k0, b⟩⟩, [⟨(s, k), .inc k0, b⟩], [k0]⟩ where
  isTd := ⟨fun _ => (namesTypedef_of_first hg hb hsp hfirst).mpr rfl, fun _ => rfl⟩
  ref := qualRef_of_first hg hb hsp hfirst
  addr e he := by cases List.mem_singleton.mp he; rfl
  cat := .inr ⟨rfl, _, n, rfl, rfl, hb, a, j, hsp, hfirst⟩
  used := used_iff_ref k0 b

theorem qual_concrete_facts (hg : EnvGood p i f env) {a b : Bytes} {k0 j : Nat} {c : Cat} (hb : specBase n = none)
    (hsp : splitLastDot n = some (a, b)) (hfirst : FirstInc p f Cat.isTypeLikeSpec a b k0 j c)
    (hct : c ≠ .typedef) :
    NodeFacts p i f s k (.name n) ⟨⟨c, false, some ⟨k0, b⟩⟩, [], [k0]⟩ where
  isTd := ⟨fun h => absurd h Bool.false_ne_true, fun h => absurd ((namesTypedef_of_first hg hb hsp hfirst).mp h) hct⟩
  ref := qualRef_of_first hg hb hsp hfirst
  addr _ he := absurd he List.not_mem_nil
  cat := by
    obtain ⟨_, _, _, _, q4, q5, q6⟩ := hfirst.found
    exact .inl ⟨rfl, _, Den.qual hb hsp hg.file hfirst (Den.concrete q4 q5 (concrete_of_typeLike q6 hct)), rfl⟩
  used := used_iff_ref k0 b

theorem nodeOut_facts (hg : EnvGood p i f env)
    {sub : TypeExpr} {a : Out RNode} (h : nodeOut env s k sub = .ok a) :
    NodeFacts p i f s k sub a := by
  have container : ∀ {sub : TypeExpr} {c : Cat}, (∀ n, sub ≠ .name n) →
      (∃ t, Den p i (.ty sub) t ∧ c = t.cat) → NodeFacts p i f s k sub ⟨plainNode c, [], []⟩ :=
    fun hsub hden => plain_facts (not_name_not_qual hsub).1 (not_name_not_qual hsub).2 hden
  cases sub with
  | list v => cases h; exact container nofun ⟨_, Den.list, rfl⟩
  | set v => cases h; exact container nofun ⟨_, Den.set, rfl⟩
  | map kk v => cases h; exact container nofun ⟨_, Den.map, rfl⟩
  | name n =>
    -- the branches of `resolveName` that return: 1 a base type; 3, 4 a local name (typedef, other type);
    -- 7, 8 a qualified name (typedef, other type)
    have hbase := baseCat_eq_specBase n
    revert h
    show resolveName env s k n = .ok a → _
    fun_cases resolveName env s k n with
    | case1 c hb =>
      rintro ⟨⟩
      rw [hbase] at hb
      exact plain_facts (not_qual_of_base hb) (not_namesTypedef_of_base hb) ⟨_, Den.base hb, rfl⟩
    | case2 => nofun
    | case3 hb _ a1 h1 hn =>
      rintro ⟨⟩
      obtain ⟨hsp, rfl⟩ := splitType_one h1
      exact local_typedef_facts hg.file (hbase ▸ hb) hsp ((hg.n2c _ _).mp hn)
    | case4 hb _ a1 h1 c hn htl hct =>
      rintro ⟨⟩
      obtain ⟨hsp, rfl⟩ := splitType_one h1
      have hdecl := (hg.n2c _ _).mp hn
      rw [isTypeLike_eq_spec] at htl
      exact plain_facts (not_qual_of_nodot hsp) (not_namesTypedef_of_local hg hsp hdecl hct)
        ⟨_, Den.loc (hbase ▸ hb) hsp (Den.concrete hg.file hdecl (concrete_of_typeLike htl hct)), rfl⟩
    | case5 => nofun
    | case6 => nofun
    | case7 hb _ a1 b1 h2 k0 hfi =>
      rintro ⟨⟩
      obtain ⟨j, hfirst⟩ := firstInc_of_findInc hg.incs hfi
      rw [funext isTypeLike_eq_spec] at hfirst
      exact qual_typedef_facts hg (hbase ▸ hb) (splitType_two h2) hfirst
    | case8 hb _ a1 b1 h2 k0 c hfi hct =>
      rintro ⟨⟩
      obtain ⟨j, hfirst⟩ := firstInc_of_findInc hg.incs hfi
      rw [funext isTypeLike_eq_spec] at hfirst
      exact qual_concrete_facts hg (hbase ▸ hb) (splitType_two h2) hfirst hct
    | case9 => nofun
    | case10 => nofun

end

end Sem
