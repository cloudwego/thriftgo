import ThriftVerif.Lib.ResolveLemmas.Struct
import ThriftVerif.Lib.ResolveLemmas.Events
-- Node: `resolveBaseService` and `resolveName` share a matcher; the second module to derive a case principle must see the first
import ThriftVerif.Lib.ResolveLemmas.Node
/-
  ResolveAST as a trace: `Trace` says that an output is what the ResolveType / ResolveConstValue / ResolveBaseService
  calls for a list of events produce, in that order.  The model functions under ResolveAST are built from these calls by
  `seqOut` and `flatOut ∘ mapOutIdx`; `Traces` is proved along that syntax, down to `file_trace` over `File.events`.
  `Run` is the list of equations a successful ResolveAST consists of.  The output of a trace holds exactly what its calls
  returned (`Trace.has_iff`), so what is stored depends on the set of events only (`trace_equiv`), and a lookup by key
  returns the result of the call made for that key.
-/
namespace Sem

def Out.seq (a b : Out DefOut) : Out DefOut := ⟨a.val.append b.val, a.work ++ b.work, a.used ++ b.used⟩

def Out.nil : Out DefOut := ⟨⟨[], [], []⟩, [], []⟩

inductive Trace (ce : CEnv) : List Ev → Out DefOut → Prop
  | nil : Trace ce [] Out.nil
  | ty {s te o evs r} : resolveType ce.env s 0 te = .ok o → Trace ce evs r →
      Trace ce (.ty s te :: evs) (Out.seq ⟨⟨[(s, o.val)], [], []⟩, o.work, o.used⟩ r)
  | cv {s v b evs r} : resolveConst ce v = .ok b → Trace ce evs r →
      Trace ce (.cv s v :: evs) (Out.seq ⟨⟨[], [(s, b.val)], []⟩, b.work, b.used⟩ r)
  | svc {name ext bo evs r} : resolveBaseService ce.env ext = .ok bo → Trace ce evs r →
      Trace ce (.svc name ext :: evs) (Out.seq ⟨⟨[], [], [(name, bo.val)]⟩, bo.work, bo.used⟩ r)

theorem DefOut.append_nil (a : DefOut) : a.append ⟨[], [], []⟩ = a := by
  cases a; simp [DefOut.append]

theorem DefOut.nil_append (a : DefOut) : DefOut.append ⟨[], [], []⟩ a = a := by
  cases a; simp [DefOut.append]

theorem DefOut.append_assoc (a b c : DefOut) : (a.append b).append c = a.append (b.append c) := by
  simp [DefOut.append, List.append_assoc]

theorem Out.seq_nil (a : Out DefOut) : Out.seq a Out.nil = a := by
  cases a; simp [Out.seq, Out.nil, DefOut.append_nil]

theorem Out.nil_seq (a : Out DefOut) : Out.seq Out.nil a = a := by
  cases a; simp [Out.seq, Out.nil, DefOut.nil_append]

theorem Out.seq_assoc (a b c : Out DefOut) : Out.seq (Out.seq a b) c = Out.seq a (Out.seq b c) := by
  simp [Out.seq, DefOut.append_assoc, List.append_assoc]

theorem Trace.append {ce : CEnv} : ∀ {e1 o1 e2 o2}, Trace ce e1 o1 → Trace ce e2 o2 →
    Trace ce (e1 ++ e2) (Out.seq o1 o2) := by
  intro e1 o1 e2 o2 h1 h2
  induction h1 with
  | nil => rw [Out.nil_seq]; exact h2
  | ty h _ ih => rw [Out.seq_assoc]; exact .ty h ih
  | cv h _ ih => rw [Out.seq_assoc]; exact .cv h ih
  | svc h _ ih => rw [Out.seq_assoc]; exact .svc h ih

inductive Returns (ce : CEnv) : Ev → Out DefOut → Prop
  | ty {s te o} : resolveType ce.env s 0 te = .ok o →
      Returns ce (.ty s te) ⟨⟨[(s, o.val)], [], []⟩, o.work, o.used⟩
  | cv {s v b} : resolveConst ce v = .ok b → Returns ce (.cv s v) ⟨⟨[], [(s, b.val)], []⟩, b.work, b.used⟩
  | svc {name ext bo} : resolveBaseService ce.env ext = .ok bo →
      Returns ce (.svc name ext) ⟨⟨[], [], [(name, bo.val)]⟩, bo.work, bo.used⟩

theorem Returns.trace {ce : CEnv} {ev : Ev} {a : Out DefOut} (h : Returns ce ev a) : Trace ce [ev] a := by
  rw [← Out.seq_nil a]
  cases h with
  | ty h0 => exact .ty h0 .nil
  | cv h0 => exact .cv h0 .nil
  | svc h0 => exact .svc h0 .nil

theorem seqOut_ok {a b : Res (Out DefOut)} {o : Out DefOut} : seqOut a b = .ok o →
    ∃ x y, a = .ok x ∧ b = .ok y ∧ o = Out.seq x y := by
  fun_cases seqOut a b
  · nofun
  · nofun
  · exact fun h => ⟨_, _, rfl, rfl, (Except.ok.inj h).symm⟩

def Traces (ce : CEnv) (r : Res (Out DefOut)) (evs : List Ev) : Prop := ∀ o, r = .ok o → Trace ce evs o

namespace Traces
variable {ce : CEnv}

theorem ok {evs o} (h : Trace ce evs o) : Traces ce (.ok o) evs :=
  fun _ e => Except.ok.inj e ▸ h

theorem error {e evs} : Traces ce (.error e) evs :=
  fun _ h => nomatch h

theorem trace {r evs o} (h : Traces ce r evs) (hr : r = .ok o) : Trace ce evs o :=
  h o hr

theorem seq {a b : Res (Out DefOut)} {e1 e2 : List Ev} (ha : Traces ce a e1) (hb : Traces ce b e2) :
    Traces ce (seqOut a b) (e1 ++ e2) := by
  intro o h
  obtain ⟨x, y, hx, hy, rfl⟩ := seqOut_ok h
  exact (ha.trace hx).append (hb.trace hy)

theorem flat {α} {g : Nat → α → Res (Out DefOut)} {ev : Nat → α → List Ev} {E : Nat → List α → List Ev}
    (hnil : ∀ k, E k [] = []) (hcons : ∀ k x r, E k (x :: r) = ev k x ++ E (k + 1) r)
    (hg : ∀ k x, Traces ce (g k x) (ev k x)) (k : Nat) (l : List α) :
    Traces ce (flatOut (mapOutIdx g k l)) (E k l) := by
  fun_induction mapOutIdx g k l with
  | case1 => rw [hnil]; exact ok .nil
  | case2 => exact error
  | case3 => exact error
  | case4 k x r a ha b hb ih => rw [hcons]; exact ok (((hg k x).trace ha).append (ih.trace (congrArg flatOut hb)))

theorem slot {s : Slot} {te : TypeExpr} : Traces ce (resolveSlot ce.env s te) [.ty s te] := by
  fun_cases resolveSlot ce.env s te
  · exact error
  next o hr => exact ok (Returns.ty hr).trace

theorem slotConst {s : Slot} {v : ConstVal} : Traces ce (resolveSlotConst ce s v) [.cv s v] := by
  fun_cases resolveSlotConst ce s v
  · exact error
  next b hr => exact ok (Returns.cv hr).trace

theorem member {mk : Nat → Slot} (k : Nat) (fl : Field) : Traces ce (resolveMember ce mk k fl) (fieldEvs mk k [fl]) := by
  unfold resolveMember
  simp only [fieldEvs, List.append_nil]
  cases fl.dflt with
  | none => exact slot
  | some d => exact seq slot slotConst

theorem fields (mk : Nat → Slot) (k : Nat) (l : List Field) :
    Traces ce (flatOut (mapOutIdx (resolveMember ce mk) k l)) (fieldEvs mk k l) :=
  flat (fun _ => rfl) (fun _ _ _ => by simp [fieldEvs]) member k l

theorem function {svc : Bytes} (k : Nat) (fn : Function) : Traces ce (resolveFunction ce svc k fn) (fnEv svc k fn) := by
  unfold resolveFunction fnEv
  refine seq ?_ (seq (fields _ 0 _) (fields _ 0 _))
  cases fn.ret with
  | none => exact ok .nil
  | some t => exact slot

theorem service (s : Service) : Traces ce (resolveServiceDef ce s) (svcEvs s) := by
  unfold resolveServiceDef svcEvs
  refine seq (flat (fun _ => rfl) (fun _ _ _ => rfl) function 0 _) ?_
  cases hb : resolveBaseService ce.env s.extends with
  | error e => exact error
  | ok bo => exact ok (Returns.svc hb).trace

theorem flatMap {α} {g : α → Res (Out DefOut)} {ev : α → List Ev} (hg : ∀ x, Traces ce (g x) (ev x)) (l : List α) :
    Traces ce (flatOut (mapOut g l)) (l.flatMap ev) := by
  rw [mapOut_eq_idx g l 0]
  exact flat (E := fun _ l => l.flatMap ev) (fun _ => rfl) (fun _ _ _ => List.flatMap_cons) (fun _ => hg) 0 l

end Traces

theorem file_trace {ce : CEnv} {f : File} {tds cs ss svs : Out DefOut}
    (e3 : flatOut (mapOut (resolveTypedefDef ce.env) f.typedefs) = .ok tds)
    (e4 : flatOut (mapOut (resolveConstantDef ce) f.constants) = .ok cs)
    (e5 : flatOut (mapOut (resolveStructLikeDef ce) f.structLikes) = .ok ss)
    (e6 : flatOut (mapOut (resolveServiceDef ce) f.services) = .ok svs) :
    Trace ce f.tdEvents tds ∧ Trace ce f.events (Out.seq (Out.seq (Out.seq tds cs) ss) svs) := by
  have t1 : Trace ce f.tdEvents tds := by
    have := (Traces.flatMap (g := resolveTypedefDef ce.env) (ev := fun td => [Ev.ty (.typedef td.alias) td.type])
      (fun _ => Traces.slot) f.typedefs).trace e3
    rwa [← List.map_eq_flatMap] at this
  exact ⟨t1, ((t1.append ((Traces.flatMap (fun _ => Traces.seq .slot .slotConst) _).trace e4)).append
    ((Traces.flatMap (fun _ => Traces.fields _ 0 _) _).trace e5)).append ((Traces.flatMap Traces.service _).trace e6)⟩

structure Run (views : Nat → Option FileView) (gfuel i : Nat) (f : File) (rf : RFile) where
  incs : List IncInfo
  n2cL : N2C
  tds : Out DefOut
  cs : Out DefOut
  ss : Out DefOut
  svs : Out DefOut
  st : Store
  e1 : mkIncs views f.includes = .ok incs
  e2 : registerNames f = .ok n2cL
  e3 : flatOut (mapOut (resolveTypedefDef (mkEnv n2cL incs)) f.typedefs) = .ok tds
  e4 : flatOut (mapOut (resolveConstantDef
        (mkCE views gfuel i (mkEnv n2cL incs) (mkCur (mkEnv n2cL incs) tds.val.types f))) f.constants) = .ok cs
  e5 : flatOut (mapOut (resolveStructLikeDef
        (mkCE views gfuel i (mkEnv n2cL incs) (mkCur (mkEnv n2cL incs) tds.val.types f))) f.structLikes) = .ok ss
  e6 : flatOut (mapOut (resolveServiceDef
        (mkCE views gfuel i (mkEnv n2cL incs) (mkCur (mkEnv n2cL incs) tds.val.types f))) f.services) = .ok svs
  e7 : resolveTypedefs (mkLE views incs (mkCur (mkEnv n2cL incs) tds.val.types f))
        (tds.work ++ cs.work ++ ss.work ++ svs.work) = .ok st
  e8 : rf = { n2c := n2cL
              used := usedFlags f.includes.length (tds.used ++ cs.used ++ ss.used ++ svs.used)
              types := patchTypes st (((tds.val.append cs.val).append ss.val).append svs.val).types
              binds := (((tds.val.append cs.val).append ss.val).append svs.val).binds
              svcRefs := (((tds.val.append cs.val).append ss.val).append svs.val).svc }

theorem resolveAST_run {views : Nat → Option FileView} {gfuel i : Nat} {f : File} {rf : RFile} :
    resolveAST views gfuel i f = .ok rf → Nonempty (Run views gfuel i f rf) := by
  fun_cases resolveAST views gfuel i f
  · nofun
  · nofun
  · nofun
  · nofun
  · nofun
  · nofun
  · nofun
  next incs h1 n2cL h2 tds h3 cs h4 ss h5 svs h6 st h7 =>
    exact fun h => ⟨⟨incs, n2cL, tds, cs, ss, svs, st, h1, h2, h3, h4, h5, h6, h7, (Except.ok.inj h).symm⟩⟩

theorem resolveAST_of_run {views : Nat → Option FileView} {gfuel i : Nat} {f : File} {rf : RFile}
    (R : Run views gfuel i f rf) : resolveAST views gfuel i f = .ok rf := by
  simp only [resolveAST, R.e1, R.e2, R.e3, R.e4, R.e5, R.e6, R.e7]
  exact congrArg Except.ok R.e8.symm

section
variable {views : Nat → Option FileView} {gfuel i : Nat} {f : File} {rf : RFile} (R : Run views gfuel i f rf)

def Run.env : Env := mkEnv R.n2cL R.incs
def Run.cur : FileView := mkCur R.env R.tds.val.types f
def Run.ce : CEnv := mkCE views gfuel i R.env R.cur
def Run.all : Out DefOut := Out.seq (Out.seq (Out.seq R.tds R.cs) R.ss) R.svs

theorem Run.ce_cur : R.ce.views i = some (mkCur R.ce.env R.tds.val.types f) := if_pos rfl

theorem Run.ce_other {j : Nat} (h : j ≠ i) : R.ce.views j = views j := if_neg h

theorem Run.loop : resolveTypedefs (mkLE views R.incs R.cur) R.all.work = .ok R.st := R.e7

theorem Run.rf_eq : rf = { n2c := R.n2cL
                           used := usedFlags f.includes.length R.all.used
                           types := patchTypes R.st R.all.val.types
                           binds := R.all.val.binds
                           svcRefs := R.all.val.svc } := R.e8

theorem Run.traces : Trace R.ce f.tdEvents R.tds ∧ Trace R.ce f.events R.all :=
  file_trace (ce := R.ce) R.e3 R.e4 R.e5 R.e6

end

theorem resolveIdent_work {ce : CEnv} {id : Bytes} {o : Out (Option Extra)} :
    resolveIdent ce id = .ok o → o.work = [] := by
  -- cases of resolveIdent: `true` / `false`; allCands fails; no candidate; one; several
  fun_cases resolveIdent ce id
  · rintro ⟨⟩; rfl
  · nofun
  · nofun
  · rintro ⟨⟩; rfl
  · nofun

theorem idents_work {ce : CEnv} {k : Nat} {l : List Bytes} {as : List (Out (Option Extra))}
    (h : IdxAll (fun _ id => resolveIdent ce id) k l as) : (combine as).work = [] := by
  induction h with
  | nil => rfl
  | cons hg _ ih => simp only [combine, List.flatMap_cons, resolveIdent_work hg, List.nil_append]; exact ih

theorem resolveConst_work {ce : CEnv} (v : ConstVal) (b : Out (List (Option Extra)))
    (h : resolveConst ce v = .ok b) : b.work = [] := by
  obtain ⟨as, has, rfl⟩ := resolveConst_ok v b h
  exact idents_work has

theorem resolveConstL_work {ce : CEnv} : ∀ (l : List ConstVal) (b : Out (List (Option Extra))),
    resolveConstL ce l = .ok b → b.work = [] :=
  fun l b h => resolveConst_work (.list l) b h

theorem resolveConstM_work {ce : CEnv} : ∀ (l : List (ConstVal × ConstVal)) (b : Out (List (Option Extra))),
    resolveConstM ce l = .ok b → b.work = [] :=
  fun l b h => resolveConst_work (.map l) b h

theorem resolveBaseService_ok {env : Env} {ext : Bytes} {o : Out (Option Ref)} :
    resolveBaseService env ext = .ok o →
    o = ⟨none, [], []⟩ ∨ ∃ k b, o = ⟨some ⟨k, b⟩, [], [k]⟩ := by
  -- cases of resolveBaseService: local name a service, of another category, undeclared; qualified name found,
  -- not found; any other split
  fun_cases resolveBaseService env ext
  · rintro ⟨⟩; exact .inl rfl
  · nofun
  · nofun
  · rintro ⟨⟩; exact .inr ⟨_, _, rfl⟩
  · nofun
  · rintro ⟨⟩; exact .inl rfl

/-- The five kinds of thing an output holds, so that `Trace.has_iff` is stated and proved once. -/
inductive Item
  | work (e : TdEntry)
  | used (u : Nat)
  | type (s : Slot) (ns : List RNode)
  | bind (s : Slot) (bs : List (Option Extra))
  | svc (n : Bytes) (r : Option Ref)

def Out.Has (o : Out DefOut) : Item → Prop
  | .work e => e ∈ o.work
  | .used u => u ∈ o.used
  | .type s ns => (s, ns) ∈ o.val.types
  | .bind s bs => (s, bs) ∈ o.val.binds
  | .svc n r => (n, r) ∈ o.val.svc

theorem Out.has_seq (a b : Out DefOut) (x : Item) : (Out.seq a b).Has x ↔ a.Has x ∨ b.Has x := by
  cases x <;> exact List.mem_append

/-- `evs` occurs through membership only: what a trace stores depends on the set of its events, not on
their order (`Trace.has_iff`). -/
inductive Stored (ce : CEnv) (evs : List Ev) (x : Item) : Prop
  | intro {ev a} : ev ∈ evs → Returns ce ev a → a.Has x → Stored ce evs x

theorem Stored.mono {ce : CEnv} {evs evs' : List Ev} (hsub : ∀ ev, ev ∈ evs → ev ∈ evs') {x : Item} :
    Stored ce evs x → Stored ce evs' x :=
  fun ⟨hm, hr, hx⟩ => ⟨hsub _ hm, hr, hx⟩

theorem Returns.unique {ce : CEnv} {ev : Ev} {a a' : Out DefOut} (h : Returns ce ev a) (h' : Returns ce ev a') :
    a = a' := by
  cases h <;> cases h' <;> simp_all

theorem Trace.has_iff {ce : CEnv} {evs o} (h : Trace ce evs o) :
    (∀ ev, ev ∈ evs → ∃ a, Returns ce ev a) ∧ ∀ x, o.Has x ↔ Stored ce evs x := by
  have step : ∀ {ev evs a r}, Returns ce ev a →
      ((∀ ev', ev' ∈ evs → ∃ a', Returns ce ev' a') ∧ ∀ x, r.Has x ↔ Stored ce evs x) →
      (∀ ev', ev' ∈ ev :: evs → ∃ a', Returns ce ev' a') ∧ ∀ x, (Out.seq a r).Has x ↔ Stored ce (ev :: evs) x := by
    intro ev evs a r hret ih
    refine ⟨fun ev' hm => ?_, fun x => ?_⟩
    · rcases List.mem_cons.mp hm with rfl | hm
      · exact ⟨a, hret⟩
      · exact ih.1 ev' hm
    · rw [Out.has_seq, ih.2 x]
      constructor
      · rintro (hx | hx)
        · exact ⟨List.mem_cons_self .., hret, hx⟩
        · exact hx.mono fun _ => List.mem_cons_of_mem _
      · rintro ⟨hm, hr', hx'⟩
        rcases List.mem_cons.mp hm with rfl | hm
        · exact Or.inl (hret.unique hr' ▸ hx')
        · exact Or.inr ⟨hm, hr', hx'⟩
  induction h with
  | nil =>
    refine ⟨fun _ hm => (nomatch hm), fun x => ⟨fun hx => ?_, fun ⟨hm, _, _⟩ => (nomatch hm)⟩⟩
    cases x <;> cases hx
  | ty h0 _ ih => exact step (.ty h0) ih
  | cv h0 _ ih => exact step (.cv h0) ih
  | svc h0 _ ih => exact step (.svc h0) ih

theorem lookupSlot_get {α} : Assoc.IsGet (lookupSlot (α := α)) := ⟨fun _ => rfl, fun _ _ _ => if_pos rfl, fun _ _ => (if_neg ·)⟩

theorem Stored.type {ce : CEnv} {evs : List Ev} {s : Slot} {v : List RNode} :
    Stored ce evs (.type s v) → ∃ te r, Ev.ty s te ∈ evs ∧ resolveType ce.env s 0 te = .ok r ∧ r.val = v := by
  rintro ⟨hm, hr, hx⟩
  cases hr with
  | ty h0 => cases List.mem_singleton.mp hx; exact ⟨_, _, hm, h0, rfl⟩
  | _ => cases hx

theorem Stored.bind {ce : CEnv} {evs : List Ev} {s : Slot} {v : List (Option Extra)} :
    Stored ce evs (.bind s v) → ∃ cv b, Ev.cv s cv ∈ evs ∧ resolveConst ce cv = .ok b ∧ b.val = v := by
  rintro ⟨hm, hr, hx⟩
  cases hr with
  | cv h0 => cases List.mem_singleton.mp hx; exact ⟨_, _, hm, h0, rfl⟩
  | _ => cases hx

theorem Stored.svc {ce : CEnv} {evs : List Ev} {n : Bytes} {v : Option Ref} :
    Stored ce evs (.svc n v) → ∃ ext b, Ev.svc n ext ∈ evs ∧ resolveBaseService ce.env ext = .ok b ∧ b.val = v := by
  rintro ⟨hm, hr, hx⟩
  cases hr with
  | svc h0 => cases List.mem_singleton.mp hx; exact ⟨_, _, hm, h0, rfl⟩
  | _ => cases hx

theorem Trace.lookups {ce : CEnv} {evs o} (h : Trace ce evs o) (hfun : EvFun evs) :
    (∀ s v, lookupSlot s o.val.types = some v ↔ o.Has (.type s v)) ∧
    (∀ s v, lookupSlot s o.val.binds = some v ↔ o.Has (.bind s v)) ∧
    (∀ n v, lookupB n o.val.svc = some v ↔ o.Has (.svc n v)) := by
  have hx := h.has_iff.2
  refine ⟨fun s v => ?_, fun s v => ?_, fun n v => ?_⟩
  · refine lookupSlot_get.eq_some_iff_of_functional fun v v' hv hv' => ?_
    obtain ⟨te, r, hm, h0, rfl⟩ := Stored.type ((hx (.type s v)).mp hv)
    obtain ⟨te', r', hm', h0', rfl⟩ := Stored.type ((hx (.type s v')).mp hv')
    cases hfun.ty hm hm'
    rw [h0] at h0'; cases h0'; rfl
  · refine lookupSlot_get.eq_some_iff_of_functional fun v v' hv hv' => ?_
    obtain ⟨te, r, hm, h0, rfl⟩ := Stored.bind ((hx (.bind s v)).mp hv)
    obtain ⟨te', r', hm', h0', rfl⟩ := Stored.bind ((hx (.bind s v')).mp hv')
    cases hfun.cv hm hm'
    rw [h0] at h0'; cases h0'; rfl
  · refine lookupB_get.eq_some_iff_of_functional fun v v' hv hv' => ?_
    obtain ⟨te, r, hm, h0, rfl⟩ := Stored.svc ((hx (.svc n v)).mp hv)
    obtain ⟨te', r', hm', h0', rfl⟩ := Stored.svc ((hx (.svc n v')).mp hv')
    cases hfun.svc hm hm'
    rw [h0] at h0'; cases h0'; rfl

theorem Trace.returns_at {ce : CEnv} {evs o ev} (h : Trace ce evs o) (hm : ev ∈ evs) :
    ∃ a, Returns ce ev a ∧ ∀ x, a.Has x → o.Has x :=
  let ⟨a, hr⟩ := h.has_iff.1 ev hm
  ⟨a, hr, fun x hx => (h.has_iff.2 x).mpr ⟨hm, hr, hx⟩⟩

theorem Trace.type_at {ce : CEnv} {evs o} (h : Trace ce evs o) (hfun : EvFun evs) (s te) (hm : Ev.ty s te ∈ evs) :
    ∃ r, resolveType ce.env s 0 te = .ok r ∧ lookupSlot s o.val.types = some r.val ∧
      (∀ e, e ∈ r.work → e ∈ o.work) ∧ (∀ u, u ∈ r.used → u ∈ o.used) := by
  obtain ⟨a, hret, hx⟩ := h.returns_at hm
  cases hret with
  | ty h0 =>
    exact ⟨_, h0, ((h.lookups hfun).1 s _).mpr (hx (.type s _) (List.mem_singleton.mpr rfl)),
      fun e => hx (.work e), fun u => hx (.used u)⟩

theorem Trace.bind_at {ce : CEnv} {evs o} (h : Trace ce evs o) (hfun : EvFun evs) (s v) (hm : Ev.cv s v ∈ evs) :
    ∃ b, resolveConst ce v = .ok b ∧ lookupSlot s o.val.binds = some b.val ∧
      (∀ u, u ∈ b.used → u ∈ o.used) := by
  obtain ⟨a, hret, hx⟩ := h.returns_at hm
  cases hret with
  | cv h0 =>
    exact ⟨_, h0, ((h.lookups hfun).2.1 s _).mpr (hx (.bind s _) (List.mem_singleton.mpr rfl)), fun u => hx (.used u)⟩

theorem Trace.svc_at {ce : CEnv} {evs o} (h : Trace ce evs o) (hfun : EvFun evs) (n ext) (hm : Ev.svc n ext ∈ evs) :
    ∃ b, resolveBaseService ce.env ext = .ok b ∧ lookupB n o.val.svc = some b.val ∧
      (∀ u, u ∈ b.used → u ∈ o.used) := by
  obtain ⟨a, hret, hx⟩ := h.returns_at hm
  cases hret with
  | svc h0 =>
    exact ⟨_, h0, ((h.lookups hfun).2.2 n _).mpr (hx (.svc n _) (List.mem_singleton.mpr rfl)), fun u => hx (.used u)⟩

theorem Trace.work_from {ce : CEnv} {evs o} (h : Trace ce evs o) (e : TdEntry) (he : e ∈ o.work) :
    ∃ s te r, Ev.ty s te ∈ evs ∧ resolveType ce.env s 0 te = .ok r ∧ e ∈ r.work := by
  obtain ⟨hm, hr, hx⟩ := (h.has_iff.2 (.work e)).mp he
  cases hr with
  | ty h0 => exact ⟨_, _, _, hm, h0, hx⟩
  | cv h0 => exact absurd (resolveConst_work _ _ h0 ▸ hx : e ∈ ([] : List TdEntry)) List.not_mem_nil
  | svc h0 =>
    rcases resolveBaseService_ok h0 with rfl | ⟨_, _, rfl⟩
    · cases hx
    · cases hx

theorem Trace.used_from {ce : CEnv} {evs o} (h : Trace ce evs o) (u : Nat) (hu : u ∈ o.used) :
    (∃ s te r, Ev.ty s te ∈ evs ∧ resolveType ce.env s 0 te = .ok r ∧ u ∈ r.used) ∨
    (∃ s v b, Ev.cv s v ∈ evs ∧ resolveConst ce v = .ok b ∧ u ∈ b.used) ∨
    (∃ n ext b, Ev.svc n ext ∈ evs ∧ resolveBaseService ce.env ext = .ok b ∧ u ∈ b.used) := by
  obtain ⟨hev, hret, hx⟩ := (h.has_iff.2 (.used u)).mp hu
  cases hret with
  | ty h0 => exact Or.inl ⟨_, _, _, hev, h0, hx⟩
  | cv h0 => exact Or.inr (Or.inl ⟨_, _, _, hev, h0, hx⟩)
  | svc h0 => exact Or.inr (Or.inr ⟨_, _, _, hev, h0, hx⟩)

structure TraceEquiv (o o' : Out DefOut) : Prop where
  types : ∀ s, lookupSlot s o.val.types = lookupSlot s o'.val.types
  binds : ∀ s, lookupSlot s o.val.binds = lookupSlot s o'.val.binds
  svc : ∀ n, lookupB n o.val.svc = lookupB n o'.val.svc
  work : ∀ e, e ∈ o.work ↔ e ∈ o'.work
  used : ∀ u, u ∈ o.used ↔ u ∈ o'.used

theorem trace_equiv {ce : CEnv} {evs evs' : List Ev} {o o' : Out DefOut}
    (t : Trace ce evs o) (t' : Trace ce evs' o') (hsub : ∀ ev, ev ∈ evs → ev ∈ evs')
    (hsub' : ∀ ev, ev ∈ evs' → ev ∈ evs) (hfun : EvFun evs) : TraceEquiv o o' := by
  have hst : ∀ x, Stored ce evs x ↔ Stored ce evs' x := fun x => ⟨Stored.mono hsub, Stored.mono hsub'⟩
  have hx : ∀ x, o.Has x ↔ o'.Has x := fun x => (t.has_iff.2 x).trans ((hst x).trans (t'.has_iff.2 x).symm)
  obtain ⟨a1, a2, a3⟩ := t.lookups hfun
  obtain ⟨b1, b2, b3⟩ := t'.lookups (hfun.sub hsub')
  exact ⟨fun s => Option.ext fun v => (a1 s v).trans ((hx _).trans (b1 s v).symm),
    fun s => Option.ext fun v => (a2 s v).trans ((hx _).trans (b2 s v).symm),
    fun n => Option.ext fun v => (a3 n v).trans ((hx _).trans (b3 n v).symm),
    fun e => hx (.work e), fun u => hx (.used u)⟩

theorem lookupSlot_patch (st : Store) (s : Slot) (ts : List TypeRes) :
    lookupSlot s (patchTypes st ts) = (lookupSlot s ts).map (patchNodes st s 0) := by
  fun_induction lookupSlot s ts with
  | case1 => rfl
  | case2 ns r => exact if_pos rfl
  | case3 s' ns r h ih => exact (if_neg h).trans ih

end Sem
