import ThriftVerif.Lib.ResolveLemmas.Basic
import ThriftVerif.Core.Dfs
/-
  getEnum on the model alone: the two equations of a call that goes on; what its include index is; its visited set bounds
  its recursion, so the model's fuel is never exhausted (`getEnum_fuel`).
  An induction along getEnum numbers its exits: 1 no fuel; 2 no view; 3 name not declared; 4, 5 an enum without / with its
  values; 6 a typedef without its root; 7 a typedef met before; a qualified typedef: 8 include out of range, 9 to 11 the call
  on the target fails / finds values / finds none; an unqualified typedef: 12 its root is a keyword, 13 the call on its
  root; 14 any other category.
-/
namespace Sem

theorem getEnum_enum {views : Nat → Option FileView} {fuel : Nat} {seen : List (Nat × Bytes)} {j : Nat}
    {name : Bytes} {v : FileView} (hv : views j = some v) (hn : v.n2c name = some .enum) :
    getEnum views (fuel + 1) seen j name =
      match v.enum name with
      | none => .error .goPanic
      | some vals => .ok (some vals, -1) := by
  simp only [getEnum, hv, hn, if_true]
  rfl

theorem getEnum_typedef {views : Nat → Option FileView} {fuel : Nat} {seen : List (Nat × Bytes)} {j : Nat}
    {name : Bytes} {v : FileView} {td : TdRoot} (hv : views j = some v) (hn : v.n2c name = some .typedef)
    (ht : v.typedef name = some td) (hs : (j, name) ∉ seen) :
    getEnum views (fuel + 1) seen j name =
      match td.ref with
      | some r =>
        match v.incs[r.index]? with
        | none => .error .goPanic
        | some tgt =>
          match getEnum views fuel ((j, name) :: seen) tgt r.name with
          | .error e => .error e
          | .ok (some vals, _) => .ok (some vals, (r.index : Int))
          | .ok (none, _) => .ok (none, -1)
      | none =>
        if inCategoryMap td.rootName then .ok (none, -1)
        else getEnum views fuel ((j, name) :: seen) j td.rootName := by
  simp only [getEnum, hv, hn, ht, if_neg hs, reduceCtorEq, if_false, if_true]
  rfl

theorem getEnum_idx (views : Nat → Option FileView) (fuel : Nat) (seen : List (Nat × Bytes)) (j : Nat) (name : Bytes)
    {vals : List Bytes} {idx : Int} (h : getEnum views fuel seen j name = .ok (some vals, idx)) :
    idx = -1 ∨ ∃ v a root r, views j = some v ∧ v.typedef a = some root ∧ root.ref = some r ∧ idx = (r.index : Int) := by
  fun_induction getEnum views fuel seen j name with
  | case5 =>
    cases h
    exact .inl rfl
  | case10 _ _ j name v hv td ht _ r hr =>
    cases h
    exact .inr ⟨v, name, td, r, hv, ht, hr, rfl⟩
  | case13 _ _ _ _ _ _ _ _ _ _ _ _ _ ih => exact ih h
  | _ => cases h

def keysFrom : Nat → List File → List (Nat × Bytes)
  | _, [] => []
  | k, f :: r => f.typedefs.map (fun td => (k, td.alias)) ++ keysFrom (k + 1) r

def Program.typedefKeys (p : Program) : List (Nat × Bytes) := keysFrom 0 p

theorem mem_keysFrom (l : List File) (k j : Nat) (g : File) (td : Typedef) (h : l[j]? = some g)
    (htd : td ∈ g.typedefs) : (k + j, td.alias) ∈ keysFrom k l := by
  fun_induction keysFrom k l generalizing j with
  | case1 => cases h
  | case2 k f r ih =>
    rw [List.mem_append]
    cases j with
    | zero =>
      cases h
      exact .inl (List.mem_map.mpr ⟨td, htd, rfl⟩)
    | succ j =>
      have := ih j h
      rw [Nat.add_right_comm] at this
      exact .inr this

theorem keysFrom_length : ∀ (l : List File) (k : Nat),
    (keysFrom k l).length = (l.map (fun f => f.typedefs.length)).sum
  | [], _ => rfl
  | f :: r, k => by
    simp only [keysFrom, List.length_append, List.length_map, List.map_cons, List.sum_cons,
      keysFrom_length r (k + 1)]

theorem typedefKeys_lt_chainFuel (p : Program) : p.typedefKeys.length < p.chainFuel := by
  unfold Program.typedefKeys Program.chainFuel Program.typedefCount
  rw [keysFrom_length, List.sum_eq_foldl_nat]
  omega

theorem getEnum_fuel {views : Nat → Option FileView} {K : List (Nat × Bytes)}
    (hK : ∀ j v n, views j = some v → v.n2c n = some .typedef → (j, n) ∈ K)
    (fuel : Nat) (seen : List (Nat × Bytes)) (j : Nat) (name : Bytes) (hlt : Dfs.fresh K seen < fuel) :
    getEnum views fuel seen j name ≠ .error .fuel := by
  -- the fuel runs out at once (1) or in the call for a typedef not met before (9, 13), which uses up a key of `K`
  fun_induction getEnum views fuel seen j name with
  | case1 => exact absurd hlt (Nat.not_lt_zero _)
  | case9 _ seen j name v hv _ _ hs _ _ _ _ _ hsub hn _ ih =>
    rintro ⟨⟩
    exact ih (Nat.lt_of_lt_of_le (Dfs.fresh_cons_lt hs (hK j v name hv hn)) (Nat.le_of_lt_succ hlt)) hsub
  | case13 _ seen j name v hv _ _ hs _ _ hn _ ih =>
    exact ih (Nat.lt_of_lt_of_le (Dfs.fresh_cons_lt hs (hK j v name hv hn)) (Nat.le_of_lt_succ hlt))
  | _ => rintro ⟨⟩
end Sem
