import ThriftVerif.Lib.TrimLemmas.Sweep
import ThriftVerif.Lib.TrimLemmas.Witnesses
