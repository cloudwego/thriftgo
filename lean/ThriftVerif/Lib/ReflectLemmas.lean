import ThriftVerif.Lib.Reflect
import ThriftVerif.Gen.StdLemmas
import ThriftVerif.Core.Assoc
/-
  C15 helper lemmas about Lib/Reflect. Every Go-map assignment of the model — `mapSet`, the first-wins `mapSetNew`, and
  `Annotations.Append` read on entries (`annoAppend_pairs`) — is an update in the sense of `Core.Assoc`, so a map built by
  assignments answers like `find?` on the source list. What a run of the registration DFS may do to the registry is `Grows`;
  from the empty registry it registers the stamped descriptor of every reachable file.
-/
namespace Reflect
open Gen

theorem mapGet_get {β : Type} : Assoc.IsGet fun k (m : List (Str × β)) => mapGet m k :=
  ⟨fun _ => rfl, fun _ _ _ => if_pos rfl, fun _ _ => (if_neg ·)⟩

theorem mapSet_upd {β : Type} (v : β) : Assoc.IsUpd (fun _ => v) fun k m => mapSet m k v :=
  ⟨fun _ => rfl, fun _ _ _ => if_pos rfl, fun _ _ => (if_neg ·)⟩

theorem foldl_mapSet_nodup {α β : Type} (key : α → Str) (val : α → β) (xs : List α) :
    ∀ (m : List (Str × β)), (m.map Prod.fst ++ xs.map key).Nodup →
      xs.foldl (fun m x => mapSet m (key x) (val x)) m = m ++ xs.map (fun x => (key x, val x)) := by
  induction xs with
  | nil => intro m _; simp
  | cons x r ih =>
    intro m h
    have hx : key x ∉ m.map Prod.fst := by
      intro hm
      rw [List.nodup_append] at h
      exact h.2.2 _ hm _ (by simp) rfl
    rw [List.foldl_cons, (mapSet_upd _).of_not_mem hx, ih]
    · simp
    · simp only [List.map_append, List.map_cons, List.map_nil, List.append_assoc, List.singleton_append]
      simpa using h

theorem mapOfList_nodup {α β : Type} (key : α → Str) (val : α → β) (xs : List α) (h : (xs.map key).Nodup) :
    mapOfList key val xs = xs.map (fun x => (key x, val x)) :=
  foldl_mapSet_nodup key val xs [] h

theorem mapGet_mapOfList {α β : Type} (key : α → Str) (val : α → β) (xs : List α) (h : (xs.map key).Nodup) (k : Str) :
    mapGet (mapOfList key val xs) k = (xs.find? (fun x => key x = k)).map val := by
  rw [mapOfList_nodup key val xs h, mapGet_get.map]

theorem mapSetNew_upd {β : Type} (v : β) : Assoc.IsUpd (·.getD v) fun k m => mapSetNew m k v where
  nil _ := rfl
  hit _ _ _ := by
    simp only [mapSetNew, mapGet_get.hit]
    rfl
  miss b r h := by
    simp only [mapSetNew, mapGet_get.miss b r h, (mapSet_upd v).miss b r h]
    cases mapGet r _ <;> rfl

theorem mapGet_foldl_first {α β : Type} (key : α → Str) (val : α → β) (k : Str) (xs : List α) :
    ∀ (m : List (Str × β)), mapGet (xs.foldl (fun m x => mapSetNew m (key x) (val x)) m) k =
      (mapGet m k).or ((xs.find? (fun x => key x = k)).map val) := by
  induction xs with
  | nil => intro m; simp
  | cons x r ih =>
    intro m
    rw [List.foldl_cons, ih, mapGet_get.get_upd (mapSetNew_upd _), List.find?_cons]
    by_cases hk : key x = k
    · subst hk
      cases mapGet m (key x) <;> simp
    · simp [hk]

theorem mapGet_mapOfListFirst {α β : Type} (key : α → Str) (val : α → β) (xs : List α) (k : Str) :
    mapGet (mapOfListFirst key val xs) k = (xs.find? (fun x => key x = k)).map val :=
  mapGet_foldl_first key val k xs []

theorem mapGet_none_of_not_mem {β : Type} (m : List (Str × β)) (k : Str) (h : k ∉ m.map Prod.fst) : mapGet m k = none :=
  mapGet_get.eq_none_iff.2 h

theorem mapGet_some_mem {β : Type} (m : List (Str × β)) (k : Str) (v : β) (h : mapGet m k = some v) : (k, v) ∈ m :=
  mapGet_get.mem h

/-- what the parser's `Annotations.Append` guarantees (`annosOfPairs_ok`) -/
def AnnosOK (as : List Anno) : Prop := (as.map Anno.key).Nodup

def annoPair (a : Anno) : Str × List Str := (a.key, a.values)

theorem annoFacts_eq_mapGet (as : List Anno) (k : Str) : annoFacts as k = mapGet (as.map annoPair) k :=
  (mapGet_get.map Anno.key Anno.values as k).symm

theorem annoFacts_annoMap (as : List Anno) (h : AnnosOK as) : mapGet (annoMap as) = annoFacts as :=
  funext (mapGet_mapOfList Anno.key Anno.values as h)

theorem annoAppend_pairs (as : List Anno) (k v : Str) :
    (annoAppend as k v).map annoPair = mapSet (as.map annoPair) k ((annoFacts as k).getD [] ++ [v]) := by
  fun_induction annoAppend as k v with
  | case1 => rfl
  | case2 a r v => simp [annoFacts, annoPair, mapSet]
  | case3 a r k v h ih => simp [annoFacts, annoPair, mapSet, h, ih]

theorem AnnosOK_iff (as : List Anno) : AnnosOK as ↔ ((as.map annoPair).map Prod.fst).Nodup := by
  rw [List.map_map]
  rfl

theorem annoAppend_nodup (as : List Anno) (k v : Str) (h : AnnosOK as) : AnnosOK (annoAppend as k v) := by
  rw [AnnosOK_iff, annoAppend_pairs]
  exact mapGet_get.keys_upd_nodup (mapSet_upd _) k ((AnnosOK_iff as).mp h)

theorem annosOfPairs_ok (ps : List (Str × Str)) : AnnosOK (annosOfPairs ps) :=
  List.foldlRecOn ps _ List.nodup_nil fun as h p _ => annoAppend_nodup as p.1 p.2 h

theorem annoFacts_append (as : List Anno) (k v k2 : Str) :
    annoFacts (annoAppend as k v) k2 = if k = k2 then some ((annoFacts as k).getD [] ++ [v]) else annoFacts as k2 := by
  rw [annoFacts_eq_mapGet, annoAppend_pairs, mapGet_get.get_upd (mapSet_upd _), ← annoFacts_eq_mapGet]

def valuesOf (ps : List (Str × Str)) (k : Str) : List Str := (ps.filter (fun p => p.1 = k)).map (·.2)

theorem valuesOf_cons (p : Str × Str) (r : List (Str × Str)) (k : Str) :
    valuesOf (p :: r) k = if p.1 = k then p.2 :: valuesOf r k else valuesOf r k := by
  simp only [valuesOf, List.filter_cons, decide_eq_true_eq]
  split <;> rfl

/-- the values under one key after `Annotations.Append` of further values `vs` for that key -/
def extend (o : Option (List Str)) (vs : List Str) : Option (List Str) :=
  if vs = [] then o else some (o.getD [] ++ vs)

theorem extend_cons (o : Option (List Str)) (v : Str) (vs : List Str) :
    extend (some (o.getD [] ++ [v])) vs = extend o (v :: vs) := by
  cases vs <;> simp [extend]

theorem annoFacts_fold (ps : List (Str × Str)) (k : Str) : ∀ as : List Anno,
    annoFacts (ps.foldl (fun as p => annoAppend as p.1 p.2) as) k = extend (annoFacts as k) (valuesOf ps k) := by
  induction ps with
  | nil => exact fun _ => rfl
  | cons p r ih =>
    intro as
    rw [List.foldl_cons, ih, annoFacts_append, valuesOf_cons]
    split
    · subst k
      exact extend_cons ..
    · rfl

mutual
theorem tyOfDesc_descTy (p : Str) (t : TyE) : tyOfDesc (descTy p t) = t := by
  cases t with
  | mk n k v => simp [descTy, tyOfDesc, tyOfDescO_descTyO p k, tyOfDescO_descTyO p v]
theorem tyOfDescO_descTyO (p : Str) (t : TyO) : tyOfDescO (descTyO p t) = t := by
  cases t with
  | none => rfl
  | some t => simp [descTyO, tyOfDescO, tyOfDesc_descTy p t]
end

-- the tags are pairwise distinct numerals: `cvOfDesc` finds the branch `descCV` chose by evaluating them
section
attribute [local simp] cvtINT cvtDOUBLE cvtSTRING cvtBOOL cvtLIST cvtMAP cvtIDENTIFIER
theorem cvOfDesc_descCV_all : (∀ c, cvOfDesc (descCV c) = c) ∧ (∀ c, cvOfDescp (descCVp c) = c) ∧
    ∀ c, cvOfDescs (descCVs c) = c := by
  apply descCV.mutual_induct_unfolding (fun c d => cvOfDesc d = c) (fun c d => cvOfDescp d = c) (fun c d => cvOfDescs d = c)
  -- cases of descCV: int; dbl; lit; the identifiers `false`, `true`, any other; list; map; then descCVs and descCVp on nil, cons
  case case1 | case2 | case3 | case4 | case5 | case6 =>
    intros
    simp [cvOfDesc]
  case case7 | case8 =>
    intro xs ih
    simp [cvOfDesc, ih]
  case case9 | case11 => rfl
  case case10 =>
    intro x r ih1 ih2
    simp [cvOfDescs, ih1, ih2]
  case case12 =>
    intro k v r ih1 ih2 ih3
    simp [cvOfDescp, ih1, ih2, ih3]
end

theorem cvOfDesc_descCV (c : CV) : cvOfDesc (descCV c) = c := cvOfDesc_descCV_all.1 c

theorem cvOfDescs_descCVs (c : List CV) : cvOfDescs (descCVs c) = c := cvOfDesc_descCV_all.2.2 c

theorem cvOfDescp_descCVp (c : List (CV × CV)) : cvOfDescp (descCVp c) = c := cvOfDesc_descCV_all.2.1 c

def Field.ok (f : Field) : Prop := AnnosOK f.annos
def StructLike.ok (s : StructLike) : Prop := AnnosOK s.annos ∧ ∀ f ∈ s.fields, f.ok
def EnumValue.ok (v : EnumValue) : Prop := AnnosOK v.annos
def Enum.ok (e : Enum) : Prop := AnnosOK e.annos ∧ ∀ v ∈ e.values, v.ok
def Typedef.ok (t : Typedef) : Prop := AnnosOK t.annos
def Const.ok (c : Const) : Prop := AnnosOK c.annos
def Function.ok (m : Function) : Prop := AnnosOK m.annos ∧ (∀ f ∈ m.args, f.ok) ∧ ∀ f ∈ m.throws, f.ok
def Service.ok (s : Service) : Prop := AnnosOK s.annos ∧ ∀ m ∈ s.functions, m.ok

/-- the files `describe_faithful_partial` covers -/
structure File.Canonical (f : File) : Prop where
  incl : (f.includes.map baseName).Nodup
  typedefs : ∀ t ∈ f.typedefs, t.ok
  consts : ∀ c ∈ f.consts, c.ok
  enums : ∀ e ∈ f.enums, e.ok
  structs : ∀ s ∈ f.structs, s.ok
  unions : ∀ s ∈ f.unions, s.ok
  exceptions : ∀ s ∈ f.exceptions, s.ok
  services : ∀ s ∈ f.services, s.ok

theorem map_facts {α β γ : Type} {ok : α → Prop} {d : α → β} {facts : β → γ} {forget : α → γ}
    (h : ∀ x, ok x → facts (d x) = forget x) {xs : List α} (hxs : ∀ x ∈ xs, ok x) :
    (xs.map d).map facts = xs.map forget := by
  rw [List.map_map]
  exact List.map_congr_left fun x hx => h x (hxs x hx)

theorem facts_field (p : Str) (f : Field) (h : f.ok) : factsField (descField p f) = forgetField f := by
  have hcv : cvOfDesc ∘ descCV = id := funext cvOfDesc_descCV
  simp only [factsField, descField, forgetField, tyOfDesc_descTy, annoFacts_annoMap f.annos h, Option.map_map, hcv,
    Option.map_id_apply]

theorem facts_struct (p : Str) (s : StructLike) (h : s.ok) : factsStruct (descStruct p s) = forgetStruct s := by
  simp only [factsStruct, descStruct, forgetStruct, annoFacts_annoMap s.annos h.1, map_facts (facts_field p) h.2]

theorem facts_enumValue (p : Str) (v : EnumValue) (h : v.ok) : factsEnumValue (descEnumValue p v) = forgetEnumValue v := by
  simp only [factsEnumValue, descEnumValue, forgetEnumValue, annoFacts_annoMap v.annos h]

theorem facts_enum (p : Str) (e : Enum) (h : e.ok) : factsEnum (descEnum p e) = forgetEnum e := by
  simp only [factsEnum, descEnum, forgetEnum, annoFacts_annoMap e.annos h.1, map_facts (facts_enumValue p) h.2]

theorem facts_typedef (p : Str) (t : Typedef) (h : t.ok) : factsTypedef (descTypedef p t) = forgetTypedef t := by
  simp only [factsTypedef, descTypedef, forgetTypedef, annoFacts_annoMap t.annos h, tyOfDesc_descTy]

theorem facts_const (p : Str) (c : Const) (h : c.ok) : factsConst (descConst p c) = forgetConst c := by
  simp only [factsConst, descConst, forgetConst, annoFacts_annoMap c.annos h, tyOfDesc_descTy, cvOfDesc_descCV]

theorem facts_method (p : Str) (m : Function) (h : m.ok) : factsMethod (descMethod p m) = forgetMethod m := by
  simp only [factsMethod, descMethod, forgetMethod, annoFacts_annoMap m.annos h.1, tyOfDescO_descTyO,
    map_facts (facts_field p) h.2.1, map_facts (facts_field p) h.2.2]

theorem facts_service (p : Str) (s : Service) (h : s.ok) : factsService (descService p s) = forgetService s := by
  simp only [factsService, descService, forgetService, annoFacts_annoMap s.annos h.1, map_facts (facts_method p) h.2]

theorem facts_file (f : File) (h : f.Canonical) : factsOf (describe f) = forget f := by
  simp only [factsOf, describe, forget, map_facts (facts_typedef _) h.typedefs, map_facts (facts_const _) h.consts,
    map_facts (facts_enum _) h.enums, map_facts (facts_struct _) h.structs, map_facts (facts_struct _) h.unions,
    map_facts (facts_struct _) h.exceptions, map_facts (facts_service _) h.services,
    mapOfList_nodup baseName id f.includes h.incl]
  -- left after `congr`: the three fields that are functions, `includes`, `includeOf`, `namespaces`
  congr 1
  · funext p
    rw [List.any_map, List.contains_eq_any_beq]
    exact List.any_congr rfl fun _ => BEq.comm
  · funext a
    rw [mapGet_get.map, Option.map_id_apply]
  · funext l
    rw [mapGet_mapOfListFirst Namespace.lang Namespace.name f.namespaces l]

mutual
/-- all ASTs reachable through `inc.Reference`, the AST itself included -/
def Ast.subs : Ast → List Ast
  | .mk f refs => .mk f refs :: subsL refs
def subsL : List Ast → List Ast
  | [] => []
  | a :: r => a.subs ++ subsL r
end

theorem mem_subsL {d : Ast} : ∀ {rs : List Ast}, d ∈ subsL rs ↔ ∃ r ∈ rs, d ∈ r.subs
  | [] => by simp [subsL]
  | x :: xs => by simp [subsL, mem_subsL (rs := xs)]

theorem mem_subs {d a : Ast} : d ∈ a.subs ↔ d = a ∨ ∃ r ∈ a.refs, d ∈ r.subs := by
  cases a
  rw [Ast.subs, List.mem_cons, mem_subsL, Ast.refs]

theorem Ast.self_mem_subs (a : Ast) : a ∈ a.subs :=
  mem_subs.mpr (.inl rfl)

theorem Ast.sizeOf_lt {r a : Ast} (hr : r ∈ a.refs) : sizeOf r < sizeOf a := by
  cases a
  rw [Ast.mk.sizeOf_spec]
  exact Nat.lt_add_left _ (List.sizeOf_lt_of_mem hr)

theorem subs_induct (P : Ast → Prop) : ∀ (a : Ast), (∀ b ∈ a.subs, P b → ∀ r ∈ b.refs, P r) → P a → ∀ d ∈ a.subs, P d :=
  List.desc_induct Ast.sizeOf_lt mem_subs

theorem subs_trans (a d : Ast) (hd : d ∈ a.subs) : ∀ e ∈ d.subs, e ∈ a.subs :=
  subs_induct (·.subs ⊆ a.subs) a (fun _ _ hb r hr _ he => hb (mem_subs.mpr (.inr ⟨r, hr, he⟩))) (fun _ he => he) d hd

theorem subs_refs (a b : Ast) (hb : b ∈ a.subs) (r : Ast) (hr : r ∈ b.refs) : r ∈ a.subs :=
  subs_trans a b hb r (mem_subs.mpr (.inr ⟨r, hr, r.self_mem_subs⟩))

theorem subsL_trans (rs : List Ast) : ∀ d ∈ subsL rs, ∀ e ∈ d.subs, e ∈ subsL rs := fun d hd e he =>
  let ⟨r, hr, hd⟩ := mem_subsL.mp hd
  mem_subsL.mpr ⟨r, hr, subs_trans r d hd e he⟩

/-- equal Filename, equal AST: the parser caches by path -/
def Coh (S : List Ast) : Prop := ∀ b ∈ S, ∀ c ∈ S, b.file.filename = c.file.filename → b = c

def WFIncl (S : List Ast) : Prop := ∀ b ∈ S, b.file.includes = b.refs.map (·.file.filename)

def reg (g : GFD) (d : Ast) : Prop := (mapGet g d.file.filename).isSome = true

/-- what `regASTs_closed` asks of the registry the DFS starts from -/
def HS (S : List Ast) (g : GFD) : Prop := ∀ d ∈ S, reg g d → ∀ e ∈ d.subs, reg g e

theorem reg_iff (g : GFD) (d : Ast) : reg g d ↔ ∃ v, mapGet g d.file.filename = some v :=
  Option.isSome_iff_exists

theorem reg.mono {g g' : GFD} {d : Ast} (hm : ∀ k v, mapGet g k = some v → mapGet g' k = some v) (h : reg g d) :
    reg g' d := by
  obtain ⟨v, hv⟩ := (reg_iff g d).mp h
  exact (reg_iff g' d).mpr ⟨v, hm _ v hv⟩

structure Grows (uuid : Str) (S roots : List Ast) (g g' : GFD) : Prop where
  roots : ∀ r ∈ roots, reg g' r
  keep : ∀ k v, mapGet g k = some v → mapGet g' k = some v
  new : ∀ k v, mapGet g' k = some v → mapGet g k = some v ∨
    ∃ d ∈ S, d.file.filename = k ∧ v = registerUUID uuid (describe d.file) ∧ ∀ r ∈ d.refs, reg g' r

theorem Grows.refl {uuid : Str} {S roots : List Ast} {g : GFD} (h : ∀ r ∈ roots, reg g r) : Grows uuid S roots g g :=
  ⟨h, fun _ _ h => h, fun _ _ h => .inl h⟩

theorem Grows.trans {uuid : Str} {S T R Q : List Ast} {g g1 g2 : GFD} (h1 : Grows uuid S R g g1) (h2 : Grows uuid T Q g1 g2) :
    Grows uuid (S ++ T) (R ++ Q) g g2 where
  roots r hr := (List.mem_append.mp hr).elim (fun h => (h1.roots r h).mono h2.keep) (h2.roots r)
  keep k v h := h2.keep k v (h1.keep k v h)
  new k v h := by
    rcases h2.new k v h with h | ⟨d, hd, e⟩
    · rcases h1.new k v h with h | ⟨d, hd, hk, hv, hr⟩
      · exact .inl h
      · exact .inr ⟨d, List.mem_append_left _ hd, hk, hv, fun r hr' => (hr r hr').mono h2.keep⟩
    · exact .inr ⟨d, List.mem_append_right _ hd, e⟩

theorem Grows.node {uuid : Str} {f : File} {refs : List Ast} {g g' : GFD} (hn : mapGet g f.filename = none)
    (h : Grows uuid (subsL refs) refs (mapSet g f.filename (registerUUID uuid (describe f))) g') :
    Grows uuid (Ast.mk f refs).subs [.mk f refs] g g' where
  roots := List.forall_mem_singleton.mpr ((reg_iff _ _).mpr ⟨_, h.keep _ _ (mapGet_get.upd_same (mapSet_upd _) _ g)⟩)
  keep k v hk := h.keep k v <| by
    rw [mapGet_get.upd_other (mapSet_upd _) g, hk]
    rintro rfl
    cases hn.symm.trans hk
  new k v hk := by
    rcases h.new k v hk with h1 | ⟨d, hd, e⟩
    · rw [mapGet_get.get_upd (mapSet_upd _)] at h1
      split at h1
      · next e =>
        cases h1
        exact .inr ⟨.mk f refs, Ast.self_mem_subs _, e, rfl, h.roots⟩
      · exact .inl h1
    · exact .inr ⟨d, List.mem_cons_of_mem _ hd, e⟩

theorem reg_grows (uuid : Str) : (∀ a g, Grows uuid a.subs [a] g (regAST uuid a g)) ∧
    ∀ rs g, Grows uuid (subsL rs) rs g (regASTs uuid rs g) := by
  refine regAST.mutual_induct_unfolding uuid (fun a => Grows uuid a.subs [a]) (fun rs => Grows uuid (subsL rs) rs)
    ?_ ?_ ?_ ?_
  · intro f refs g v hv
    exact .refl (List.forall_mem_singleton.mpr ((reg_iff g _).mpr ⟨v, hv⟩))
  · intro f refs g hn ih
    exact .node hn ih
  · intro g
    exact .refl (by simp)
  · intro a r g ih1 ih2
    exact ih1.trans ih2

theorem Grows.at {uuid : Str} {S R : List Ast} {g g' : GFD} (G : Grows uuid S R g g') (hc : Coh S) (b : Ast) (hb : b ∈ S)
    (hr : reg g' b) : reg g b ∨ (mapGet g' b.file.filename = some (registerUUID uuid (describe b.file)) ∧ ∀ r ∈ b.refs, reg g' r) := by
  obtain ⟨v, hv⟩ := (reg_iff _ b).mp hr
  rcases G.new _ v hv with h | ⟨d, hd, hk, rfl, hch⟩
  · exact .inl ((reg_iff g b).mpr ⟨v, h⟩)
  · cases hc d hd b hb hk
    exact .inr ⟨hv, hch⟩

theorem regAST_registers (uuid : Str) (root : Ast) (hc : Coh root.subs) (b : Ast) (hb : b ∈ root.subs) :
    mapGet (regAST uuid root []) b.file.filename = some (registerUUID uuid (describe b.file)) := by
  have G := (reg_grows uuid).1 root []
  -- from the empty registry every entry is new, so a registered file has its own descriptor and its includes registered;
  -- the root is registered, hence (closure under `refs`) every reachable file is
  have hat := fun b hb hr => (G.at hc b hb hr).resolve_left (by simp [reg, mapGet_get.nil])
  exact (hat b hb (subs_induct _ root (fun b hb hr => (hat b hb hr).2) (G.roots root (by simp)) b hb)).1

theorem regASTs_sound (uuid : Str) (rs : List Ast) : ∀ (g : GFD) (k : Str) (v : FileDesc), mapGet (regASTs uuid rs g) k = some v →
    mapGet g k = some v ∨ ∃ d ∈ subsL rs, d.file.filename = k ∧ v = registerUUID uuid (describe d.file) := fun g k v h =>
  (((reg_grows uuid).2 rs g).new k v h).imp id fun ⟨d, hd, hk, hv, _⟩ => ⟨d, hd, hk, hv⟩

theorem regASTs_closed (uuid : Str) (rs : List Ast) : ∀ (g : GFD), Coh (subsL rs) → HS (subsL rs) g →
    ∀ d ∈ subsL rs, reg (regASTs uuid rs g) d := by
  intro g hc hh d hd
  have G := (reg_grows uuid).2 rs g
  obtain ⟨x, hx, hd⟩ := mem_subsL.mp hd
  refine subs_induct _ x (fun b hb hr r hrb => ?_) (G.roots x hx) d hd
  have hb' := mem_subsL.mpr ⟨x, hx, hb⟩
  rcases G.at hc b hb' hr with h | h
  · -- registered before the run: so were its descendants (`HS`), and entries stay
    exact (hh b hb' h r (subs_refs b b (Ast.self_mem_subs b) r hrb)).mono G.keep
  · exact h.2 r hrb

theorem find?_map_map {α γ δ : Type} (d1 : α → γ) (d2 : γ → δ) (q : δ → Bool) (xs : List α) :
    ((xs.map d1).map d2).find? q = (xs.find? (fun x => q (d2 (d1 x)))).map (fun x => d2 (d1 x)) := by
  rw [List.map_map, List.find?_map]
  rfl

theorem globalOf_stamped (W : World) (uuid : Str) (huuid : uuid ≠ []) :
    W.globalOf (addExtra uuid none) = mapGet W.regs uuid := by
  simp [World.globalOf, addExtra, mapGet_get.hit, huuid]

theorem parseAlias_snd_nil_of_nil : (parseAlias []).2 = [] := by decide

/-- the generic statement behind `lookup_finds_partial`: a by-name lookup from a registered file returns the
(stamped) descriptor of the definition the name denotes -/
theorem lookup_generic {α γ δ : Type} (W : World) (uuid : Str) (root b : Ast) (name : Str)
    (huuid : uuid ≠ []) (hreg : mapGet W.regs uuid = some (regAST uuid root []))
    (hc : Coh root.subs) (hwf : WFIncl root.subs) (hne : ∀ d ∈ root.subs, d.file.filename ≠ [])
    (hb : b ∈ root.subs) (hnd : (b.file.includes.map baseName).Nodup) (hname : (parseAlias name).2 ≠ [])
    {look : FileDesc → Str → Option δ} {defs : File → List α} {nameOf : α → Str} {desc : Str → α → γ} {stamp : γ → δ}
    (hlook : ∀ (f : File) (n : Str), look (registerUUID uuid (describe f)) n =
      ((defs f).find? (fun d => nameOf d = n)).map (fun x => stamp (desc f.filename x))) :
    lookupIn W (mapGet W.regs uuid) b.file.filename name look =
      (denote b name defs nameOf).map (fun pd => stamp (desc pd.1 pd.2)) := by
  have hn0 : name ≠ [] := by
    intro e; subst e; exact hname parseAlias_snd_nil_of_nil
  have hfd := regAST_registers uuid root hc b hb
  simp only [lookupIn, lookupFD, hreg, Option.bind_some, hfd, getDescriptor, hn0, if_false, denote]
  cases hpa : parseAlias name with
  | mk pre nm =>
    rw [hpa] at hname
    simp only at hname ⊢
    by_cases hp : pre = []
    · subst hp
      simp only [if_true, denoteFile, Option.bind_some, hlook, Option.map_map]
      rfl
    -- a qualified name: the `Includes` map answers like `find?` on the include list (`hnd`), the stamped `extra` leads back to the
    -- same registry (`globalOf_stamped`), and there the included file is registered (`regAST_registers` through `subs_refs`)
    · simp only [hp, if_false, getIncludeFD, denoteFile]
      have hinc : (registerUUID uuid (describe b.file)).includes = mapOfList baseName id b.file.includes := rfl
      have hext : (registerUUID uuid (describe b.file)).extra = addExtra uuid none := rfl
      rw [hinc, mapGet_mapOfList baseName id b.file.includes hnd pre, hwf b hb, List.find?_map, hext,
        globalOf_stamped W uuid huuid, hreg]
      simp only [Function.comp_def]
      cases hr : b.refs.find? (fun r => decide (baseName r.file.filename = pre)) with
      | none => simp
      | some r =>
        have hrm : r ∈ root.subs := subs_refs root b hb r (List.mem_of_find?_eq_some hr)
        have hrn := hne r hrm
        simp only [Option.map_some, id, Option.getD_some, bne_iff_ne, ne_eq, hrn, not_false_eq_true, if_true, lookupFD,
          Option.bind_some, regAST_registers uuid root hc r hrm, hname, if_false, hlook, Option.map_map]
        rfl

theorem typedesc_stamped {α : Type} (W : World) (uuid : Str) (huuid : uuid ≠ []) (p n : Str) (k v : TyO)
    (look : FileDesc → Str → Option α) :
    (uuidTy uuid (descTy p (.mk n k v))).getVia W look =
      if isContainer n || isBasic n then none else lookupIn W (mapGet W.regs uuid) p n look := by
  simp only [TypeDesc.getVia, uuidTy, descTy, TypeDesc.name, TypeDesc.extra, TypeDesc.filepath, globalOf_stamped W uuid huuid]

theorem const_type_stamped (uuid p : Str) (c : Const) : (uuidConst uuid (descConst p c)).ty = uuidTy uuid (descTy p c.ty) := rfl

theorem lookupMethod_eq (W : World) (g : Option GFD) (path svc m : Str) (h : svc ≠ []) :
    lookupMethod W g path svc m = (lookupIn W g path svc lookService).bind (·.methodByName m) := by
  simp only [lookupMethod, lookupIn, getMethodDescriptor, h, if_false]
  cases lookupFD g path <;> rfl

theorem globalOf_none (W : World) : W.globalOf none = some W.dflt := by simp [World.globalOf]

theorem byGoType_of_mem {τ β : Type} [DecidableEq τ] (m : List (τ × β)) (hn : (m.map Prod.fst).Nodup) (t : τ) (v : β)
    (h : (t, v) ∈ m) : byGoType m t = some v :=
  have hn' : (m.reverse.map Prod.fst).Nodup := by
    rw [List.map_reverse]
    exact List.pairwise_reverse.mpr (hn.imp Ne.symm)
  Assoc.find_get.of_mem hn' (List.mem_reverse.mpr h)

theorem byGoType_window {τ β : Type} [DecidableEq τ] (tys : List τ) (hn : tys.Nodup) (off : Nat) (vs : List β)
    (i : Nat) (t : τ) (h : i < vs.length) (ht : tys[off + i]? = some t) :
    byGoType (((tys.drop off).take vs.length).zip vs) t = vs[i]? := by
  obtain ⟨hi, rfl⟩ := List.getElem?_eq_some_iff.mp ht
  have hk : i < (((tys.drop off).take vs.length).zip vs).length := by simp; omega
  rw [List.getElem?_eq_getElem h]
  apply byGoType_of_mem
  · rw [List.map_fst_zip (List.length_take_le _ _)]
    exact (hn.sublist (List.drop_sublist _ _)).sublist (List.take_sublist _ _)
  · simpa using List.getElem_mem hk

theorem isNilB_eq (v : GoVal) : isNilB v = true → v = .nil := by
  fun_cases isNilB v
  · exact fun _ => rfl
  · exact nofun

theorem keysOkB_sound (k : Ty) (l : List GoVal) (h : keysOkB k l = true) : Gen.Std.KeysOK k l := by
  fun_induction keysOkB k l with
  | case1 => trivial
  | case2 a r ih =>
    simp only [Bool.and_eq_true, Bool.not_eq_true', List.all_eq_true] at h
    refine ⟨?_, ?_, ih h.2⟩
    · intro e; subst e; simp [isNilB] at h
    · intro p hp; exact h.1.2 p hp

theorem inRange_iff (lo hi x : Int) : inRange lo hi x = true ↔ lo ≤ x ∧ x < hi := by simp [inRange]

/-- the four functions of the checker by their own induction: each accepting arm states its clause of `WT` -/
theorem wtB_sound_all (S : List StructDef) :
    (∀ ty v, wtB S ty v = true → Gen.Std.WT S ty v) ∧
    (∀ defs vs, wtFieldsB S defs vs = true → Gen.Std.WTFields S defs vs) ∧
    (∀ k v kvs, wtPairsB S k v kvs = true → Gen.Std.WTPairs S k v kvs) ∧
    ∀ e xs, wtListB S e xs = true → Gen.Std.WTList S e xs := by
  apply wtB.mutual_induct_unfolding S (fun ty v b => b = true → Gen.Std.WT S ty v)
    (fun defs vs b => b = true → Gen.Std.WTFields S defs vs) (fun k v kvs b => b = true → Gen.Std.WTPairs S k v kvs)
    (fun e xs b => b = true → Gen.Std.WTList S e xs)
  -- cases: the arms of wtB in order (1–16), a struct whose index is / is not in `S` (17, 18), any other pair (19); then the loops,
  -- in the principle's order (not the definitions', not the motives'): wtFieldsB: both lists end, a field with its value, unequal
  -- lengths (20–22); wtListB (23, 24); wtPairsB (25, 26)
  case case1 | case10 | case11 | case12 | case13 | case20 | case23 | case25 =>
    intros
    trivial
  case case2 | case3 | case4 | case5 | case6 =>
    intro x
    exact (inRange_iff _ _ x).mp
  case case7 | case8 | case9 =>
    intro x
    exact of_decide_eq_true
  case case14 | case15 =>
    intro e xs ih h
    rw [Bool.and_eq_true, decide_eq_true_eq] at h
    exact ⟨h.1, ih h.2⟩
  case case16 =>
    intro k v kvs ih h
    simp only [Bool.and_eq_true, Bool.or_eq_true, decide_eq_true_eq] at h
    exact ⟨h.1.1.1, ih h.1.1.2, keysOkB_sound _ _ h.1.2, h.2⟩
  case case17 =>
    intro i fs sd hs ih h
    exact ⟨sd, hs, ih h⟩
  case case18 | case19 =>
    intros
    contradiction
  case case21 =>
    intro f fs v vs ih1 ih2 h
    simp only [wtFieldsB, Bool.and_eq_true, inRange_iff] at h
    refine ⟨?_, ?_, h.1.2, ih2 h.2⟩
    · intro ho
      have h1 := h.1.1
      simp only [ho, if_true, Bool.or_eq_true, Bool.and_eq_true, Bool.not_eq_true'] at h1
      exact h1.imp (fun h1 => ⟨isNilB_eq v h1.1, h1.2⟩) ih1
    · intro ho
      have h1 := h.1.1
      simp only [ho, if_false] at h1
      exact ih1 h1
  case case22 =>
    intro vs defs h1 h2 h
    -- the catch-all equation of wtFieldsB, under its two side conditions
    rw [wtFieldsB.eq_3 S defs vs h1 h2] at h
    cases h
  case case24 =>
    intro e x r ih1 ih2 h
    simp only [wtListB, Bool.and_eq_true] at h
    exact ⟨ih1 h.1, ih2 h.2⟩
  case case26 =>
    intro k v a b r ih1 ih2 ih3 h
    simp only [Bool.and_eq_true] at h
    exact ⟨ih1 h.1.1, ih2 h.1.2, ih3 h.2⟩

theorem wtB_sound (S : List StructDef) (v : GoVal) : ∀ (ty : Ty), wtB S ty v = true → Gen.Std.WT S ty v :=
  fun ty => (wtB_sound_all S).1 ty v

theorem wtListB_sound (S : List StructDef) (xs : List GoVal) : ∀ (e : Ty), wtListB S e xs = true → Gen.Std.WTList S e xs :=
  fun e => (wtB_sound_all S).2.2.2 e xs

theorem wtPairsB_sound (S : List StructDef) (kvs : List (GoVal × GoVal)) : ∀ (k v : Ty), wtPairsB S k v kvs = true →
    Gen.Std.WTPairs S k v kvs :=
  fun k v => (wtB_sound_all S).2.2.1 k v kvs

theorem wtFieldsB_sound (S : List StructDef) (vs : List GoVal) : ∀ (defs : List FieldDef), wtFieldsB S defs vs = true →
    Gen.Std.WTFields S defs vs :=
  fun defs => (wtB_sound_all S).2.1 defs vs

end Reflect
