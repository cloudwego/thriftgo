import ThriftVerif.Lib.FieldMaskLemmas.Rep
import ThriftVerif.Lib.FieldMaskLemmas.Query
import ThriftVerif.Lib.FieldMaskLemmas.Build
import ThriftVerif.Lib.FieldMaskLemmas.Panic
import ThriftVerif.Lib.FieldMaskLemmas.Json
