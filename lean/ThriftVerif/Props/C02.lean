import ThriftVerif.Gen.Std
import ThriftVerif.Gen.StdLemmas
import ThriftVerif.Gen.SchemaCheck
import ThriftVerif.Core.WireLemmas
import ThriftVerif.Generated.C02
/-
  C02 — generated Read/Write implement the Thrift wire format of the IDL.
  Property theorems over `Gen.Std` (the model of the default go templates) and `Core.Wire`.
  `WT` = the Go object is one a Go program can hold for that IDL type; `SchemaOK` = what the semantic
  checker guarantees (distinct field ids, union members optional) plus two explicit exclusions
  (optional fields with a default have a base type; such a default is not NaN).
-/
namespace Props.C02
open Wire Gen Gen.Std

/-- regenerated obligation: for every IDL category, the TType constant the templates emit in
`WriteFieldBegin` / compare in `Read` (extracted from /repo on every run) is the wire type the model
(and the Thrift specification) assigns to that category: enum → i32, binary → string, struct-likes → struct. -/
theorem typeid_table_sound :
    Generated.C02.typeIdTable =
      [("bool", Ty.bool.ttype.code), ("byte", Ty.i8.ttype.code), ("i16", Ty.i16.ttype.code),
       ("i32", Ty.i32.ttype.code), ("i64", Ty.i64.ttype.code), ("double", Ty.dbl.ttype.code),
       ("string", Ty.str.ttype.code), ("binary", Ty.bin.ttype.code), ("enum", Ty.enum.ttype.code),
       ("list", (Ty.list .bool).ttype.code), ("set", (Ty.set .bool).ttype.code),
       ("map", (Ty.map .bool .bool).ttype.code), ("struct", (Ty.struct 0).ttype.code),
       ("union", (Ty.struct 0).ttype.code), ("exception", (Ty.struct 0).ttype.code)] :=
  rfl

/-- the binary protocol round trip, untyped: every well-formed wire value decodes from its encoding
(any trailing bytes untouched), at any fuel ≥ its depth. -/
theorem wire_roundtrip (w : WVal) (f : Nat) (r : Bytes) (h : WF w) (hd : w.depth ≤ f) :
    decW f w.ttype (encW w ++ r) = some (w, r) := decW_encW w f r h hd

/-- **Write emits a well-formed encoding of the right shape**: whatever a generated `Write` emits for
a well-typed object is the encoding of a well-formed struct value — every container header count equals
the number of elements that follow, every field carries the wire type of its IDL type — and a strict
untyped decoder reads exactly that value back with nothing left over. -/
theorem write_wellformed (P : Prog) (sidx : Nat) (obj : GoVal) (bs : Bytes)
    (hwt : WT P.structs (.struct sidx) obj) (h : write P sidx obj = .ok bs) :
    ∃ w, toW P (.struct sidx) obj = .ok w ∧ WF w ∧ w.ttype = .struct ∧ bs = encW w ∧
      decW w.depth .struct bs = some (w, []) := by
  obtain ⟨w, hw, rfl⟩ := write_eq_ok.mp h
  obtain ⟨hwf, htt⟩ := toW_WF P obj (.struct sidx) w hwt hw
  refine ⟨w, hw, hwf, htt, rfl, ?_⟩
  have := decW_encW w w.depth [] hwf (Nat.le_refl _)
  rwa [htt, List.append_nil] at this

/-- **Read ∘ Write preserves the value**: for every schema the checker accepts, every struct-like and
every well-typed object, the generated `Read` accepts the bytes the generated `Write` produced, and
the object it builds encodes (set-uniqueness validation aside) to exactly the same bytes: field ids,
wire types, optional-present-iff-set, required/default always present, nested containers, all
preserved. Unbounded in nesting depth, container sizes and number of fields. -/
theorem read_write_roundtrip (P : Prog) (hP : SchemaOK P) (sidx : Nat) (obj : GoVal) (bs : Bytes)
    (hwt : WT P.structs (.struct sidx) obj) (h : write P sidx obj = .ok bs) :
    ∃ obj', read P sidx bs = some obj' ∧ write (noVal P) sidx obj' = .ok bs := 
  Gen.Std.read_write_roundtrip_read P hP sidx obj bs hwt h

/-- **Read skips unknown field ids** wherever they occur: at any state of the Read loop (i.e. at any
position of the field stream), a well-formed field (depth ≤ 64, the protocol's Skip limit) whose id is
not in the schema is consumed without changing the object under construction or the required-field
bookkeeping. -/
theorem read_skips_unknown (rd : Ty → Bytes → Option (GoVal × Bytes)) (defs : List FieldDef) (g id : Nat)
    (u : WVal) (rest : Bytes) (cur : List GoVal) (seen : List Bool) (hid : id < 256 ^ 2)
    (hnf : findField defs id = none) (hwf : WF u) (hd : u.depth ≤ 64) :
    readFieldsWith rd defs (g + 1) (u.ttype.code :: (be 2 id ++ (encW u ++ rest))) cur seen =
      readFieldsWith rd defs g rest cur seen :=
  read_step_skip rd defs g id u rest cur seen hid hwf hd fun _ _ e => nomatch hnf.symm.trans e

/-- **Read skips a known id carrying a different wire type** (retagged field): the field is consumed, the
object under construction (that field's slot included) and the required-field bookkeeping stay as they were. -/
theorem read_retag_skips (rd : Ty → Bytes → Option (GoVal × Bytes)) (defs : List FieldDef) (g id j : Nat)
    (f : FieldDef) (u : WVal) (rest : Bytes) (cur : List GoVal) (seen : List Bool) (hid : id < 256 ^ 2)
    (hf : findField defs id = some (j, f)) (hne : f.ty.ttype.code ≠ u.ttype.code) (hwf : WF u) (hd : u.depth ≤ 64) :
    readFieldsWith rd defs (g + 1) (u.ttype.code :: (be 2 id ++ (encW u ++ rest))) cur seen =
      readFieldsWith rd defs g rest cur seen :=
  read_step_skip rd defs g id u rest cur seen hid hwf hd fun _ _ e => by cases hf.symm.trans e; exact hne

/-- **Unknown fields anywhere do not disturb Read** (the schema-evolution core shared with C09):
for every accepted schema, every struct-like and every well-typed object with written fields `ws`,
there is ONE object that the generated Read produces from `ws` interleaved with any number of
unknown-id fields at any positions (each well-formed, nesting ≤ 64) — in particular the same object
as from the undisturbed encoding — and that object re-encodes to exactly `ws`. -/
theorem read_skips_unknown_anywhere (P : Prog) (hP : SchemaOK P) (hv : P.validateSet = false) (i : Nat)
    (sd : StructDef) (fs : List GoVal) (ws : List (Nat × WVal)) (f : Nat) (hsd : P.structs[i]? = some sd)
    (hwt : WTFields P.structs sd.fields fs) (hw : toWFields P sd.fields fs = .ok ws) (hd : depthFields ws ≤ f) :
    ∃ fs', toWFields P sd.fields fs' = .ok ws ∧
      ∀ (ms : List (Nat × WVal)) (r : Bytes), Mixed sd.fields ws ms →
        readTy P.structs (f + 1) (.struct i) (encFields ms ++ 0 :: r) = some (.strct fs', r) ∧
        readTy P.structs (f + 1) (.struct i) (encFields ws ++ 0 :: r) = some (.strct fs', r) := by
  obtain ⟨fs', h1, h2⟩ := struct_read_mixed P hP hv i sd fs ws f hsd hwt hw hd
  exact ⟨fs', h1, fun ms r hm => ⟨h2 ms r hm, h2 ws r (Mixed.refl _ ws)⟩⟩

/-- **Read fails when a required field is absent**, the step at STOP: the loop succeeds iff every required
field's isset flag is up. (That a flag is raised only by reading that field with its own wire type is how
`readFieldsWith` is defined; it is not part of this statement.) -/
theorem read_required_missing (rd : Ty → Bytes → Option (GoVal × Bytes)) (defs : List FieldDef) (g : Nat)
    (r : Bytes) (cur : List GoVal) (seen : List Bool) :
    readFieldsWith rd defs (g + 1) (0 :: r) cur seen = (if requiredOk defs seen then some (cur, r) else none) := by
  simp [readFieldsWith]

/-- a union is written only when exactly one member is set -/
theorem union_write_refuses (P : Prog) (sidx : Nat) (sd : StructDef) (fs : List GoVal) (bs : Bytes)
    (hsd : P.struct? sidx = some sd) (hu : sd.kind = 1) (h : write P sidx (.strct fs) = .ok bs) :
    countSet sd.fields fs = 1 := by
  obtain ⟨w, hw, _⟩ := write_eq_ok.mp h
  simpa [hu] using ((toW_struct_ok hsd).mp hw).1

/-- presentation-only options cannot change a wire byte: the model's `write`/`read` depend on the
program only through its schema and the two semantic switches (`keep_unknown_fields`,
`validate_set`); the tie to the code for every other option is the correspondence run. -/
theorem presentation_options_irrelevant (P Q : Prog) (h1 : P.structs = Q.structs) (h2 : P.keepUnknown = Q.keepUnknown)
    (h3 : P.validateSet = Q.validateSet) : P = Q := by
  cases P; cases Q; simp_all

/- non-vacuity: a concrete schema satisfies SchemaOK and a concrete object is well-typed and written -/
def exProg : Prog := { structs := [{ kind := 0, fields := [
  { id := 1, req := .required, ty := .i32, dflt := none },
  { id := 2, req := .optional, ty := .str, dflt := some (.bytes [104, 105]) },
  { id := 3, req := .default, ty := .list .i64, dflt := none }] }] }

example : write exProg 0 (.strct [.int 5, .bytes [97], .list [.int 7]]) =
    .ok [8, 0, 1, 0, 0, 0, 5, 11, 0, 2, 0, 0, 0, 1, 97, 15, 0, 3, 10, 0, 0, 0, 1, 0, 0, 0, 0, 0, 0, 0, 7, 0] := by
  rfl

/- non-vacuity of the round-trip theorem's premises: the example schema is accepted by the checker -/
example : SchemaOK exProg := schemaOkB_sound exProg (by decide)

end Props.C02
