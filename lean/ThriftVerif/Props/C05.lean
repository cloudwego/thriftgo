import ThriftVerif.Lib.ResolveLemmas
/-
  C05 — symbol resolution binds every reference to the definition the IDL names.
  Property theorems only; model: Lib/Resolve.lean, specification: Lib/ResolveSpec.lean,
  helper lemmas: Lib/ResolveLemmas/*.lean.  All statements quantify over all programs.
-/
namespace Props.C05
open Sem

/-- A two-file program used to show that hypotheses are satisfiable:
file 0 `enum E {A}  typedef E T`, file 1 `include "b.t"  typedef b.T U  const U c = b.T.A`. -/
def sample : Program :=
  [ { filename := [98], includes := [], typedefs := [⟨[84], .name [69]⟩], constants := [],
      enums := [⟨[69], [⟨[65], 0⟩]⟩], structs := [], unions := [], exceptions := [], services := [] },
    { filename := [97], includes := [⟨[98, 46, 116], 0⟩], typedefs := [⟨[85], .name [98, 46, 84]⟩],
      constants := [⟨[99], .name [85], .ident [98, 46, 84, 46, 65]⟩],
      enums := [], structs := [], unions := [], exceptions := [], services := [] } ]

/-- The tables regenerated from the working tree (parser.Category numbering, semantic.categoryMap,
the case lists of ResolveType's switch, the category range tests of ResolveType and Deref) say what
the IDL specification says. -/
theorem tables_match_spec :
    (∀ n, baseCat n = specBase n) ∧
    (∀ c : Cat, c.isTypeLike = c.isTypeLikeSpec) ∧
    (∀ c : Cat, c.isDerefTarget = c.isConcrete) ∧
    Generated.C05.categoryNames = specCategoryNames ∧
    Cat.all.map Cat.toNat = List.range 18 ∧
    Generated.C05.containerCase = [kwMap, kwList, kwSet] ∧
    lookupB kwMap Generated.C05.categoryMap = some Cat.map.toNat ∧
    lookupB kwList Generated.C05.categoryMap = some Cat.list.toNat ∧
    lookupB kwSet Generated.C05.categoryMap = some Cat.set.toNat :=
  ⟨baseCat_eq_specBase, isTypeLike_eq_spec, isDerefTarget_eq_concrete, category_numbering.1,
   category_numbering.2, container_table.1, container_table.2.1, container_table.2.2.1, container_table.2.2.2⟩

/-- The ResolveTypedefs loop ends within its measure (the number of unresolved entries strictly
decreases, so `len+1` iterations suffice: the model's fuel never runs out); when it succeeds no
queued Type node is left with category `typedef` and every written category is one the node's
chain settles at; it fails with "typedefs can not be resolved" only if some queued node's chain
never reaches a non-typedef (cyclic or dangling chain). -/
theorem typedef_fixpoint_complete (le : LoopEnv) (work : List TdEntry) :
    resolveTypedefs le work ≠ .error .loopDiverged ∧
    (∀ st, resolveTypedefs le work = .ok st →
      (∀ e, e ∈ work → ∃ c, st.get e.addr = some c ∧ c ≠ .typedef) ∧
      (∀ a c, st.get a = some c → ∃ e, e ∈ work ∧ e.addr = a ∧ Settles le work e c)) ∧
    (resolveTypedefs le work = .error .tdCycle → ∃ e, e ∈ work ∧ ∀ c, ¬ Settles le work e c) := by
  have h := resolveTypedefs_spec le work
  refine ⟨?_, ?_, ?_⟩
  · intro he; rw [he] at h; exact h.1.elim nofun nofun
  · intro st hs
    obtain ⟨hsound, hdone⟩ := resolveTypedefs_ok hs
    refine ⟨?_, fun a c hg => (hsound a c hg).2⟩
    intro e he
    obtain ⟨c, hg⟩ := hdone e he
    exact ⟨c, hg, (hsound _ _ hg).1⟩
  · intro he; rw [he] at h; exact h.2

/-- After a successful run, every Type node of every resolved file carries the category of what it
ultimately denotes (typedef chains followed to the end, across includes; the denotation is unique
and never `typedef`), is flagged IsTypedef exactly when its written name names a typedef, and has
Reference = (k, name) exactly when it is written `prefix.name` and `k` is the first include whose
IDL prefix is `prefix` and whose file defines `name` as a type. -/
theorem resolve_category {p : Program} {root : Nat} {tbl : Table} (h : resolve p root = .ok tbl)
    {i : Nat} {f : File} {rf : RFile} (hf : p[i]? = some f) (hr : tbl[i]? = some (some rf))
    {s : Slot} {te : TypeExpr} (hs : SlotType f s te) :
    ∃ ns, rf.nodesAt s = some ns ∧ ns.length = te.nodes.length ∧
      ∀ (k : Nat) sub nd, te.nodes[k]? = some sub → ns[k]? = some nd →
        (∃ t, Den p i (.ty sub) t ∧ nd.cat = t.cat ∧ ∀ t', Den p i (.ty sub) t' → t' = t) ∧
        nd.cat ≠ .typedef ∧
        (nd.isTypedef = true ↔ NamesTypedef p i sub) ∧
        (∀ k' b, nd.ref = some ⟨k', b⟩ ↔ QualRef p i sub k' b) := by
  have inv := resolve_inv h
  obtain ⟨ns, h1, h2, h3⟩ := (inv.good i f rf hf hr).nodes s te hs
  refine ⟨ns, h1, h2, ?_⟩
  intro k sub nd hsub hnd
  obtain ⟨⟨t, hden, hcat⟩, q2, q3⟩ := h3 k sub nd hsub hnd
  refine ⟨⟨t, hden, hcat, fun t' h' => (den_unique inv hden ⟨rf, hr⟩ t' h').symm⟩, ?_, q2, q3⟩
  rw [hcat]
  exact den_cat_ne_typedef hden

/-- the hypotheses of `resolve_category` are satisfiable -/
example : ∃ tbl, resolve sample 1 = .ok tbl := by
  have h : (match resolve sample 1 with | .ok _ => true | .error _ => false) = true := by decide
  cases hr : resolve sample 1 with
  | ok t => exact ⟨t, rfl⟩
  | error e => rw [hr] at h; simp at h

/-- `Include.Used` of include `k` is set exactly when something in the file is bound through it: a
type node whose Reference index is `k`, an identifier value whose Extra.Index is `k`, or a service
whose base-service Reference index is `k`. -/
theorem used_iff_referenced {p : Program} {root : Nat} {tbl : Table} (h : resolve p root = .ok tbl)
    {i : Nat} {f : File} {rf : RFile} (hf : p[i]? = some f) (hr : tbl[i]? = some (some rf)) :
    rf.used.length = f.includes.length ∧
    ∀ k, k < f.includes.length → (rf.used[k]? = some true ↔ RefersTo f rf k) := by
  have inv := resolve_inv h
  obtain ⟨views, hv, _, ha⟩ := inv.produced i f rf hf hr
  exact resolveAST_used hf hv ha

/-- On a resolved program, `semantic.Deref` of any Type node terminates (some finite recursion
depth suffices: no fatal recursion) and returns the file, name and category of what the node
denotes — the struct / enum / union / exception definition, or the base or container type
expression, at the end of its typedef chain. -/
theorem deref_total {p : Program} {root : Nat} {tbl : Table} (h : resolve p root = .ok tbl)
    {i : Nat} {f : File} {rf : RFile} (hf : p[i]? = some f) (hr : tbl[i]? = some (some rf))
    {s : Slot} {te : TypeExpr} (hs : SlotType f s te) {ns : List RNode} (hns : rf.nodesAt s = some ns)
    {k : Nat} {sub : TypeExpr} {nd : RNode} (hsub : te.nodes[k]? = some sub) (hnd : ns[k]? = some nd) :
    ∃ t, Den p i (.ty sub) t ∧ ∃ fuel0, ∀ fuel, fuel0 ≤ fuel →
      deref (tableViews p tbl) fuel i sub.rootName nd.cat nd.isTypedef nd.ref = .ok (t.file, t.name, t.cat) := by
  have inv := resolve_inv h
  obtain ⟨ns', h1, _, h3⟩ := (inv.good i f rf hf hr).nodes s te hs
  cases hns.symm.trans h1
  have hng := h3 k sub nd hsub hnd
  obtain ⟨t, hden, _⟩ := hng.1
  exact ⟨t, hden, deref_den inv hden ⟨rf, hr⟩ nd hng⟩

/-- Every identifier used as a constant value (other than `true` / `false`, which get no Extra) is
bound to the one thing it names: its Extra is a `ConstCand` (local constant, enum.value,
include.constant, include.enum.value, enums also through typedefs, with the include index the code
reports) and every `ConstCand` of the identifier equals it.  Contrapositive: with no candidate or
with two different ones, resolution fails.  Constant values are those of constants, of struct /
union / exception fields, and of function arguments and throws.  There is no hypothesis on
definition names (dotted and keyword-named definitions included; getEnum as of /repo 05813e1). -/
theorem resolve_const_binding {p : Program}
    {root : Nat} {tbl : Table} (h : resolve p root = .ok tbl)
    {i : Nat} {f : File} {rf : RFile} (hf : p[i]? = some f) (hr : tbl[i]? = some (some rf))
    {s : Slot} {cv : ConstVal} (hs : SlotConst f s cv) :
    ∃ bs, rf.bindsAt s = some bs ∧ bs.length = cv.idents.length ∧
      ∀ (k : Nat) id b, cv.idents[k]? = some id → bs[k]? = some b →
        ((id = kwTrue ∨ id = kwFalse) ∧ b = none) ∨
        (¬ (id = kwTrue ∨ id = kwFalse) ∧ ∃ x, b = some x ∧ ConstCand p i id x ∧
          ∀ y, ConstCand p i id y → y = x) := by
  have inv := resolve_inv h
  obtain ⟨views, hv, hc, ha⟩ := inv.produced i f rf hf hr
  exact resolveAST_binds hf hv hc ha (inv.good i f rf hf hr) hs

/-- Regression item (defect fixed in /repo 58e7614): file 0 `a.thrift`: `struct b {}`; file 1:
`include "a.thrift"  enum a.b { X }  typedef a.b T  const i32 c = T.X`.  Before the fix getEnum bound `T.X`
to the local enum literally named `a.b`; it is an undefined value. -/
def dotted : Program :=
  [ { filename := [97], includes := [], typedefs := [], constants := [], enums := [],
      structs := [⟨.struct, [98], []⟩], unions := [], exceptions := [], services := [] },
    { filename := [109], includes := [⟨[97, 46, 116, 104, 114, 105, 102, 116], 0⟩],
      typedefs := [⟨[84], .name [97, 46, 98]⟩],
      constants := [⟨[99], .name [105, 51, 50], .ident [84, 46, 88]⟩],
      enums := [⟨[97, 46, 98], [⟨[88], 0⟩]⟩], structs := [], unions := [], exceptions := [], services := [] } ]

example : (match resolve dotted 1 with | .error .undefValue => true | _ => false) = true := by decide

/-- Regression item (same commit): `typedef L1 L0  typedef L0 L1  const i32 k = L0.X` exhausted the stack
in getEnum before the fix; with the visited set it is an undefined value. -/
def looped : Program :=
  [ { filename := [109], includes := [],
      typedefs := [⟨[76, 48], .name [76, 49]⟩, ⟨[76, 49], .name [76, 48]⟩],
      constants := [⟨[107], .name [105, 51, 50], .ident [76, 48, 46, 88]⟩],
      enums := [], structs := [], unions := [], exceptions := [], services := [] } ]

example : (match resolve looped 0 with | .error .undefValue => true | _ => false) = true := by decide

/-- Regression item (defect fixed in /repo 05813e1): `enum list { X }  typedef list<i32> T
const i32 c = T.X` — before the fix getEnum continued with the keyword `list` as a name and bound `T.X`
to the enum called `list`; it is an undefined value. -/
def kwlist : Program :=
  [ { filename := [109], includes := [],
      typedefs := [⟨[84], .list (.name [105, 51, 50])⟩],
      constants := [⟨[99], .name [105, 51, 50], .ident [84, 46, 88]⟩],
      enums := [⟨[108, 105, 115, 116], [⟨[88], 0⟩]⟩], structs := [], unions := [], exceptions := [],
      services := [] } ]

example : (match resolve kwlist 0 with | .error .undefValue => true | _ => false) = true := by decide

/-- getEnum's recursion is bounded by its visited set: whenever every typedef the views know is a
typedef of the program (`allViews_keys`: true of views satisfying `AllViews`, as those ResolveAST
builds do), a call started with the empty visited set and the driver's fuel `p.chainFuel` never
exhausts the fuel — `Err.fuel` is not an outcome. -/
theorem getEnum_fuel_unreachable {p : Program} {views : Nat → Option FileView}
    (hK : ∀ j v n, views j = some v → v.n2c n = some .typedef → (j, n) ∈ p.typedefKeys)
    (j : Nat) (name : Bytes) : getEnum views p.chainFuel [] j name ≠ .error .fuel :=
  getEnum_fuel hK p.chainFuel [] j name (Nat.lt_of_le_of_lt (Dfs.fresh_le _ _) (typedefKeys_lt_chainFuel p))

/-- The outcome does not depend on the order of the definitions: if `p'` is `p` with the typedefs,
constants, enums, structs, unions, exceptions and services of each file permuted (`ProgPerm`), then
resolution succeeds on both or on neither, finishes the same files, and stores the same things
(`TableEquiv`): the same resolved nodes at every type slot, the same bindings at every constant
slot, the same base-service references, the same `Used` flags, the same Name2Category. Slots identify
a definition by its name and a member by its position, so this is equality per definition identity.
(Which error is reported may depend on the order.) -/
theorem order_independent {p p' : Program} (hp : ProgPerm p p') (root : Nat) :
    (∀ tbl, resolve p root = .ok tbl → ∃ tbl', resolve p' root = .ok tbl' ∧ TableEquiv tbl tbl') ∧
    (∀ tbl', resolve p' root = .ok tbl' → ∃ tbl, resolve p root = .ok tbl ∧ TableEquiv tbl tbl') := by
  refine ⟨fun tbl h => resolve_perm hp root h, ?_⟩
  intro tbl' h
  obtain ⟨tbl, h1, h2⟩ := resolve_perm hp.symm root h
  exact ⟨tbl, h1, h2.symm⟩

/-- the hypothesis is satisfiable (by the identity permutation) -/
example : ProgPerm sample sample :=
  ⟨rfl, fun i f f' h h' => by
    rw [h] at h'
    simp only [Option.some.injEq] at h'
    subst h'
    exact ⟨rfl, rfl, List.Perm.refl _, List.Perm.refl _, List.Perm.refl _, List.Perm.refl _, List.Perm.refl _,
      List.Perm.refl _, List.Perm.refl _⟩⟩

end Props.C05
