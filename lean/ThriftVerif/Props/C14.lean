import ThriftVerif.Lib.FieldMask
import ThriftVerif.Lib.FieldMaskSpec
import ThriftVerif.Lib.FieldMaskLemmas
import ThriftVerif.Generated.C14
/-
  C14 — field-mask library: queries and JSON transport agree with path semantics.
  Property theorems only; the model is Lib/FieldMask.lean, the specification (`Sel`, `shadow`,
  `NoStarConflict`) is Lib/FieldMaskSpec.lean, helper lemmas are in Lib/FieldMaskLemmas/ (Res, Tok, Rep, Query, Build, Panic, Json).

  All theorems hold for EVERY panic-site configuration `cfg : Sites` (the tree as found, the tree
  with any subset of the proposed repairs); `Generated.C14.sites` is the configuration probed on
  the tree under test, used by the driver and quoted in the evidence.
-/
namespace Props.C14
open FieldMask

/-- **queries_match_paths.**  Let the path strings have the meanings `ts` for the descriptor
(`meaning` reads the strings with the tokenizer and the descriptor only — never a mask), let the
denoted path set `expandAll ts` be free of '*' conflicts, and — in black-list mode, while the isAll branch of
Field/Int/Str still answers `self.hasChild()` (`cfg.blackStar`) — let no path end in '*'.  Then NewFieldMask succeeds, and every non-empty sequence of `Field/Int/Str` calls that
does not panic answers exactly `Sel black (expandAll ts)`.  No bound on the number or length of
paths, the schema, or the query. -/
theorem queries_match_paths (cfg : Sites) (sch : Schema) (huniq : sch.uniqueIds = true)
    (desc : Ty) (black : Bool) (paths : List Bytes) (ts : List ATree)
    (hmean : meaning cfg sch desc paths = .ok ts)
    (hnc : NoStarConflict (expandAll ts) = true)
    (hnts : black = true → cfg.blackStar = true → NoTerminalStar (expandAll ts) = true) :
    ∃ m, newFieldMask cfg sch desc black paths = .ok m ∧
      ∀ (q : List QStep) (b : Bool), q ≠ [] → walk cfg (.some m) q = .ok b → b = Sel black (expandAll ts) q := by
  obtain ⟨m, hm, hrep⟩ := newFieldMask_rep huniq black hmean hnc
  refine ⟨m, hm, ?_⟩
  intro q b hq hw
  rcases hrep with ⟨he, hty⟩ | ⟨d, hr⟩
  · -- no path at all: the untyped root passes everything
    rw [walk_untyped hty] at hw
    cases hw
    rw [he]
    cases black <;> rfl
  · exact walk_rep_sel hr hnts hq hw

/-- the hypotheses of `queries_match_paths` are satisfiable: `$.a` and `$.l[1,3]` on the witness schema
`wS` = `struct S {-1: string neg, 1: string a, 2: list<string> l, 3: map<string,S> m, 4: S s}` -/
example : wS.uniqueIds = true ∧
    ((meaning Sites.asFound wS rS [[36, 46, 97], [36, 46, 108, 91, 49, 44, 51, 93]]).get?.map
      fun ts => (expandAll ts, NoStarConflict (expandAll ts), NoTerminalStar (expandAll ts))) =
      some (([[.field 1], [.field 2, .idx 1], [.field 2, .idx 3]] : List APath), true, true) := by decide

/-- black list, final '*': the full statement is FALSE on the code (and on the model).
`$.l[*]` in black-list mode: `Field(2)` then `Int(3)` answers true, the path set rejects it. -/
example :
    ((newFieldMask Sites.asFound wS rS true [[36, 46, 108, 91, 42, 93]]).get?.map
      fun m => (walk Sites.asFound (.some m) ([.field 2, .int 3] : List QStep)).get?) = some (some true) ∧
    Sel true ([[.field 2, .any]] : List APath) ([.field 2, .int 3] : List QStep) = false := by decide

/-- **order_independent.**  Two path lists (any order, any grouping of indices/keys into brackets)
that denote the same conflict-free path SET build masks that answer every query identically. -/
theorem order_independent (cfg : Sites) (sch : Schema) (huniq : sch.uniqueIds = true)
    (desc : Ty) (black : Bool) (paths paths' : List Bytes) (ts ts' : List ATree)
    (hmean : meaning cfg sch desc paths = .ok ts) (hmean' : meaning cfg sch desc paths' = .ok ts')
    (hsame : ∀ p, p ∈ expandAll ts ↔ p ∈ expandAll ts')
    (hnc : NoStarConflict (expandAll ts) = true) (hnc' : NoStarConflict (expandAll ts') = true)
    (hnts : black = true → cfg.blackStar = true → NoTerminalStar (expandAll ts) = true ∧ NoTerminalStar (expandAll ts') = true) :
    ∃ m m', newFieldMask cfg sch desc black paths = .ok m ∧ newFieldMask cfg sch desc black paths' = .ok m' ∧
      ∀ (q : List QStep) (b b' : Bool), q ≠ [] →
        walk cfg (.some m) q = .ok b → walk cfg (.some m') q = .ok b' → b = b' := by
  obtain ⟨m, hm, h1⟩ := queries_match_paths cfg sch huniq desc black paths ts hmean hnc (fun h h' => (hnts h h').1)
  obtain ⟨m', hm', h2⟩ := queries_match_paths cfg sch huniq desc black paths' ts' hmean' hnc' (fun h h' => (hnts h h').2)
  exact ⟨m, m', hm, hm', fun q b b' hq hw hw' => by rw [h1 q b hq hw, h2 q b' hq hw', Sel_congr hsame]⟩

/-- `$.l[1,3]` and `$.l[3]`,`$.l[1]` denote the same set -/
example :
    ((meaning Sites.asFound wS rS [[36, 46, 108, 91, 49, 44, 51, 93]]).get?.map expandAll,
     (meaning Sites.asFound wS rS [[36, 46, 108, 91, 51, 93], [36, 46, 108, 91, 49, 93]]).get?.map expandAll) =
    (some ([[.field 2, .idx 1], [.field 2, .idx 3]] : List APath), some ([[.field 2, .idx 3], [.field 2, .idx 1]] : List APath)) := by decide

/-- **error_iff** (the provable half).  For path strings of the regular fragment (`meaning` defined):
a conflict-free list is accepted; hence a rejection — or a panic, or non-termination — of a regular
list implies a '*' conflict.  The classes of strings `meaning` rejects are those of `shadow`:
token error, `$`/literal out of place, unknown field, wrong container kind, key kind mismatch, empty
index/key set, unsupported element type, plus the irregular spellings listed at the head of Lib/FieldMaskSpec.lean.
The converse ("every conflict is rejected") is FALSE on the code: see the witnesses below. -/
theorem error_iff (cfg : Sites) (sch : Schema) (huniq : sch.uniqueIds = true)
    (desc : Ty) (black : Bool) (paths : List Bytes) (ts : List ATree)
    (hmean : meaning cfg sch desc paths = .ok ts) :
    (NoStarConflict (expandAll ts) = true → ∃ m, newFieldMask cfg sch desc black paths = .ok m) ∧
    ((∀ m, newFieldMask cfg sch desc black paths ≠ .ok m) → NoStarConflict (expandAll ts) = false) := by
  have key : NoStarConflict (expandAll ts) = true → ∃ m, newFieldMask cfg sch desc black paths = .ok m := by
    intro hnc
    obtain ⟨m, hm, _⟩ := newFieldMask_rep huniq black hmean hnc
    exact ⟨m, hm⟩
  refine ⟨key, ?_⟩
  intro h
  cases hc : NoStarConflict (expandAll ts) with
  | false => rfl
  | true => obtain ⟨m, hm⟩ := key hc; exact absurd hm (h m)

/-- a conflict is rejected or not depending on the order: `$.s.a`,`$.s` is accepted, `$.s`,`$.s.a` is an error -/
example :
    (newFieldMask Sites.asFound wS rS false [[36, 46, 115, 46, 97], [36, 46, 115]]).get?.isSome = true ∧
    (newFieldMask Sites.asFound wS rS false [[36, 46, 115], [36, 46, 115, 46, 97]]).isErr = true := by decide

/-- irregular spelling accepted by the code: `$.l[,]` selects the list and nothing in it -/
example : (newFieldMask Sites.asFound wS rS false [[36, 46, 108, 91, 44, 93]]).get?.isSome = true ∧
    (meaning Sites.asFound wS rS [[36, 46, 108, 91, 44, 93]]).isErr = true := by decide


/-- **json_roundtrip.**  For a mask built from a regular, conflict-free, non-empty path list whose keys are
`JsonSafe` (field ids fit int32 — and are non-negative while `head[f]` is unguarded —, indices fit int64, no
string key is `"*"` and every string key is valid UTF-8): MarshalJSON succeeds, UnmarshalJSON of that tree (`JOut.toIn`: the stated assumption
about strconv.Itoa/Quote followed by encoding/json) succeeds, and the new mask answers every query exactly as
the path set prescribes — hence exactly as the original.  (Text stability — marshal twice, marshal after a
round trip — is checked on the implementation by the harness oracle.) -/
theorem json_roundtrip (cfg : Sites) (sch : Schema) (huniq : sch.uniqueIds = true)
    (desc : Ty) (black : Bool) (paths : List Bytes) (ts : List ATree)
    (hmean : meaning cfg sch desc paths = .ok ts)
    (hnc : NoStarConflict (expandAll ts) = true)
    (hnts : black = true → cfg.blackStar = true → NoTerminalStar (expandAll ts) = true)
    (hne : expandAll ts ≠ [])
    (hsafe : JsonSafe cfg (expandAll ts) = true) :
    ∃ m j m', newFieldMask cfg sch desc black paths = .ok m ∧ marshal m = .ok j ∧
      unmarshal cfg (some j.toIn) = .ok m' ∧
      ∀ (q : List QStep), q ≠ [] →
        (∀ b, walk cfg (.some m) q = .ok b → b = Sel black (expandAll ts) q) ∧
        (∀ b, walk cfg (.some m') q = .ok b → b = Sel black (expandAll ts) q) := by
  obtain ⟨m, hm, hrep⟩ := newFieldMask_rep huniq black hmean hnc
  rcases hrep with ⟨he, _⟩ | ⟨d, hr⟩
  · exact absurd he hne
  · obtain ⟨j, hj, m', hm', hr'⟩ := json_roundtrip_rep (cfg := cfg) hr hsafe
    exact ⟨m, j, m', hm, hj, hm', fun q hq => ⟨fun b hw => walk_rep_sel hr hnts hq hw, fun b hw => walk_rep_sel hr' hnts hq hw⟩⟩

/-- the string key `"*"` is read back as the wildcard: `$.m{"*"}` selects one key before the round trip and
every key after it (`Str("a")` under field 3: false before, true after) -/
example :
    ((newFieldMask Sites.asFound wS rS false [[36, 46, 109, 123, 34, 42, 34, 125]]).get?.map fun m =>
      ((walk Sites.asFound (.some m) ([.field 3, .str [97]] : List QStep)).get?,
       (marshal m).get?.map fun j => (unmarshal Sites.asFound (some j.toIn)).get?.map fun m' =>
         (walk Sites.asFound (.some m') ([.field 3, .str [97]] : List QStep)).get?)) =
    some (some false, some (some (some true))) := by decide

/-- a mask built from no path marshals to type "Invalid", which UnmarshalJSON rejects -/
example :
    ((newFieldMask Sites.asFound wS rS false []).get?.map fun m =>
      (marshal m).get?.map fun j => (unmarshal Sites.asFound (some j.toIn)).isErr) = some (some true) := by decide

/- **no_panic** — the full statement, FALSE on the tree as found (9 sites, witnesses below):

   theorem no_panic (sch desc black paths q gp doc) (s : Site) :
       newFieldMask Sites.asFound sch desc black paths ≠ .panic s ∧
       (∀ m, walk Sites.asFound m q ≠ .panic s) ∧ (∀ m, forEachChild Sites.asFound m ≠ .panic s) ∧
       (∀ m, getPath Sites.asFound sch m desc gp ≠ .panic s) ∧ unmarshal Sites.asFound doc ≠ .panic s
-/

/-- **no_panic_partial.**  For any `cfg`:
* NewFieldMask does not panic when field ids are non-negative (needed only while `head[f]` is unguarded) and every
  path is `tokSafe`;
* a query sequence does not panic when it holds no negative field id and `(*fieldMap).Get` is nil-safe
  (`cfg.fieldNilFd = false`; as found, `Field()` on a node without field map — a list/map node — panics, and
  this clause says nothing);
* UnmarshalJSON does not panic when no child path of the document is a negative int32;
* every panic of GetPath/PathInMask and ForEachChild happens at a site that is still enabled. -/
theorem no_panic_partial (cfg : Sites) (sch : Schema) (s : Site) :
    (∀ desc black paths, (cfg.headNeg = true → idsNonneg sch = true) → (∀ p ∈ paths, tokSafe cfg p = true) →
        newFieldMask cfg sch desc black paths ≠ .panic s) ∧
    (∀ cur q, (∀ id, QStep.field id ∈ q → 0 ≤ id) → cfg.fieldNilFd = false → walk cfg cur q ≠ .panic s) ∧
    (∀ doc, (∀ j, doc = some j → j.negId = false) → unmarshal cfg doc ≠ .panic s) ∧
    (∀ m desc gp, getPath cfg sch m desc gp = .panic s → cfg.enabled s = true) ∧
    (∀ m, forEachChild cfg m = .panic s → cfg.enabled s = true) := by
  refine ⟨?_, ?_, ?_, ?_, ?_⟩
  · intro desc black paths hids htok h
    obtain ⟨p, hp, hc⟩ := newMask_panic paths _ h
    exact cause_absurd hids (htok p hp) hc
  · intro cur q hq hnil h
    rcases walk_panic q cur h with ⟨_, _, id, hmem, hneg⟩ | ⟨_, hc⟩
    · have := hq id hmem; omega
    · simp [hnil] at hc
  · intro doc hdoc h
    obtain ⟨_, _, j, hj, hneg⟩ := unmarshal_panic h
    simp [hdoc j hj] at hneg
  · intro m desc gp h; exact getPath_panic h
  · intro m h; exact forEachChild_panic h

example : idsNonneg { structs := [([83], [⟨1, [97], .named [115, 116, 114, 105, 110, 103]⟩])], typedefs := [], enums := [] } = true ∧
    tokSafe Sites.asFound [36, 46, 108, 91, 49, 44, 51, 93] = true := by decide

/-- **no_panic_repaired.**  With every proposed repair applied (`Sites.repaired`) no operation of the
library panics, for every schema, descriptor, path list, query sequence and document. -/
theorem no_panic_repaired (sch : Schema) (s : Site) :
    (∀ desc black paths, newFieldMask Sites.repaired sch desc black paths ≠ .panic s) ∧
    (∀ cur q, walk Sites.repaired cur q ≠ .panic s) ∧
    (∀ doc, unmarshal Sites.repaired doc ≠ .panic s) ∧
    (∀ m desc gp, getPath Sites.repaired sch m desc gp ≠ .panic s) ∧
    (∀ m, forEachChild Sites.repaired m ≠ .panic s) := by
  have off : ∀ {s}, Sites.repaired.enabled s ≠ true := fun {s} => by cases s <;> exact Bool.false_ne_true
  refine ⟨?_, ?_, ?_, ?_, ?_⟩
  · intro desc black paths h
    obtain ⟨p, _, hc⟩ := newMask_panic paths _ h
    exact off hc.enabled
  · intro cur q h
    rcases walk_panic q cur h with ⟨_, hc, _⟩ | ⟨_, hc⟩ <;> cases hc
  · intro doc h
    obtain ⟨_, hc, _⟩ := unmarshal_panic h
    cases hc
  · intro m desc gp h
    exact off (getPath_panic h)
  · intro m h
    exact off (forEachChild_panic h)


/-- the nine panic sites of the tree as found, each with a minimal input (all replayed on the real code by
the harness, see `seeded()` in harness/cmd/c14): -/
example :
    -- NewFieldMask(S, "$.neg")                      head[-1]
    (newFieldMask Sites.asFound wS rS false [[36, 46, 110, 101, 103]]).panicSite = some .headNeg ∧
    -- NewFieldMask(S, "$.99999999999999999999")     strconv.Atoi error -> panic(err)
    (newFieldMask Sites.asFound wS rS false [[36, 46] ++ List.replicate 20 57]).panicSite = some .atoi ∧
    -- NewFieldMask(S, "$.3000000000")               Int32(): "integer overflow"
    (newFieldMask Sites.asFound wS rS false [[36, 46, 51, 48, 48, 48, 48, 48, 48, 48, 48, 48]]).panicSite = some .int32 ∧
    -- NewFieldMask(S, `$.m{"a}`)                    newPathToken(pathTypeERR): "unspported pathType"
    (newFieldMask Sites.asFound wS rS false [[36, 46, 109, 123, 34, 97, 125]]).panicSite = some .errTok ∧
    -- NewFieldMask(S, `$.m{"a\`)                    src[pos:len+1]
    (newFieldMask Sites.asFound wS rS false [[36, 46, 109, 123, 34, 97, 92]]).panicSite = some .strSlice := by decide

example :
    -- m := NewFieldMask(S, "$.*"); m.PathInMask(S, "$.*")       f.GetID() on a nil field descriptor
    ((newFieldMask Sites.asFound wS rS false [[36, 46, 42]]).get?.map
      fun m => (getPath Sites.asFound wS (.some m) rS [36, 46, 42]).panicSite) = some (some .getPathStar) ∧
    -- m := NewFieldMask(S, "$.l[1]"); l, _ := m.Field(2); l.Field(0)     (*fieldMap)(nil).Get
    ((newFieldMask Sites.asFound wS rS false [[36, 46, 108, 91, 49, 93]]).get?.map
      fun m => (walk Sites.asFound (.some m) ([.field 2, .field 0] : List QStep)).panicSite) = some (some .fieldNilFd) ∧
    -- NewFieldMask(S, "$").ForEachChild(..)          fm.tail with fm == nil
    ((newFieldMask Sites.asFound wS rS false [[36]]).get?.map
      fun m => (forEachChild Sites.asFound (.some m)).panicSite) = some (some .foreachNilFd) ∧
    -- NewFieldMask(S).ForEachChild(..)               explicit panic for typ == 0
    ((newFieldMask Sites.asFound wS rS false []).get?.map
      fun m => (forEachChild Sites.asFound (.some m)).panicSite) = some (some .foreachInvalid) ∧
    -- UnmarshalJSON(`{"path":"$","type":"Struct","children":[{"path":-1,"type":"Scalar"}]}`)    head[-1]
    (unmarshal Sites.asFound (some (.mk ⟨true, false, none, none, some [36]⟩ .struct false
      (.cons (.mk ⟨false, false, some (-1), some (-1), none⟩ .scalar false .nil) .nil)))).panicSite = some .headNeg := by
  decide

/-- **getpath_terminates_partial.**  GetPath/PathInMask return when every token read at a non-empty suffix
of the path consumes input (`progressB`, decidable).  The full statement is false: a backslash outside a
quoted string yields an empty literal token without advancing, and the index/key loops `continue` on
any token when the node is "all" — witness below (`$.m{*}` then PathInMask(`$.m{\`), non-termination
observed on the real code by the harness). -/
theorem getpath_terminates_partial (cfg : Sites) (sch : Schema) (m : MaskOpt) (desc : Ty) (path : Bytes)
    (h : progressB cfg path = true) : getPath cfg sch m desc path ≠ .crash :=
  getPath_total (progress_of_progressB h)

example : progressB Sites.asFound [36, 46, 109, 123, 34, 97, 34, 125] = true ∧
    progressB Sites.asFound [36, 46, 109, 123, 92] = false ∧
    ((newFieldMask Sites.asFound wS rS false [[36, 46, 109, 123, 42, 125]]).get?.map
      fun m => (getPath Sites.asFound wS (.some m) rS [36, 46, 109, 123, 92]).isCrash) = some true := by decide


/-- **getpath_terminates_repaired.**  Once `lit()` always makes progress (`cfg.litStall = false`, repair D10)
GetPath/PathInMask return for every mask, descriptor and path. -/
theorem getpath_terminates_repaired (cfg : Sites) (hfix : cfg.litStall = false) (sch : Schema) (m : MaskOpt)
    (desc : Ty) (path : Bytes) : getPath cfg sch m desc path ≠ .crash :=
  getPath_total (progress_of_repaired hfix path)

end Props.C14
