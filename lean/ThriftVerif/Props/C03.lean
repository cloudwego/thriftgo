import ThriftVerif.Lib.PegLemmas
import ThriftVerif.Lib.WalkerLemmas
import ThriftVerif.Lib.PegTree
import ThriftVerif.Lib.WalkerSafe
import ThriftVerif.Lib.WalkerLayout
import ThriftVerif.Lib.PegTokens
import ThriftVerif.Generated.C03Grammar
/-
  C03 — the parser is total and the AST is faithful to the source text.  Property theorems and decided witnesses only
  (lemmas: Lib/Peg{Lemmas,Mono,Takes,Tree,Tokens}.lean, Lib/Walker{Lemmas,Safe,Layout}.lean).  `G`, `ids` are regenerated
  from parser/thrift.peg on every run, so every `decide` below re-checks against the current grammar.
-/
namespace Props.C03
open Peg Walker

abbrev G := Generated.C03.grammar
abbrev ids := Generated.C03.ids

/-- ASCII text as runes, for the witnesses below -/
def txt (s : String) : List Nat := s.toList.map Char.toNat

/-- The grammar regenerated from parser/thrift.peg has no left recursion (the rank table strictly decreases along
every call in head position), no `*`/`+` over an expression that can succeed on the empty string, calls only
existing rules, and the nullable table is closed. -/
theorem grammar_wf : wf G Generated.C03.nul Generated.C03.rank = true := by decide +kernel

/-- For every well-formed grammar and every input, the matcher stops with `ok` or `fail`: the fuel
`(|input|+1)·(rules+2)·(maxsize+2)+1` is never exhausted. -/
theorem peg_total (g : Grammar) (nul : List Bool) (rank : List Nat) (h : wf g nul rank = true) (rs : List Nat) :
    parseRunes g rs ≠ .oof :=
  parseRunes_no_oof (wf_unpack h) rs

/-- `p.Parse()` of the regenerated grammar terminates on every byte string. -/
theorem parse_total (content : Bytes) : parseRunes G (Utf8.decode content) ≠ .oof :=
  peg_total G _ _ grammar_wf _

/-- The capture-at-start table is closed and says the start rule cannot begin with a capture. -/
theorem grammar_captures : capOK G Generated.C03.nul Generated.C03.capTab = true := by decide +kernel

/-- Every tree the matcher can return for the regenerated grammar, pruned as `tokens32.AST()` does, is a tree of the
grammar read as a tree grammar: a node per non-empty rule call / capture in grammar order, a node for every call of a
rule that cannot match the empty string, each node's children described by its rule's body over the node's own span
(`Peg.Kids`). -/
theorem tree_conforms (rs : List Nat) (p' : Nat) (s' : List Nat) (t : T) (h : parseRunes G rs = .ok p' s' t) :
    Kids G Generated.C03.nul (.call 0) 0 p' (prune t) :=
  (Ok.of_parseRunes h).kids (wf_unpack grammar_wf).nulSound

/-- In that tree every node is non-empty and lies inside the input, and no `<…>` node begins at offset 0 (`pegText`
reads `buffer[begin-1]`). -/
theorem tree_in_bounds (rs : List Nat) (p' : Nat) (s' : List Nat) (t : T) (h : parseRunes G rs = .ok p' s' t) :
    Safe G.pegText rs.length (prune t) :=
  parse_safe (wf_unpack grammar_wf) (capOK_unpack grammar_captures) rs p' s' t h

/-- `parser.ParseString` (model: decode, match, prune, walk) ends with a parse error, a walker error or an AST on
EVERY byte string: no `node.next` / `node.up` / `node.pegRule` is taken of a nil pointer, no buffer index is out of range,
no recursion runs out of fuel.  Proved for all rules: each walker function is shown panic-free on every node of a tree
whose nodes all conform to their rules and lie inside the buffer (`Walker.Inv`, `Lib/WalkerSafe.lean`), and
`tree_conforms` / `tree_in_bounds` say the matcher's trees are such. -/
theorem walker_no_panic (content : Bytes) :
    C03.parseString G ids content = .parseError ∨ C03.parseString G ids content = .walkError ∨
    ∃ t, C03.parseString G ids content = .ok t :=
  C03.parseString_safe grammar_wf grammar_captures content

/-- Field numbering, for every sibling chain handed to `fieldsLoop` (the bodies of struct / union / exception, where
parser.go inlines the rule, and throws lists, where it calls `addField`): if the loop succeeds, the Field nodes parsed in
order are `fs`, and the ids of the result follow the rule "written ids as written, otherwise previous + 1, the first 1"
(`numberSpec`, int32 arithmetic), everything but the id is untouched.  `written f = none` iff the FieldId text parsed to
-999999 or there is no FieldId (`NOTSET` is the code's sentinel; see the witness below).  A function's arguments are
numbered by the same `addField`, but inside `functionLoop`: the statement is not made for them. -/
theorem field_ids (buf : Array Nat) (fuel : Nat) (post : Field → Field) (t : T) (r : List Field)
    (h : fieldsLoop ids buf fuel post [] t = .ok r) :
    ∃ fs, collectFields ids buf fuel t = .ok fs ∧
      r.map (·.id) = numberSpec none ((fs.map post).map written) ∧
      r.map (fun x => { x with id := 0 }) = (fs.map post).map (fun x => { x with id := 0 }) := by
  rw [fieldsLoop_eq] at h
  split at h
  next fs hc =>
    cases h
    refine ⟨fs, hc, ?_, ?_⟩
    · simpa using foldl_addField_ids (fs.map post) []
    · simpa using foldl_addField_rest (fs.map post) []
  all_goals cases h

example : numberSpec none [none, none, some 7, none, some 3, none] = [1, 2, 7, 8, 3, 4] := by decide +kernel

/-- An explicit field id is read by `fieldIdOf` (parseField after fix d36828f: `ParseInt(text, 10, 32)`, on error
`ParseInt(text, 0, 32)`, error when both fail).  Written ids are read as written in every spelling the grammar allows:
decimal numerals (zero-padded ones stay decimal), optionally signed; `0x…` with hex digits of either case; `0o…` —
whenever the value fits int32. -/
theorem field_ids_written :
    (∀ ds, ds ≠ [] → digitsOK ds → decVal ds < 2 ^ 31 → fieldIdOf (ds.map (· + 48)) = some (decVal ds : Int)) ∧
    (∀ ds, ds ≠ [] → digitsOK ds → decVal ds < 2 ^ 31 → fieldIdOf (43 :: ds.map (· + 48)) = some (decVal ds : Int)) ∧
    (∀ ds, ds ≠ [] → digitsOK ds → decVal ds ≤ 2 ^ 31 → fieldIdOf (45 :: ds.map (· + 48)) = some (-(decVal ds : Int))) ∧
    (∀ c cs ds, Spells 16 (c :: cs) ds → valIn 16 ds < 2 ^ 31 → fieldIdOf (48 :: 120 :: c :: cs) = some (valIn 16 ds : Int)) ∧
    (∀ c cs ds, Spells 8 (c :: cs) ds → valIn 8 ds < 2 ^ 31 → fieldIdOf (48 :: 111 :: c :: cs) = some (valIn 8 ds : Int)) :=
  ⟨fieldIdOf_decimal, fieldIdOf_plus, fieldIdOf_minus, fieldIdOf_hex, fieldIdOf_octal⟩

example : digitsOK [4, 2] ∧ decVal [4, 2] = 42 := by decide +kernel
example : Spells 16 (txt "1F") [1, 15] ∧ valIn 16 [1, 15] = 31 := by decide +kernel

/- regression items (defects `fieldid-nondecimal`, `fieldid-range`, fixed by d36828f): -/
example : fieldIdOf (txt "0x10") = some 16 := by decide +kernel
example : fieldIdOf (txt "0o17") = some 15 := by decide +kernel
example : fieldIdOf (txt "010") = some 10 := by decide +kernel
example : fieldIdOf (txt "08") = some 8 := by decide +kernel
example : fieldIdOf (txt "99999999999") = none := by decide +kernel      -- parseField returns an error
example : fieldIdOf (txt "-99999999999") = none := by decide +kernel
/- -999999 is the NOTSET sentinel: a field written with it is renumbered -/
example : (fieldIdOf (txt "-999999")).map (fun v => written { emptyField with id := v }) = some none := by decide +kernel

/-- Enum numbering: folding `enumStep` (one turn of the enum loop reduced to name and value; it shares
`implicitEnumValue` with `enumValueAt`, no theorem relates the fold to `enumLoop` on a tree) over the members gives
"written values as written, otherwise previous + 1 (int64 arithmetic), the first 0". -/
theorem enum_values (ws : List (Bytes × Option Int)) :
    (ws.foldl (fun a w => enumStep a w.1 w.2) []).map (·.value) = enumSpec none (ws.map (·.2)) := by
  simpa using foldl_enumStep_values ws []

example : enumSpec none [none, none, some 10, none, some 1, none] = [0, 1, 10, 11, 1, 2] := by decide +kernel

/- Explicit enum values (`enumValueOf`, parseEnum after fix 1a143d7): `ParseInt(text, 0, 64)`, on error
`ParseInt(text, 10, 64)`, error when both fail.  Regression items: -/
example : enumValueOf (txt "08") = some 8 := by decide +kernel
example : enumValueOf (txt "010") = some 8 := by decide +kernel
example : enumValueOf (txt "0x1F") = some 31 := by decide +kernel
example : enumValueOf (txt "0o17") = some 15 := by decide +kernel
example : enumValueOf (txt "-5") = some (-5) := by decide +kernel
example : enumValueOf (txt "0xZZ") = none := by decide +kernel
example : enumValueOf (txt "99999999999999999999") = none := by decide +kernel

/-- `Get k` after appending the written `(key, value)` pairs in order is the list of values written with key `k`,
in source order. -/
theorem annotations_append (kvs : List (Bytes × Bytes)) (k : Bytes) :
    annGet (annFold [] kvs) k = (kvs.filter (fun kv => kv.1 = k)).map (·.2) := by
  simpa [annGet] using annGet_annFold kvs [] k

/-- Keys appear once each, in the order of their first occurrence. -/
theorem annotations_keys_first_occurrence (kvs : List (Bytes × Bytes)) :
    keysOf (annFold [] kvs) = (kvs.map (·.1)).foldl addKey [] ∧ (keysOf (annFold [] kvs)).Nodup := by
  have h : keysOf (annFold [] kvs) = (kvs.map (·.1)).foldl addKey [] := keysOf_annFold kvs []
  exact ⟨h, h ▸ foldl_addKey_nodup _ [] List.nodup_nil⟩

/-- For `q ∈ {', "}` and every content `s` that has no backslash immediately before a quote `q` or before another
backslash and does not end in a backslash, the copy loop of `pegText` applied to the spelling `esc q s`
(a backslash before every `q`) gives back `s`. -/
theorem literal_unescape (q : Nat) (hq : q = 34 ∨ q = 39) (s : List Nat) (hs : Plain q s) :
    unescLoop q (esc q s) = s :=
  unescLoop_esc q (by cases hq <;> omega) s hs

example : Plain 34 (txt "a'b\"c\\td") := by decide +kernel

/- Exactly the excluded shapes misbehave (spelling → what the loop returns): -/
-- content `\"` spelled `\\"`: the loop keeps both backslashes
example : unescLoop 34 (esc 34 (txt "\\\"")) = txt "\\\\\"" := by decide +kernel
-- content ending in `\\` : the final character is copied twice
example : unescLoop 34 (txt "a\\\\") = txt "a\\\\\\" := by decide +kernel

/-! ## layout (partial: per token rule; the composition over whole documents is covered by the oracle only)

FULL STATEMENT (not proved): for every document `d` and layouts `ℓ₁ ℓ₂` (a Skip-string at every token boundary, a
separator `,` `;` or none at every list position, a quote kind per literal, decimal spellings of integers),
`parseString (render d ℓ₁)` and `parseString (render d ℓ₂)` are equal up to ReservedComments (`render` is not defined in
Lean).  For the spellings of doubles with exponents and of non-decimal field ids see `double_text`, `field_ids_written`
and the regression items at the end. -/

/-- The value of a literal does not depend on the quote kind it is written with. -/
theorem quote_kind_independent (s : List Nat) (h1 : Plain 34 s) (h2 : Plain 39 s) :
    unescLoop 34 (esc 34 s) = unescLoop 39 (esc 39 s) := by
  rw [literal_unescape 34 (.inl rfl) s h1, literal_unescape 39 (.inr rfl) s h2]

/-- `Skip` absorbs any run of blanks (space, tab, vertical tab, CR, LF in any mix): on `ws ++ rest` it consumes exactly
`ws` when `rest` is empty or starts with a character that is neither blank nor `/` nor `#`.  (`Peg.Runs` is the
fuel-free view of the matcher: the result `run` returns on this rule at this position with any fuel that does not run out,
`Runs.unique`; the step from there to a whole `p.Parse()` is not proved.) -/
theorem skip_absorbs_ws (ws rest : List Nat) (pos : Nat) (hws : ∀ c ∈ ws, PegTokens.isWs c) (hrest : PegTokens.StopsSkip rest) :
    ∃ t, Runs G (.call Generated.C03.R.Skip) pos (ws ++ rest) (.ok (pos + ws.length) rest t) :=
  PegTokens.skip_absorbs ws rest pos (.of_blanks hws) hrest

/-- `Skip` absorbs every whitespace / comment string (`PegTokens.SkipStr`: blanks in any mix, `/* … */` with a body free
of `*/`, `// …` and `# …` up to a line end, in any order and number) and stops at the first character that cannot
continue it. -/
theorem skip_absorbs (w rest : List Nat) (pos : Nat) (hw : PegTokens.SkipStr w) (hrest : PegTokens.StopsSkip rest) :
    ∃ t, Runs G (.call Generated.C03.R.Skip) pos (w ++ rest) (.ok (pos + w.length) rest t) :=
  PegTokens.skip_absorbs w rest pos hw hrest

-- " /* c */// x⏎# y⏎⇥" is such a string
example : PegTokens.SkipStr
    (32 :: (47 :: 42 :: [32, 99, 32] ++ 42 :: 47 :: (47 :: 47 :: [32, 120] ++ (10 :: (35 :: [32, 121] ++ (10 :: 9 :: [])))))) :=
  .ws (by decide) (.long (body := [32, 99, 32]) (by decide) (.line (body := [32, 120]) (w := 10 :: (35 :: [32, 121] ++ (10 :: 9 :: [])))
    (by decide) (by decide) (by decide)
    (.ws (by decide) (.unix (body := [32, 121]) (w := 10 :: 9 :: []) (by decide) (by decide) (by decide)
      (.ws (by decide) (.ws (by decide) .nil))))))

example : PegTokens.StopsSkip (txt "struct") ∧ ∀ c ∈ txt " \t\r\n ", PegTokens.isWs c := by decide +kernel

/-- A ListSeparator node (`,` and `;` alike: the walker never looks inside) is invisible to every loop of the walker. -/
theorem list_separator_ignored (buf : Array Nat) (fuel b e : Nat) (up next : T) :
    (∀ acc, annLoop ids buf acc (.node ids.rListSeparator b e up next) = annLoop ids buf acc next) ∧
    (∀ f, fieldLoop ids buf fuel f (.node ids.rListSeparator b e up next) = fieldLoop ids buf fuel f next) ∧
    (∀ post acc, fieldsLoop ids buf fuel post acc (.node ids.rListSeparator b e up next) = fieldsLoop ids buf fuel post acc next) ∧
    (∀ f, functionLoop ids buf fuel f (.node ids.rListSeparator b e up next) = functionLoop ids buf fuel f next) ∧
    (∀ acc, functionsLoop ids buf fuel acc (.node ids.rListSeparator b e up next) = functionsLoop ids buf fuel acc next) ∧
    constListLoop ids buf (fuel + 1) (.node ids.rListSeparator b e up next) = constListLoop ids buf fuel next ∧
    constMapLoop ids buf (fuel + 1) (.node ids.rListSeparator b e up next) = constMapLoop ids buf fuel next :=
  ⟨annLoop_sep buf, fieldLoop_sep buf fuel, fieldsLoop_sep buf fuel, functionLoop_sep buf fuel, functionsLoop_sep buf fuel,
   constListLoop_sep buf fuel, constMapLoop_sep buf fuel⟩

/-- Skip and SkipLine nodes are invisible to the field loop and to the document loop. -/
theorem skip_nodes_ignored (buf : Array Nat) (fuel r b e : Nat) (up next : T) (h : r = ids.rSkip ∨ r = ids.rSkipLine) :
    (∀ f, fieldLoop ids buf fuel f (.node r b e up next) = fieldLoop ids buf fuel f next) ∧
    (∀ t, docLoop ids buf fuel t (.node r b e up next) = docLoop ids buf fuel t next) :=
  ⟨fieldLoop_skip buf fuel h, docLoop_skip buf fuel h⟩

/- Projections of an outcome for the whole-pipeline items at the end (decode → match → prune → walk, evaluated by the
kernel on the regenerated grammar). -/

def dblTexts (o : C03.Outcome) : List Bytes :=
  match o with
  | .ok t => t.constants.map (fun c => match c.value with | .dbl s => s | _ => [0])
  | _ => [[1]]

def defCount (o : C03.Outcome) : Option Nat :=
  match o with
  | .ok t => some (t.includes.length + t.cppIncludes.length + t.namespaces.length + t.typedefs.length + t.constants.length
      + t.enums.length + t.structs.length + t.unions.length + t.exceptions.length + t.services.length)
  | _ => none

def structFieldSummary (o : C03.Outcome) : List (Int × Bytes × Nat × Bytes) :=
  match o with
  | .ok t => (t.structs.map (fun s => s.fields.map (fun f => (f.id, f.name, f.req,
      match f.ty with | .mk n _ _ _ _ => n | .none => [])))).flatten
  | _ => [(0, [1], 0, [])]

/-- For every DoubleConstant node of a parse tree (children conforming to the rule, inside the buffer), the text handed
to `strconv.ParseFloat` is the node's own capture `buffer[b1:e1]` — the whole literal, trailing blanks trimmed — wherever
blanks or comments precede or follow it; never the exponent's IntConstant (parser.go after 5d7ef08, 5914c39, cf9dc35). -/
theorem double_text (buf : Array Nat) (n : Nat) (hn : n ≤ buf.size) (fuel b0 e0 b e : Nat) (u next : T)
    (hs : Safe ids.rPegText n u) (hk : Kids G Generated.C03.nul (ruleBody ids.rDoubleConstant) b e u) :
    ∃ b1 e1, b ≤ b1 ∧ b1 < e1 ∧ e1 ≤ e ∧
      parseConstValue ids buf (fuel + 1) (.node ids.rConstValue b0 e0 (.node ids.rDoubleConstant b e u .nil) next) =
        .ok (.dbl (trimRightBlank (Utf8.encode (slice buf b1 e1)))) :=
  Walker.double_text buf n hn fuel b0 e0 b e u next hs hk

/- regression items for `double-exponent` (whole pipeline): -/
set_option maxRecDepth 100000 in
example : dblTexts (C03.parseString G ids (txt "const double d = 1e5")) = [txt "1e5"] := by decide +kernel
set_option maxRecDepth 100000 in
example : dblTexts (C03.parseString G ids (txt "const double d =\n1.5e3 // c")) = [txt "1.5e3"] := by decide +kernel
set_option maxRecDepth 100000 in
example : dblTexts (C03.parseString G ids (txt "const double d = 1e5 ,")) = [txt "1e5"] := by decide +kernel
set_option maxRecDepth 100000 in
example : dblTexts (C03.parseString G ids (txt "const double d = 1.5")) = [txt "1.5"] := by decide +kernel

/- regression item for `fieldid-nondecimal`: `0x10:` is id 16 and the next unnumbered field is 17. -/
set_option maxRecDepth 100000 in
example : structFieldSummary (C03.parseString G ids (txt "struct S { 0x10: i32 a; i32 b }")) =
    [(16, txt "a", 0, txt "i32"), (17, txt "b", 0, txt "i32")] := by decide +kernel

/- regression item for `fieldid-range`: a parse (walker) error -/
set_option maxRecDepth 100000 in
example : structFieldSummary (C03.parseString G ids (txt "struct S { 99999999999: i32 a }")) = [(0, [1], 0, [])] := by decide +kernel

/- regression item for `empty-document` (fix 809bbec): the empty input is an empty AST -/
set_option maxRecDepth 100000 in
example : defCount (C03.parseString G ids []) = some 0 := by decide +kernel
set_option maxRecDepth 100000 in
example : defCount (C03.parseString G ids (txt " // c\n")) = some 0 := by decide +kernel

/- KNOWN FINDING "fieldreq-prefix" (not fixed: needs a regenerated thrift.peg.go): FieldReq has no `!LetterOrDigit` guard, a type named `requiredness` is split. -/
set_option maxRecDepth 100000 in
example : structFieldSummary (C03.parseString G ids (txt "struct S { 1: requiredness x }")) =
    [(1, txt "x", 1, txt "ness")] := by decide +kernel

end Props.C03
