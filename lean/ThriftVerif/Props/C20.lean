import ThriftVerif.Lib.Options
import ThriftVerif.Lib.OptionsLemmas
import ThriftVerif.Lib.OptionsCmdLemmas
import ThriftVerif.Generated.C20
/-
  C20 — every documented backend option switches exactly its own feature.
  `env` below is the regenerated table: these theorems are re-checked against
  what /repo's option table, defaults and README say on every run.
-/
namespace Props.C20
open Options Generated.C20

/-- first-match lookup with a prefix test finds an entry's own row whenever no
earlier row's name is a prefix of a later row's name (generic, any table). -/
theorem prefix_safe_lookup (t : List Entry) (h : PrefixSafe t) (e : Entry) (he : e ∈ t) :
    lookup t e.name = some e := Options.lookup_of_prefixSafe t h e he

/-- regenerated obligation: the current table has that property
(`code_ref_slim` before `code_ref`, etc.). -/
theorem table_prefix_safe : PrefixSafe env.table := by decide +kernel

/-- regenerated obligation: every row of the README option table is a row of the
option table, every boolean row documents the default the code has, and every
table row except the deprecated `always_gen_json_tag` is documented. -/
theorem documented_accepted :
    (documented.all fun (n, d) =>
      match env.table.find? (fun e => e.name == n), d with
      | some ⟨_, .feature i⟩, some b => env.defaults.getD i (!b) == b
      | some ⟨_, .feature _⟩, none => false
      | some ⟨_, .ignoreInitialisms⟩, some b => b == false
      | some _, none => true
      | some _, some _ => false
      | none, _ => false) = true ∧
    (env.table.all fun e =>
      documented.any (fun (n, _) => n == e.name) ||
      e.name == [97, 108, 119, 97, 121, 115, 95, 103, 101, 110, 95, 106, 115, 111, 110, 95, 116, 97, 103]) = true := by
  decide +kernel

/-- every feature row points inside the defaults vector, and so does the deep-equal index of the slim rule -/
theorem table_wellformed : TableWF env = true := by decide

/-- **sets exactly its own** (unbounded in the length of the option list, any
names, documented or not): when the list is accepted, boolean feature `i` holds
the value of the last option of the list that *resolves* to feature `i`, or its
default when there is none; the single cross effect is the slim rule. -/
theorem sets_exactly_own (args : List Bytes) (c : Cfg) (h : handle env args = some c) (i : Nat)
    (hi : i < env.defaults.length) :
    feat c i =
      if c.template = env.slimName ∧ i = env.iDeepEqual then false
      else (lastSetting env i args).getD (env.defaults.getD i false) :=
  handleFrom_feat env (init env) rfl args c h i hi

/-- … and for a documented name given exactly, resolution is the identity: the
option `name`, `name=true`, `name=false` is a setting of its own feature and of
no other one, wherever it stands and whatever names extend or prefix it. -/
theorem documented_name_resolves (e : Entry) (he : e ∈ env.table) (v : Option Bytes) :
    resolve env (joinEq e.name v) = some (e.kind, v.getD []) := by
  have := prefix_safe_lookup env.table table_prefix_safe e he
  exact Options.resolve_joinEq env e v this (name_no_eq e he)
where
  name_no_eq (e : Entry) (he : e ∈ env.table) : (61 : Nat) ∉ e.name := by
    revert e; decide +kernel

/-- slim disables deep-equal -/
theorem slim_disables_deep_equal (args : List Bytes) (c : Cfg) (h : handle env args = some c)
    (hs : c.template = env.slimName) : feat c env.iDeepEqual = false :=
  (sets_exactly_own args c h env.iDeepEqual (by decide)).trans (if_pos ⟨hs, rfl⟩)

/-- **reject iff**: the list is rejected exactly when some option in it is
rejected by its own action in the state reached so far (non-boolean value for a
boolean option, unknown naming style / template, `use_package` without `=`), or
the final configuration is one of the four documented invalid combinations. -/
theorem reject_iff (args : List Bytes) :
    handle env args = none ↔
      (run env (init env) args = none ∨
       ∃ c, run env (init env) args = some c ∧ invalid env (slimRule env c) = true) :=
  Options.handle_none_iff env args

/-- the rejection of a single option depends only on that option's own text
(never on what precedes it) -/
theorem step_reject_local (c c' : Cfg) (a : Bytes) :
    (step env c a = none) ↔ (step env c' a = none) := Options.step_none_local env c c' a

/-- the naming style and the initialisms switch: `naming_style=…` alone leaves
the initialisms correction at its documented default (on).  Needs
`env.doInit0 = true`, a regenerated fact. -/
theorem naming_style_keeps_initialisms :
    ∀ s ∈ env.styles,
      (handle env [joinEq [110, 97, 109, 105, 110, 103, 95, 115, 116, 121, 108, 101] (some s)]).map
        (fun c => (c.style, c.effInit)) = some (s, true) := by
  decide +kernel

/-! ### the command-line path `-g go:<a,b,c>` (args.Arguments.Targets → plugin.Pack → HandleOptions) -/

/-- the option appended by checkOptions -/
def slimOpt : Bytes := cmdEnv.templateName ++ 61 :: env.slimName

/-- what checkOptions appends to the list `as` -/
def appended (as : List Bytes) : List Bytes :=
  if feat (probe env as) cmdEnv.iNested && !(as.any fun a => optName a == cmdEnv.templateName) then [slimOpt] else []

/-- **the command line is transparent**: for any non-empty list of comma-free option texts, `-g go:` followed by
their comma-join hands the backend's HandleOptions a list that acts exactly like the list written (a bare name
arrives as `name=`, a value keeps everything after its first `=`), followed by `template=slim` exactly when the
list switches nested structs on and names no template.  The backend's CodeUtils starts from the naming-style
flags the scratch run of checkOptions left in the process-wide style objects. -/
theorem cmdline_transparent (as : List Bytes) (hne : as ≠ []) (hc : ∀ a ∈ as, (44 : Nat) ∉ a) :
    cmdline env cmdEnv (joinComma as) =
      if (handle env as).isNone then none    -- the scratch run of checkOptions rejects the list: nothing is generated
      else handleFrom env { init env with styleFlags := (probe env as).styleFlags } (as ++ appended as) := by
  rw [cmdline_eq env cmdEnv rfl, splitComma_joinComma as hne hc]
  rfl

/-- **sets exactly its own, through the command line**: feature `i` of the accepted configuration holds the last
setting the written list (plus the appended `template=slim`, which sets no feature) gives for it, else its default;
the single cross effect is the slim rule. -/
theorem cmdline_sets_exactly_own (as : List Bytes) (hne : as ≠ []) (hc : ∀ a ∈ as, (44 : Nat) ∉ a)
    (c : Cfg) (h : cmdline env cmdEnv (joinComma as) = some c) (i : Nat) (hi : i < env.defaults.length) :
    feat c i =
      if c.template = env.slimName ∧ i = env.iDeepEqual then false
      else (lastSetting env i (as ++ appended as)).getD (env.defaults.getD i false) := by
  rw [cmdline_transparent as hne hc] at h
  split at h
  · simp at h
  · exact handleFrom_feat env _ rfl _ c h i hi

/-- **the command line changes nothing else**: everything the backend's HandleOptions leaves behind except the
process-wide naming-style flags (features, naming style, initialisms switch, package prefix, template, import
replacements) is exactly what HandleOptions gives for the written list plus what checkOptions appended — the scratch
run of checkOptions cannot leak into it. -/
theorem cmdline_outcome_is_handle (as : List Bytes) (hne : as ≠ []) (hc : ∀ a ∈ as, (44 : Nat) ∉ a) :
    (cmdline env cmdEnv (joinComma as)).map Cfg.core =
      if (handle env as).isNone then none else (handle env (as ++ appended as)).map Cfg.core := by
  rw [cmdline_transparent as hne hc]
  split
  · rfl
  · exact handleFrom_flags env (init env) _ _

/-- nothing is appended unless the list itself switches nested structs on (`enable_nested_struct=false` included) -/
theorem cmdline_adds_nothing_unless_nested (as : List Bytes) (h : feat (probe env as) cmdEnv.iNested = false) :
    appended as = [] := by simp [appended, h]

/-- a value keeps everything after its first `=`: `use_package=a/b=c/d` reaches the backend as written -/
theorem cmdline_value_keeps_equals (n v : Bytes) (hn : (61 : Nat) ∉ n) (hn' : (44 : Nat) ∉ n) (hv : (44 : Nat) ∉ v) :
    pack (parseOpts (n ++ 61 :: v)) = [n ++ 61 :: v] := by
  have hc : (44 : Nat) ∉ n ++ 61 :: v := by simp [hn', hv]
  have := splitEq_joinEq n (some v) hn
  simp only [joinEq] at this
  simp [pack_parseOpts, splitComma_eq, Plugin.splitOn_none 44 _ (noSep hc), repack, this]

/-- **nested structs force the slim template** (documented implication): when the list switches nested structs on
and names no template, the accepted configuration has the slim template and no deep-equal. -/
theorem nested_forces_slim (as : List Bytes) (hne : as ≠ []) (hc : ∀ a ∈ as, (44 : Nat) ∉ a)
    (hnest : feat (probe env as) cmdEnv.iNested = true)
    (hnt : (as.any fun a => optName a == cmdEnv.templateName) = false)
    (c : Cfg) (h : cmdline env cmdEnv (joinComma as) = some c) :
    c.template = env.slimName ∧ feat c env.iDeepEqual = false := by
  suffices ht : c.template = env.slimName from
    ⟨ht, (cmdline_sets_exactly_own as hne hc c h env.iDeepEqual (by decide)).trans (if_pos ⟨ht, rfl⟩)⟩
  rw [cmdline_transparent as hne hc] at h
  have happ : appended as = [slimOpt] := by simp [appended, hnest, hnt]
  rw [happ] at h
  split at h
  · simp at h
  exact handleFrom_last_template env _ as slimOpt env.slimName (by decide) c h

/- non-vacuity of the command-line theorems: a list that switches nested structs on and names no template -/
example : feat (probe env [VL.ofAscii "enable_nested_struct", VL.ofAscii "gen_deep_equal"]) cmdEnv.iNested = true ∧
    ([VL.ofAscii "enable_nested_struct", VL.ofAscii "gen_deep_equal"].any fun a => optName a == cmdEnv.templateName) = false ∧
    (cmdline env cmdEnv (joinComma [VL.ofAscii "enable_nested_struct", VL.ofAscii "gen_deep_equal"])).isSome = true := by decide +kernel

/- non-vacuity: a concrete accepted list, its outcome is what `sets_exactly_own` says -/
example : (handle env [VL.ofAscii "gen_setter", VL.ofAscii "code_ref_slim=false", VL.ofAscii "code_ref"]).isSome = true := by decide +kernel

end Props.C20
