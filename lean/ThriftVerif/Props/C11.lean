import ThriftVerif.Lib.Plugin
import ThriftVerif.Lib.PluginLemmas
import ThriftVerif.Gen.Std
import ThriftVerif.Gen.StdLemmas
import ThriftVerif.Gen.SchemaCheck
import ThriftVerif.Lib.PluginCodecLemmas
import ThriftVerif.Generated.C11Schema
/-
  C11 — plugins see the compiler's AST and options, and their answers are honoured.

  Property theorems over
  * `Generated.C11.prog` — the schema of plugin.Request / plugin.Response / the whole AST, regenerated on
    every run from plugin/protocol.thrift and parser/AST.thrift by the repository's own parser,
  * `Gen.Std` — the schema-driven writer/reader (what the generated codec computes; for this schema the
    fast codec of k-AST.go / k-protocol.go: fields in id order, optional ⇔ nil test, no union check),
  * `Plugin` (Lib/Plugin.lean) — include compression, data trailer, version gate, option strings and the
    decision logic around executing one plugin.
-/
namespace Props.C11
open Wire Gen Gen.Std Plugin

/-- the regenerated schema is one the round-trip theorem applies to (distinct field ids, optional
fields start unset, …): checked by kernel evaluation of the Bool-valued checker on the regenerated value -/
theorem schema_ok : SchemaOK Generated.C11.prog := schemaOkB_sound _ (by decide)

/-- **The request a plugin decodes is the request the compiler wrote.**  For every well-typed Go object
of the regenerated schema (in particular `Request`: every AST node kind, optional fields set or unset,
any nesting depth, any sizes), the reader accepts the writer's bytes — followed by any trailing bytes
`r`, e.g. the data trailer, which it leaves alone — and the object it builds encodes to exactly the same
bytes: same field ids, wire types, optional-present-iff-set, container contents in order. -/
theorem codec_roundtrip (sidx : Nat) (obj : GoVal) (bs r : Bytes)
    (hwt : WT Generated.C11.prog.structs (.struct sidx) obj)
    (h : write Generated.C11.prog sidx obj = .ok bs) :
    ∃ obj', readTy Generated.C11.prog.structs ((bs ++ r).length + 1) (.struct sidx) (bs ++ r) = some (obj', r) ∧
      write Generated.C11.prog sidx obj' = .ok bs := 
  -- the regenerated schema has set validation off, so `noVal` changes nothing
  read_write_roundtrip Generated.C11.prog schema_ok sidx obj bs r hwt h

/-- `codec_roundtrip` at `Request`, through `Gen.Std.read` (= `UnmarshalRequest`'s `FastRead`),
with or without a trailer behind the encoding -/
theorem request_roundtrip (req : GoVal) (bs r : Bytes)
    (hwt : WT Generated.C11.prog.structs (.struct Generated.C11.requestIdx) req)
    (h : write Generated.C11.prog Generated.C11.requestIdx req = .ok bs) :
    ∃ req', read Generated.C11.prog Generated.C11.requestIdx (bs ++ r) = some req' ∧
      write Generated.C11.prog Generated.C11.requestIdx req' = .ok bs := by
  obtain ⟨v', hr, hw⟩ := codec_roundtrip _ req bs r hwt h
  exact ⟨v', congrArg (Option.map Prod.fst) hr, hw⟩

/-- the same for the plugin's answer -/
theorem response_roundtrip (res : GoVal) (bs : Bytes)
    (hwt : WT Generated.C11.prog.structs (.struct Generated.C11.responseIdx) res)
    (h : write Generated.C11.prog Generated.C11.responseIdx res = .ok bs) :
    ∃ res', read Generated.C11.prog Generated.C11.responseIdx bs = some res' ∧
      write Generated.C11.prog Generated.C11.responseIdx res' = .ok bs :=
  read_write_roundtrip_read _ schema_ok _ res bs hwt h

/-- **Marshalling cannot fail**: every well-typed object of the regenerated schema is written (the fast
codec has no union check and no set validation, and the schema says so: `noUnionB` by evaluation) -/
theorem marshal_total (sidx : Nat) (obj : GoVal) (hwt : WT Generated.C11.prog.structs (.struct sidx) obj) :
    ∃ bs, write Generated.C11.prog sidx obj = .ok bs := by
  obtain ⟨w, hw⟩ := Plugin.Codec.toW_total Generated.C11.prog
    (Plugin.Codec.noUnionB_sound _ (by decide)) rfl obj (.struct sidx) hwt
  exact ⟨encW w, write_eq_ok.mpr ⟨w, hw, rfl⟩⟩

/-- whatever the writer emits for a struct-like ends with the STOP byte -/
theorem write_ends_with_stop (sidx : Nat) (obj : GoVal) (bs : Bytes)
    (h : write Generated.C11.prog sidx obj = .ok bs) : ∃ x, bs = x ++ [0] := by
  obtain ⟨w, hw, rfl⟩ := write_eq_ok.mp h
  obtain ⟨ws, rfl⟩ := toW_struct_shape hw
  exact ⟨encFields ws, rfl⟩

/-- **decompress ∘ compress = id, node for node**, on every include tree that is consistent (equal
filenames ⇒ the same file: equal contents and equal includes — what `parseFileRecursively`'s
`thriftMap[path]` memo guarantees: one `*Thrift` per normalised path, so the unfolding of the pointer
graph has equal subtrees under equal names; the `Include`s leading to a file may differ) and in which no
included file's name starts with the reference marker.  The nodes carry arbitrary payloads (`inc`: the
Include's Path/Used, `body`: everything else of the Thrift), which come back unchanged.  Both ways the
code decompresses: on the plugin side (`UnmarshalRequest`: nil map, collect first) and on the compiler
side (`defer decompress(req.AST, m)` with the compressor's own map — the revert that later plugins and
the caller rely on).  Any fuel ≥ the include depth suffices; no bound on the graph. -/
theorem compress_decompress {α : Type} (dflt : α) (t : Tree α) (hc : Consistent t) (hn : NoRef t)
    (f : Nat) (hf : t.depth ≤ f) :
    decompress f none (compress dflt t).1 = .ok t ∧
    decompress f (some (compress dflt t).2) (compress dflt t).1 = .ok t := by
  cases t with
  | node inc fn body ks =>
    obtain ⟨_, _, h, hcol⟩ := compressKids_inv dflt (fun d => d ∈ nodesK ks) hc hn ks [] _ .init
      (fun d hd => ⟨hd, fun h => (nomatch h)⟩)
    have hcol : collectKids (compressKids dflt ks ⟨[], Heap.empty⟩).1 Heap.empty =
        (compressKids dflt ks ⟨[], Heap.empty⟩).2.heap := hcol id (fun _ _ _ _ => rfl)
    simp only [decompress, compress, Tree.kids, Tree.fn, Tree.inc, Tree.body]
    rw [hcol, h.run f hf]
    exact ⟨rfl, rfl⟩

/-- hypotheses of `compress_decompress` are satisfiable: a diamond (d included twice, through includes
with different payloads 1 and 2) -/
example : decompress 2 none (compress 0 (.node 0 [97] 7 [.node 1 [98] 8 [.node 1 [100] 9 []], .node 2 [99] 8 [.node 2 [100] 9 []]])).1 =
    .ok (.node 0 [97] 7 [.node 1 [98] 8 [.node 1 [100] 9 []], .node 2 [99] 8 [.node 2 [100] 9 []]]) := by rfl

/-- the second occurrence really is replaced by a reference (compression is not the identity) -/
example : (compress 0 (.node 0 [97] 7 [.node 1 [98] 8 [.node 1 [100] 9 []], .node 2 [99] 8 [.node 2 [100] 9 []]])).1 =
    .node 0 [97] 7 [.node 1 [98] 8 [.node 1 [100] 9 []], .node 2 [99] 8 [.node 2 (refPrefix ++ [100]) 0 []]] := by rfl

/-- outside the hypotheses the statement is false — an included file whose (cwd-relative) name starts
with "THRIFGO_REF:" is taken for a reference by the plugin side, which panics "not found ref": -/
example : decompress 5 none (compress () (.node () [97] () [.node () (refPrefix ++ [120]) () []])).1 = .panic := by rfl

/-- … and an inconsistent tree (two different files under one name) comes back changed -/
example : decompress 5 none (compress 0 (.node 0 [97] 0 [.node 0 [98] 1 [], .node 0 [98] 2 []])).1 =
    .ok (.node 0 [97] 0 [.node 0 [98] 1 [], .node 0 [98] 1 []]) := by rfl

/-- **Whatever the gate says, the plugin ends up with the compiler's AST**: compressed-with-trailer for a
plugin that understands it (and the switch on), plain otherwise. -/
theorem plugin_sees_compiler_ast {α : Type} (dflt : α) (gate : Bool) (t : Tree α) (hc : Consistent t) (hn : NoRef t)
    (f : Nat) (hf : t.depth ≤ f) : receiveAst f (sendAst dflt gate t) = .ok t := by
  cases gate
  · simp [sendAst, receiveAst]
  · simp only [sendAst, receiveAst, if_true]
    exact (compress_decompress dflt t hc hn f hf).1

/-- why both halves must hang on ONE condition: compressed includes without the trailer reach the plugin
as reference stubs (the seeded change C11-m4: compression guarded by the environment switch alone) -/
example : receiveAst 5 ((compress 0 (.node 0 [97] 7 [.node 1 [98] 8 [.node 1 [100] 9 []], .node 2 [99] 8 [.node 2 [100] 9 []]])).1, false) =
    .ok (.node 0 [97] 7 [.node 1 [98] 8 [.node 1 [100] 9 []], .node 2 [99] 8 [.node 2 (refPrefix ++ [100]) 0 []]]) := by rfl

/-- the trailer is recognised behind any data, -/
theorem trailer_detected (d : Bytes) (feature : Nat) :
    hasDataTrailerFeature (appendDataTrailer d feature) feature = true := has_append_trailer d feature

/-- an encoding of a request (anything the writer emits: it ends with STOP) is never mistaken for
carrying one, -/
theorem trailer_absent (sidx : Nat) (obj : GoVal) (bs : Bytes) (feature : Nat)
    (h : write Generated.C11.prog sidx obj = .ok bs) : hasDataTrailerFeature bs feature = false := by
  obtain ⟨x, hx⟩ := write_ends_with_stop sidx obj bs h
  rw [hx]; exact no_trailer_of_stop x feature

/-- and the reader is not disturbed by it: decoding `appendDataTrailer bs f` gives what decoding `bs` gives
(the code never strips the trailer; `FastRead` stops at the request's STOP) -/
theorem trailer_ignored_by_reader (req : GoVal) (bs : Bytes) (feature : Nat)
    (hwt : WT Generated.C11.prog.structs (.struct Generated.C11.requestIdx) req)
    (h : write Generated.C11.prog Generated.C11.requestIdx req = .ok bs) :
    ∃ req', read Generated.C11.prog Generated.C11.requestIdx (appendDataTrailer bs feature) = some req' ∧
      write Generated.C11.prog Generated.C11.requestIdx req' = .ok bs := by
  have := request_roundtrip req bs ([feature] ++ trailerMagic) hwt h
  simpa [appendDataTrailer, List.append_assoc] using this

/-- **supportDataTrailer v ⇔ v ≥ v0.4.2** (pre-release suffix ignored, as the code's comment says) for
every string `vA.B.C` or `vA.B.C-pre` with non-empty decimal `A`, `B`, `C` (leading zeros allowed, any
number of digits — the int64 clamp of `Atoi` does not matter) and arbitrary bytes `pre`. -/
theorem version_gate (a b c : Bytes) (pre : Option Bytes) (ha : IsDigits a) (hb : IsDigits b) (hc : IsDigits c) :
    supportDataTrailer (verString a b c pre) =
      decide (digitsNat a > 0 ∨ (digitsNat a = 0 ∧ (digitsNat b > 4 ∨ (digitsNat b = 4 ∧ digitsNat c ≥ 2)))) := by
  have a0 : atoi a > 0 ↔ digitsNat a > 0 := atoi_digits_lt a ha 0 (by decide)
  have b4 : atoi b > 4 ↔ digitsNat b > 4 := atoi_digits_lt b hb 4 (by decide)
  have b4' : atoi b = 4 ↔ digitsNat b = 4 := atoi_digits_eq b hb 4 (by decide)
  have c2 : atoi c ≥ 2 ↔ digitsNat c ≥ 2 := by
    have := atoi_digits_lt c hc 1 (by decide)
    omega
  rw [supportDataTrailer_verString a b c pre ha hb hc]
  simp only [a0, b4, b4', c2, bne_iff_ne, ne_eq]
  by_cases h1 : digitsNat a > 0
  · simp [h1]
  · have h0 : digitsNat a = 0 := by omega
    by_cases h2 : digitsNat b = 4
    · simp [h0, h2]
    · simp [h0, h2]

/-- the literals the model of `supportDataTrailer` is written with are those of the source today
(`Generated.C11.gate*` are read from plugin/plugin.go with go/parser on every run) -/
theorem gate_constants_match_source :
    [Generated.C11.gateMinLen, Generated.C11.gateMajorGt, Generated.C11.gateMinor, Generated.C11.gateMinorGt,
      Generated.C11.gatePatchGe] = gateConsts := by decide

/-- hypotheses satisfiable: "v0.4.2", "v0.4.2-rc1", "v0.10.0" -/
example : IsDigits [48] ∧ IsDigits [52] ∧ IsDigits [50] := by
  refine ⟨⟨by simp, ?_⟩, ⟨by simp, ?_⟩, ⟨by simp, ?_⟩⟩ <;> intro c hc <;> simp at hc <;> subst hc <;> decide

/-- outside the well-formed strings the gate is not a version comparison (negative witnesses):
"v100.." is accepted, "v0.4.2+meta" (>= v0.4.2 in semver) and "0.5.0" (no 'v') are refused -/
example : supportDataTrailer [118, 49, 48, 48, 46, 46] = true := by decide
example : supportDataTrailer [118, 48, 46, 52, 46, 50, 43, 109, 101, 116, 97] = false := by decide
example : supportDataTrailer [48, 46, 53, 46, 48, 48] = false := by decide

/-- one option as written on the command line: `key` or `key=value` -/
def renderOpt (kv : Bytes × Option Bytes) : Bytes :=
  match kv.2 with
  | none => kv.1
  | some v => kv.1 ++ 61 :: v

/-- **Plugin (and generator) parameters reach the request in command-line order with their content**:
for `name:o1,o2,…` where `name` has no ':', keys have no ',' and no '=', values have no ',' (they may
contain ':' and '='), `ParseCompactArguments` then `Pack` yield `key=value` (`key=` for a bare key) for
every option, in order. -/
theorem params_order (name : Bytes) (kvs : List (Bytes × Option Bytes)) (hne : kvs ≠ [])
    (hname : ∀ c, c ∈ name → c ≠ 58)
    (hkeys : ∀ kv, kv ∈ kvs → ∀ c, c ∈ kv.1 → c ≠ 44 ∧ c ≠ 61)
    (hvals : ∀ kv, kv ∈ kvs → ∀ v, kv.2 = some v → ∀ c, c ∈ v → c ≠ 44) :
    ∃ opts, parseCompact (name ++ 58 :: joinComma (kvs.map renderOpt)) = some (name, opts) ∧
      pack opts = kvs.map (fun kv => kv.1 ++ [61] ++ kv.2.getD []) := by
  have hrender : ∀ x, x ∈ kvs.map renderOpt → ∀ c, c ∈ x → c ≠ 44 := by
    intro x hx c hc
    obtain ⟨kv, hkv, rfl⟩ := List.mem_map.mp hx
    obtain ⟨k, v⟩ := kv
    cases v with
    | none => exact (hkeys _ hkv c (by simpa [renderOpt] using hc)).1
    | some v =>
      simp only [renderOpt, List.mem_append, List.mem_cons] at hc
      rcases hc with hc | rfl | hc
      · exact (hkeys _ hkv c hc).1
      · decide
      · exact hvals _ hkv v rfl c hc
  have hsplit := splitOn_joinComma (kvs.map renderOpt) (by simpa using hne) hrender
  refine ⟨(kvs.map renderOpt).map parseOpt, ?_, ?_⟩
  · have hnonempty : (name ++ 58 :: joinComma (kvs.map renderOpt)).isEmpty = false := by
      cases name <;> simp
    simp only [parseCompact, hnonempty, Bool.false_eq_true, if_false, splitN2_nosep 58 name _ hname, hsplit]
  · simp only [pack, List.map_map]
    apply List.map_congr_left
    intro kv hkv
    obtain ⟨k, v⟩ := kv
    have hk : ∀ c, c ∈ k → c ≠ 61 := fun c hc => (hkeys _ hkv c hc).2
    cases v with
    | none => simp [renderOpt, parseOpt, splitN2_none 61 k hk]
    | some v => simp [renderOpt, parseOpt, splitN2_nosep 61 k v hk]

/-- hypotheses satisfiable, and the literal behaviour on "p:a=1,b": ["a=1", "b="] -/
example : (parseCompact [112, 58, 97, 61, 49, 44, 98]).map (fun x => pack x.2) = some [[97, 61, 49], [98, 61]] := by decide

/-- a ',' inside a value splits it (why the hypothesis is there): "p:a=1,2" gives ["a=1", "2="] -/
example : (parseCompact [112, 58, 97, 61, 49, 44, 50]).map (fun x => pack x.2) = some [[97, 61, 49], [50, 61]] := by decide

/-- **thriftgo fails exactly when the plugin failed**: the outcome of running one plugin is `fail` iff the
process did not exit with status 0 (non-zero exit, killed at the time limit, not started), or its stdout
does not decode as a Response, or the Response carries a non-empty error, or the file manager refuses its
contents — for an error text `errText` that is not empty (the code's wrapped error messages never are). -/
theorem fault_fails (feedOk : List Plugin.Generated → Bool) (run : RunResult) (decoded : Option Response)
    (stdout stderr errText note : Bytes) (he : errText ≠ []) :
    (∃ w, executeOutcome feedOk run decoded stdout stderr errText note = .fail w) ↔
      (run ≠ .exited 0 ∨ decoded = none ∨
        ∃ res, decoded = some res ∧ (res.error.getD [] ≠ [] ∨ feedOk res.contents = false)) := by
  unfold executeOutcome
  rw [step_fail_iff]
  by_cases hr : run = .exited 0
  · subst hr
    cases decoded with
    | none => simp [execute, he]
    | some res => rw [execute_exited_some]; simp
  · simp [execute, hr, he]

/-- **…and otherwise the answer is honoured exactly**: the plugin's contents are what is fed to the file
manager, its warnings are what is shown (plus one line carrying its stderr, if any). -/
theorem answer_honoured (feedOk : List Plugin.Generated → Bool) (res : Response) (stdout stderr errText note : Bytes)
    (h1 : res.error.getD [] = []) (h2 : feedOk res.contents = true) :
    executeOutcome feedOk (.exited 0) (some res) stdout stderr errText note =
      .ok res.contents (if stderr.isEmpty then res.warnings else res.warnings ++ [note ++ stderr]) := by
  unfold executeOutcome
  rw [execute_exited_some]
  simp only [step, h1, h2, ne_eq, not_true_eq_false, if_false, if_true]

/-- warnings are shown even when the run fails: the failing plugin's stdout/stderr, or the warnings of
a Response that carries an error -/
theorem warnings_shown_on_failure (feedOk : List Plugin.Generated → Bool) (res : Response)
    (stdout stderr errText note : Bytes) (h1 : res.error.getD [] ≠ []) (hs : stderr = []) :
    executeOutcome feedOk (.exited 0) (some res) stdout stderr errText note = .fail res.warnings := by
  subst hs
  unfold executeOutcome
  rw [execute_exited_some]
  simp only [step, ne_eq, h1, not_false_eq_true, if_true, List.isEmpty_nil]

/-- **Every `-g` runs exactly the `-p` plugins, each with its own parameters**: however many target
languages there are and whatever `g.plugins` held before, each `Generate` call executes the plugins of the
command line in order, plugin `i` with the parameters of `UsedPlugins[i]`, and never indexes out of range. -/
theorem each_generate_runs_own_plugins {δ : Type} (descs : List δ) (n : Nat) (st : List δ)
    (call : List (δ × Option δ)) (h : call ∈ generateCalls true descs n st) :
    call = descs.map fun d => (d, some d) :=
  List.eq_of_mem_replicate (generateCalls_reset descs n st ▸ h)

/-- **Every execution's `PluginParameters` are exactly the options of its own `-p` argument**, packed in
order — in particular the empty list for a plugin given no options — whatever the shared request held
before (`cur`: left by the previous plugin, an SDK plugin or the previous `-g`), for every number of
target languages. -/
theorem plugin_params_own (descs : List (List Opt)) (n : Nat) (cur : List Bytes) (call : List (List Bytes))
    (h : call ∈ paramsSeenCalls descs n cur) : call = descs.map pack :=
  List.eq_of_mem_replicate (paramsSeenCalls_own descs n cur ▸ h)

/-- an option-less plugin after one with options sees nothing of the latter -/
example : (paramsSeen [[⟨[97], [49]⟩], []] [[120]]).1 = [[[97, 61, 49]], []] := by decide

/-- regression witness (repaired defect): without the reset the second language's loop runs the plugin
twice and indexes `UsedPlugins[1]` out of range — the panic `thriftgo -g go -g go:x -p P` died of -/
example : generateCalls false [7] 2 [] = [[(7, some 7)], [(7, some 7), (7, none)]] := by decide

/-- literal quirk kept by the model: a Response whose `Error` is set to the empty string is not a failure -/
example : executeOutcome (fun _ => true) (.exited 0) (some { error := some [], contents := [], warnings := [] })
    [] [] [1] [] = .ok [] [] := by decide

end Props.C11
