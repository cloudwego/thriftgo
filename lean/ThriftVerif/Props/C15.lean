import ThriftVerif.Lib.ReflectLemmas
import ThriftVerif.Gen.SchemaCheck
import ThriftVerif.Generated.C15Schema
/-
  C15 — reflection descriptors describe the IDL exactly.
  Property theorems over `Lib/Reflect` (model of /repo/thrift_reflection) and the shared codec `Gen.Std`
  at the schema regenerated from descriptor.thrift (`Generated.C15Schema.prog`).
-/
namespace Props.C15
open Reflect Gen Gen.Std

/-! ### tie: the regenerated schema and tables are the ones the model assumes -/

/-- the schema parsed from descriptor.thrift (and cross-checked by the translator against the StructMeta
bytes registered in descriptor.go and the Go struct tags) is the schema `gFile`/`gStruct`/… lay objects out for -/
theorem schema_agrees : Generated.C15Schema.prog = Reflect.descProg := rfl

/-- the regenerated schema satisfies the hypotheses of the shared round-trip theorem -/
theorem schema_ok : SchemaOK Generated.C15Schema.prog := schemaOkB_sound _ (by decide)

/-- ConstValueType numbering: descriptor.thrift = descriptor.go = the model's tags -/
theorem const_value_type_numbering :
    Generated.C15Schema.constValueType = cvtTable ∧ Generated.C15Schema.constValueTypeGo = cvtTable ∧
    cvtTable.map Prod.snd = [cvtDOUBLE, cvtINT, cvtSTRING, cvtBOOL, cvtLIST, cvtMAP, cvtIDENTIFIER] := by decide

theorem requiredness_strings :
    Generated.C15Schema.reqStrings = [Req.dflt.str, Req.required.str, Req.optional.str] := by decide

theorem uuid_key_agrees : Generated.C15Schema.uuidKey = uuidKey := by decide

/- Full statement (FALSE on the model and on the code, see the witness below):
     ∀ f : File, factsOf (describe f) = forget f -/

/-- **describe_faithful (partial)**: for every file whose include base names and annotation keys are pairwise
distinct (namespace languages may repeat: the first statement counts, as for the backends), the descriptor states exactly the facts the IDL states — names, field
ids, requiredness, type expressions with key/value types, defaults and constant values, enum numbers,
annotations with all values, comments, base service, oneway, includes, namespaces. Unbounded in the number
and nesting of definitions. -/
theorem describe_faithful_partial (f : File) (h : f.Canonical) : factsOf (describe f) = forget f :=
  facts_file f h

def exField : Field where
  name := [102]
  id := 1
  req := Reflect.Req.optional
  ty := TyE.mk [105, 51, 50] TyO.none TyO.none
  dflt := some (CV.int 3)
  annos := [⟨[97], [[49], [50]]⟩, ⟨[98], [[]]⟩]
  comments := []

def exFile : File where
  filename := [109]
  includes := [[97, 46, 116, 104, 114, 105, 102, 116], [100, 47, 98, 46, 116, 104, 114, 105, 102, 116]]
  namespaces := [⟨[103, 111], [120]⟩, ⟨[112, 121], [121]⟩]
  typedefs := []
  consts := []
  enums := []
  structs := [{ name := [83], fields := [exField], annos := [], comments := [] }]
  unions := []
  exceptions := []
  services := []

/-- the hypotheses are satisfiable -/
example : exFile.Canonical where
  incl := by decide
  typedefs := nofun
  consts := nofun
  enums := nofun
  structs := List.forall_mem_singleton.mpr
    ⟨List.nodup_nil, List.forall_mem_singleton.mpr (show (exField.annos.map Anno.key).Nodup by decide)⟩
  unions := nofun
  exceptions := nofun
  services := nofun

/-- two includes with equal base name in different directories (`d1/base.thrift`, `d2/base.thrift`) -/
def wInclude : File :=
  { filename := [109], includes := [[100, 49, 47, 98, 97, 115, 101, 46, 116, 104, 114, 105, 102, 116],
                                    [100, 50, 47, 98, 97, 115, 101, 46, 116, 104, 114, 105, 102, 116]],
    namespaces := [], typedefs := [], consts := [], enums := [], structs := [], unions := [], exceptions := [], services := [] }

/-- **negative witness 1**: the `Includes` map is keyed by base name, the first include is lost -/
theorem describe_loses_include :
    (forget wInclude).includes [100, 49, 47, 98, 97, 115, 101, 46, 116, 104, 114, 105, 102, 116] = true ∧
    (factsOf (describe wInclude)).includes [100, 49, 47, 98, 97, 115, 101, 46, 116, 104, 114, 105, 102, 116] = false ∧
    (forget wInclude).includeOf [98, 97, 115, 101] ≠ (factsOf (describe wInclude)).includeOf [98, 97, 115, 101] := by decide

/-- `namespace go a` and `namespace go b` in one file -/
def wNamespace : File :=
  { filename := [109], includes := [], namespaces := [⟨[103, 111], [97]⟩, ⟨[103, 111], [98]⟩],
    typedefs := [], consts := [], enums := [], structs := [], unions := [], exceptions := [], services := [] }

/-- **regression item** (fix `keep the first namespace per language`; without it: negative witness 2): the
descriptor states the first namespace of a language, the one the IDL means and the Go backend uses -/
theorem describe_keeps_first_namespace :
    (forget wNamespace).namespaces [103, 111] = some [97] ∧ (factsOf (describe wNamespace)).namespaces [103, 111] = some [97] := by
  decide

/-- **annotations with all values**: whatever `(k = "v", …)` list the source holds (keys may repeat), the parser's
`Annotations.Append` yields pairwise distinct keys (the hypothesis of `describe_faithful_partial`) and the
descriptor's annotation map gives, for every key, exactly the values written for it, in source order. -/
theorem annotations_keep_all_values (ps : List (Str × Str)) (k : Str) :
    AnnosOK (annosOfPairs ps) ∧
    mapGet (annoMap (annosOfPairs ps)) k = (if valuesOf ps k = [] then none else some (valuesOf ps k)) := by
  refine ⟨annosOfPairs_ok ps, ?_⟩
  rw [annoFacts_annoMap _ (annosOfPairs_ok ps)]
  exact annoFacts_fold ps k []

/-- constant values of every shape are recoverable from their descriptors -/
theorem const_value_faithful (c : CV) : cvOfDesc (descCV c) = c := cvOfDesc_descCV c

/-- type expressions with key/value types are recoverable from their descriptors -/
theorem type_expr_faithful (p : Str) (t : TyE) : tyOfDesc (descTy p t) = t := tyOfDesc_descTy p t

/-- the run-time check of well-typedness (evaluated by the model driver on every descriptor of the
correspondence) implies the hypothesis `WT` of the shared round-trip theorem -/
theorem welltyped_check_sound (S : List StructDef) (ty : Ty) (v : GoVal) (h : wtB S ty v = true) : WT S ty v :=
  wtB_sound S v ty h

/-- **descriptor_roundtrip**: meta.Marshal/Unmarshal as the Thrift binary codec driven by the type meta of
descriptor.thrift — the instance of the shared round-trip theorem `Gen.Std.read_write_roundtrip` at the regenerated schema.
For every file descriptor that Go can hold (`wtB`: ints in range, sizes < 2^31, map keys distinct), in whatever
order the maps are iterated (= the order of the association lists), `Unmarshal` accepts the bytes of `Marshal`
and the object it builds marshals to exactly the same bytes (same fields, same entries). -/
theorem descriptor_roundtrip (fd : FileDesc) (bs : Bytes)
    (hwt : wtB Generated.C15Schema.prog.structs (.struct sFileDescriptor) (gFile fd) = true)
    (h : marshal Generated.C15Schema.prog fd = .ok bs) :
    ∃ obj', unmarshalVal Generated.C15Schema.prog bs = some obj' ∧
      Gen.Std.write (noVal Generated.C15Schema.prog) sFileDescriptor obj' = .ok bs :=
  read_write_roundtrip_read _ schema_ok sFileDescriptor (gFile fd) bs (wtB_sound _ _ _ hwt) h

/-- the hypothesis is satisfiable (and the checker runs in the kernel): the descriptor of `exFile` -/
example : wtB Generated.C15Schema.prog.structs (.struct sFileDescriptor) (gFile (describe exFile)) = true := by decide

/-- **RegisterAST registers the whole include closure**: for an AST whose files are identified by their
Filename, after `RegisterAST` every file reachable through includes (at any depth, through diamonds) is
registered under its Filename with its own (stamped) descriptor. -/
theorem register_closed (uuid : Str) (root b : Ast) (hc : Coh root.subs) (hb : b ∈ root.subs) :
    mapGet (regAST uuid root []) b.file.filename = some (registerUUID uuid (describe b.file)) :=
  regAST_registers uuid root hc b hb

/- Full statement (FALSE when the looking file has two includes with equal base name, witness below):
   the same without `hnd`. -/

/-- **lookup_finds (partial)**: after `RegisterAST(root)`, from any reachable file `b` whose include base names
are pairwise distinct, `LookupStruct/Union/Exception/Enum/Typedef/Const/Service(name, b.Filename)` return the
(registry-stamped) descriptor of exactly the definition the possibly qualified `name` denotes in the IDL — the
file's own definition for an unqualified name, the definition in the include with that prefix for `prefix.Name` —
and nil when the IDL defines no such thing. -/
theorem lookup_finds_partial (W : World) (uuid : Str) (root b : Ast) (name : Str)
    (huuid : uuid ≠ []) (hreg : mapGet W.regs uuid = some (regAST uuid root []))
    (hc : Coh root.subs) (hwf : WFIncl root.subs) (hne : ∀ d ∈ root.subs, d.file.filename ≠ [])
    (hb : b ∈ root.subs) (hnd : (b.file.includes.map baseName).Nodup) (hname : (parseAlias name).2 ≠ []) :
    let gd := mapGet W.regs uuid
    let p := b.file.filename
    lookupIn W gd p name lookStruct =
      (denote b name File.structs StructLike.name).map (fun pd => uuidStruct uuid (descStruct pd.1 pd.2)) ∧
    lookupIn W gd p name lookUnion =
      (denote b name File.unions StructLike.name).map (fun pd => uuidStruct uuid (descStruct pd.1 pd.2)) ∧
    lookupIn W gd p name lookException =
      (denote b name File.exceptions StructLike.name).map (fun pd => uuidStruct uuid (descStruct pd.1 pd.2)) ∧
    lookupIn W gd p name lookEnum =
      (denote b name File.enums Enum.name).map (fun pd => uuidEnum uuid (descEnum pd.1 pd.2)) ∧
    lookupIn W gd p name lookTypedef =
      (denote b name File.typedefs Typedef.alias).map (fun pd => uuidTypedef uuid (descTypedef pd.1 pd.2)) ∧
    lookupIn W gd p name lookConst =
      (denote b name File.consts Const.name).map (fun pd => uuidConst uuid (descConst pd.1 pd.2)) ∧
    lookupIn W gd p name lookService =
      (denote b name File.services Service.name).map (fun pd => uuidService uuid (descService pd.1 pd.2)) := by
  -- each kind is searched by name in a list of the stamped file descriptor, and stamping keeps the name
  refine ⟨?_, ?_, ?_, ?_, ?_, ?_, ?_⟩
  all_goals exact lookup_generic W uuid root b name huuid hreg hc hwf hne hb hnd hname fun _ _ => find?_map_map ..

/-- **lookups from descriptors**: under the hypotheses of `lookup_finds_partial`, (1) the type descriptor of a field,
argument, return type or typedef target of file `b` (stamped by the registry) resolves — `GetStructDescriptor` /
`GetUnionDescriptor` / `GetExceptionDescriptor` — to the definition its type name denotes in `b` (nil for base and
container names); (2) `LookupMethod(method, service, b.Filename)` returns the first method of that name of the service
the (possibly qualified) service name denotes. -/
theorem typedesc_and_method_lookup_finds (W : World) (uuid : Str) (root b : Ast)
    (huuid : uuid ≠ []) (hreg : mapGet W.regs uuid = some (regAST uuid root []))
    (hc : Coh root.subs) (hwf : WFIncl root.subs) (hne : ∀ d ∈ root.subs, d.file.filename ≠ [])
    (hb : b ∈ root.subs) (hnd : (b.file.includes.map baseName).Nodup) (n : Str) (k v : TyO)
    (hname : (parseAlias n).2 ≠ []) :
    let td := uuidTy uuid (descTy b.file.filename (.mk n k v))
    let builtin := isContainer n || isBasic n
    td.getVia W lookStruct = (if builtin then none else
      (denote b n File.structs StructLike.name).map (fun pd => uuidStruct uuid (descStruct pd.1 pd.2))) ∧
    td.getVia W lookUnion = (if builtin then none else
      (denote b n File.unions StructLike.name).map (fun pd => uuidStruct uuid (descStruct pd.1 pd.2))) ∧
    td.getVia W lookException = (if builtin then none else
      (denote b n File.exceptions StructLike.name).map (fun pd => uuidStruct uuid (descStruct pd.1 pd.2))) ∧
    ∀ m : Str, lookupMethod W (mapGet W.regs uuid) b.file.filename n m =
      (denote b n File.services Service.name).bind (fun pd =>
        (pd.2.functions.find? (fun f => f.name = m)).map (fun f => uuidMethod uuid (descMethod pd.1 f))) := by
  have L := lookup_finds_partial W uuid root b n huuid hreg hc hwf hne hb hnd hname
  simp only at L
  obtain ⟨l1, l2, l3, _, _, _, l7⟩ := L
  refine ⟨?_, ?_, ?_, ?_⟩
  · rw [typedesc_stamped W uuid huuid, l1]
  · rw [typedesc_stamped W uuid huuid, l2]
  · rw [typedesc_stamped W uuid huuid, l3]
  · intro m
    have hn0 : n ≠ [] := by intro e; subst e; exact hname parseAlias_snd_nil_of_nil
    rw [lookupMethod_eq W _ _ n m hn0, l7]
    cases denote b n File.services Service.name with
    | none => rfl
    | some pd => exact find?_map_map ..

def emptyFile (n : Str) (incs : List Str) (ss : List StructLike) : File :=
  { filename := n, includes := incs, namespaces := [], typedefs := [], consts := [], enums := [], structs := ss,
    unions := [], exceptions := [], services := [] }

def pD1 : Str := [100, 49, 47, 98, 97, 115, 101, 46, 116, 104, 114, 105, 102, 116]
def pD2 : Str := [100, 50, 47, 98, 97, 115, 101, 46, 116, 104, 114, 105, 102, 116]
def sS : StructLike := { name := [83], fields := [], annos := [], comments := [] }

/-- main includes d1/base.thrift and d2/base.thrift, both define struct S -/
def wRoot : Ast := .mk (emptyFile [109] [pD1, pD2] []) [.mk (emptyFile pD1 [] [sS]) [], .mk (emptyFile pD2 [] [sS]) []]

def wWorld : World := ({ dflt := [], regs := [] } : World).registerAST [85] wRoot

/-- **negative witness 3**: with two includes of equal base name, `base.S` looked up from main is the `S` of the
*last* such include, while in the IDL it is the `S` of the first -/
theorem lookup_collision_witness :
    ((lookupIn wWorld (mapGet wWorld.regs [85]) [109] [98, 97, 115, 101, 46, 83] lookStruct).map (·.filepath)) = some pD2 ∧
    ((denote wRoot [98, 97, 115, 101, 46, 83] File.structs StructLike.name).map (·.1)) = some pD1 := by decide

/-- lookups by field name and by field id return the descriptor of the first field with that name / id -/
theorem field_lookup_finds (p : Str) (s : StructLike) (n : Str) (i : Int) :
    (descStruct p s).fieldByName n = (s.fields.find? (fun f => f.name = n)).map (descField p) ∧
    (descStruct p s).fieldById i = (s.fields.find? (fun f => f.id = i)).map (descField p) ∧
    ∀ (sv : Service), (descService p sv).methodByName n = (sv.functions.find? (fun f => f.name = n)).map (descMethod p) :=
  ⟨List.find?_map .., List.find?_map .., fun _ => List.find?_map ..⟩

/-- **regression item** (fix `stamp c.Type`; without it: negative witness 4): the type descriptor of a constant
carries the uuid of the registry the constant lives in, so `c.Type.GetStructDescriptor()` (and the other getters)
resolve there — to what the type name denotes, by `typedesc_and_method_lookup_finds`. -/
theorem const_type_registered {α : Type} (W : World) (uuid p : Str) (huuid : uuid ≠ []) (c : Const)
    (look : FileDesc → Str → Option α) :
    (uuidConst uuid (descConst p c)).ty.getVia W look =
      (if isContainer c.ty.1 || isBasic c.ty.1 then none
       else lookupIn W (mapGet W.regs uuid) p c.ty.1 look) := by
  rw [const_type_stamped]
  cases c.ty with
  | mk n k v => exact typedesc_stamped W uuid huuid p n k v look

/- Full statement: every generated Go type maps to its own descriptor and back. The Go side (that the
`reflect.Type`s of the generated types are pairwise distinct) is outside Lean — and false for typedefs, which
thriftgo emits as Go type aliases (witness below). -/

/-- **gotype_bijection (partial, registry model)**: if the type list of the generated file has one pairwise distinct
entry per struct-like, enum and typedef (in the order `Structs ++ Unions ++ Exceptions`, `Enums`, `Typedefs`), then after
`registerGoTypes` the i-th type maps to the i-th descriptor of its group, and the pairing descriptor ↔ type is
positional (so it is a bijection). -/
theorem gotype_bijection_partial {τ : Type} [DecidableEq τ] (fd : FileDesc) (tys : List τ) (hn : tys.Nodup)
    (sl : List StructDesc) (hsl : sl = fd.structs ++ fd.unions ++ fd.exceptions)
    (hl : tys.length = sl.length + fd.enums.length + fd.typedefs.length) :
    (∀ (i : Nat) (t : τ), i < sl.length → tys[i]? = some t → byGoType (registerGoTypes fd tys).structOf t = sl[i]?) ∧
    (∀ (i : Nat) (t : τ), i < fd.enums.length → tys[sl.length + i]? = some t →
      byGoType (registerGoTypes fd tys).enumOf t = fd.enums[i]?) ∧
    (∀ (i : Nat) (t : τ), i < fd.typedefs.length → tys[sl.length + fd.enums.length + i]? = some t →
      byGoType (registerGoTypes fd tys).typedefOf t = fd.typedefs[i]?) := by
  subst hsl
  exact ⟨fun i t h ht => byGoType_window tys hn 0 _ i t h (by rwa [Nat.zero_add]),
    fun i t h ht => byGoType_window tys hn _ fd.enums i t h ht,
    fun i t h ht => byGoType_window tys hn _ fd.typedefs i t h ht⟩

def tdA : TypedefDesc := { filepath := [109], ty := .mk [109] [83] .none .none none, alias := [65], annos := [], comments := [], extra := none }
def tdB : TypedefDesc := { tdA with alias := [66] }

/-- **negative witness 5**: `typedef S A` and `typedef S B` are Go aliases of the same type (token 7 twice): the
registry answers `B` for both -/
theorem gotype_alias_witness :
    ((byGoType (registerGoTypes { (describe (emptyFile [109] [] [])) with typedefs := [tdA, tdB] } [7, 7]).typedefOf 7).map (·.alias)) =
      some [66] := by decide

end Props.C15
