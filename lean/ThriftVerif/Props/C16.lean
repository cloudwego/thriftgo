import ThriftVerif.Lib.TrimLemmas
/-!
  C16 — trimming keeps exactly what kept services need; meaning is unchanged.
  Model: `Trim` (Lib/Trim.lean) = tool/trimmer/trim {mark.go, pre-process.go, traversal.go, trimmer.go}.
  `(markAST p cfg).marks` is `Trimmer.marks` after `markAST`; `crash = false` says that no fuel of the
  include-tree / extends-chain recursions ran out (true whenever includes and `extends` are acyclic).
-/
namespace Props.C16
open Trim

/-- The DFS fuel `fuelN p` (= number of nodes + 1) never truncates a visit: the final mark set is
closed — every marked struct-like has the targets of all its field types marked, every marked
typedef the targets of its target type.  No hypothesis. -/
theorem fuel_suffices (p : Program) (cfg : Cfg) : Closed p (markAST p cfg).marks :=
  (markAST_inv p cfg).m.closed

/-- More fuel than `fuelN p` changes nothing: the fuel is a proof device, not a restriction of the DFS. -/
theorem fuel_independent (p : Program) (M : Marks) (n : Node) (hn : n ∈ allNodes p) (d : Nat) :
    visit p (fuelN p + d) M n = visit p (fuelN p) M n :=
  visit_fuel_ge p M n hn d

/-- mark_sound (nothing needed is removed): every node of the least set `Reach` — what kept functions,
constants, typedefs and preserved struct-likes name, closed under field types, container elements,
typedef targets and includes — is marked. -/
theorem mark_sound (p : Program) (cfg : Cfg) (hc : (markAST p cfg).crash = false) (hu : UniqueSvcFn p) :
    ∀ n, Reach p cfg (markAST p cfg).marks n → n ∈ (markAST p cfg).marks :=
  fun _ h => reach_marked p cfg hc hu h

/-- mark_exact (everything else is removed): a marked struct-like, enum or typedef is in `Reach`;
preserved struct-likes are roots of `Reach`.  No hypothesis. -/
theorem mark_exact (p : Program) (cfg : Cfg) :
    ∀ n ∈ (markAST p cfg).marks, n.isDecl = true → Reach p cfg (markAST p cfg).marks n :=
  (markAST_inv p cfg).m.just

/-- always_kept: `traversal` never touches enums, typedefs and constants of a file, and
keeps every marked include and every marked struct-like. -/
theorem always_kept (p : Program) (cfg : Cfg) (ms : List Bytes) (st : St) (f : Nat) :
    (∀ i inc, (p.file f).includes[i]? = some inc → Node.inc f i ∈ st.marks →
      inc ∈ (sweepFile p cfg ms st f (p.file f)).includes) ∧
    (∀ k s, s ∈ (p.file f).sl k → Node.sl f k s.name ∈ st.marks → s ∈ (sweepFile p cfg ms st f (p.file f)).sl k) ∧
    (sweepFile p cfg ms st f (p.file f)).enums = (p.file f).enums ∧
    (sweepFile p cfg ms st f (p.file f)).typedefs = (p.file f).typedefs ∧
    (sweepFile p cfg ms st f (p.file f)).consts = (p.file f).consts := by
  refine ⟨?_, ?_, rfl, rfl, rfl⟩
  · intro i inc hi hm
    simp only [sweepFile, List.mem_map, List.mem_filter]
    exact ⟨(inc, i), ⟨List.mem_zipIdx_iff_getElem?.mpr hi, keepInc_of_mem p hm⟩, rfl⟩
  · intro k s hs hm
    exact (mem_sweep_sl p cfg ms st f k s).mpr ⟨hs, by simp [keepSL, hm]⟩

/-- wire_unchanged at model level: a struct-like that survives `traversal` is literally one of the original
struct-likes (same fields, ids, types; the recomputation of include indices comes after, see
`bindings_preserved`); a surviving service keeps its name and only original functions. -/
theorem kept_bodies_unchanged (p : Program) (cfg : Cfg) (ms : List Bytes) (st : St) (f : Nat) :
    (∀ k s, s ∈ (sweepFile p cfg ms st f (p.file f)).sl k → s ∈ (p.file f).sl k) ∧
    (∀ svc' ∈ (sweepFile p cfg ms st f (p.file f)).services, ∃ svc ∈ (p.file f).services,
      svc'.name = svc.name ∧ ∀ fn ∈ svc'.fns, fn ∈ svc.fns) := by
  refine ⟨fun k s hs => ((mem_sweep_sl p cfg ms st f k s).mp hs).1, ?_⟩
  intro svc' hsvc'
  obtain ⟨svc, h1, _, rfl⟩ := (mem_sweep_services p cfg ms st f svc').mp hsvc'
  refine ⟨svc, h1, (sweepSvc_fns _ _ _ _ _).2, ?_⟩
  intro fn hfn
  rw [(sweepSvc_fns _ _ _ _ _).1] at hfn
  split at hfn
  · exact hfn
  · exact (List.mem_filter.mp hfn).1

/-- trim_resolves, type part: whatever survives in an included file — constants, typedefs, fields of
kept struct-likes, arguments/results/exceptions of kept functions — names only marked nodes, which
by `always_kept` survive: no kept node refers to a deleted definition or a deleted include. -/
theorem kept_refs_kept (p : Program) (cfg : Cfg) (hc : (markAST p cfg).crash = false) (hu : UniqueSvcFn p) (hl : UniqueSL p)
    (f : Nat) (hr : InclReach p f) :
    (∀ c ∈ (sweepFile p cfg (effMethods p cfg) (markAST p cfg) f (p.file f)).consts, ∀ x ∈ tyTargets p f c.ty, x ∈ (markAST p cfg).marks) ∧
    (∀ t ∈ (sweepFile p cfg (effMethods p cfg) (markAST p cfg) f (p.file f)).typedefs, ∀ x ∈ tyTargets p f t.ty, x ∈ (markAST p cfg).marks) ∧
    (∀ k, ∀ s ∈ (sweepFile p cfg (effMethods p cfg) (markAST p cfg) f (p.file f)).sl k, ∀ fd ∈ s.fields,
      ∀ x ∈ tyTargets p f fd.ty, x ∈ (markAST p cfg).marks) ∧
    (∀ svc ∈ (sweepFile p cfg (effMethods p cfg) (markAST p cfg) f (p.file f)).services, ∀ fn ∈ svc.fns, ∀ ty ∈ fn.types,
      ∀ x ∈ tyTargets p f ty, x ∈ (markAST p cfg).marks) :=
  kept_types p cfg hc hu hl f hr fun _ h => h

/-- trim_resolves, "same definition as before": in the trimmed program (deleted nodes gone, include
indices recomputed) every type of every surviving node of an included file names exactly the nodes it
named before, include marks renumbered by `renNode` — `ResolveType` would bind it to the same
definitions.  (`(trimProg p cfg).file f` consists of `renFile` applied to `sweepFile …`, i.e. of these
types after `renTy`.) -/
theorem bindings_preserved (p : Program) (cfg : Cfg) (hc : (markAST p cfg).crash = false) (hu : UniqueSvcFn p) (hl : UniqueSL p)
    (f : Nat) (hr : InclReach p f) :
    (∀ c ∈ (sweepFile p cfg (effMethods p cfg) (markAST p cfg) f (p.file f)).consts,
      tyTargets (trimProg p cfg) f (renTy (keepFlags p (markAST p cfg).marks f) c.ty) =
        (tyTargets p f c.ty).map (renNode p (markAST p cfg).marks)) ∧
    (∀ t ∈ (sweepFile p cfg (effMethods p cfg) (markAST p cfg) f (p.file f)).typedefs,
      tyTargets (trimProg p cfg) f (renTy (keepFlags p (markAST p cfg).marks f) t.ty) =
        (tyTargets p f t.ty).map (renNode p (markAST p cfg).marks)) ∧
    (∀ k, ∀ s ∈ (sweepFile p cfg (effMethods p cfg) (markAST p cfg) f (p.file f)).sl k, ∀ fd ∈ s.fields,
      tyTargets (trimProg p cfg) f (renTy (keepFlags p (markAST p cfg).marks f) fd.ty) =
        (tyTargets p f fd.ty).map (renNode p (markAST p cfg).marks)) ∧
    (∀ svc ∈ (sweepFile p cfg (effMethods p cfg) (markAST p cfg) f (p.file f)).services, ∀ fn ∈ svc.fns, ∀ ty ∈ fn.types,
      tyTargets (trimProg p cfg) f (renTy (keepFlags p (markAST p cfg).marks f) ty) =
        (tyTargets p f ty).map (renNode p (markAST p cfg).marks)) :=
  bindings p cfg hc hu hl f hr

/-- services_nofilter: without -m every root service is marked, and every marked service is complete:
all its functions are marked and, when it extends a service of another file, that include and that
base service are marked; when it extends a service of its own file, that one is marked (so the whole
extends chain survives). -/
theorem services_nofilter (p : Program) (cfg : Cfg) (hm : cfg.methods = []) (hu : UniqueSvcFn p)
    (hc : (markAST p cfg).crash = false) :
    (∀ svc ∈ (p.file 0).services, Node.svc 0 svc.name ∈ (markAST p cfg).marks) ∧
    (∀ f svc, svc ∈ (p.file f).services → Node.svc f svc.name ∈ (markAST p cfg).marks → SvcOK p (markAST p cfg).marks f svc) :=
  (nofilter_final p cfg hm hu hc).symm.imp_right fun h _ _ => h.svcOK

/-- always_kept, reachability part: a file that declares a constant or a typedef is still reachable
from the root through the includes `traversal` keeps (so, with `always_kept`, every constant and
typedef of the program survives). -/
theorem consts_typedefs_reachable (p : Program) (cfg : Cfg) (hc : (markAST p cfg).crash = false) (f : Nat)
    (hr : InclReach p f) (hct : hasCT p f = true) : KeptReach p (markAST p cfg).marks f :=
  ct_kept_reach p cfg hc hr hct

/-- method_filter, "only matching methods remain": with -m every marked function `n` (only marked
functions survive `traversal`) is matched by a pattern under the name of some service `fa`:
`rx pat (fa ++ "." ++ n)`.  The other direction ("a matching method of a root service remains") is
checked by the oracle only. -/
theorem method_filter (p : Program) (cfg : Cfg) (hne : cfg.methods ≠ []) :
    ∀ f s n, Node.fn f s n ∈ (markAST p cfg).marks →
      ∃ fa, hitLoose cfg (effMethods p cfg) (dot fa n) = true :=
  method_filter_sound p cfg hne

/-- trim_resolves, service part, without -m: a kept service that extends a service of another file
keeps that include and that base service; a kept service (of any file) that extends a service of its
own file keeps it (the latter since the repair 9f1b8cf of `markService`).  With -m the `extends` of a
kept service is either cut by `cleanServiceExtends` or its base is kept; that case is covered by the
correspondence and the oracle only. -/
theorem trim_resolves_partial (p : Program) (cfg : Cfg) (hm : cfg.methods = []) (hu : UniqueSvcFn p)
    (hc : (markAST p cfg).crash = false) :
    (∀ f svc, svc ∈ (p.file f).services → Node.svc f svc.name ∈ (markAST p cfg).marks → svc.ext ≠ [] →
      ∀ rn i g b, svc.ref = some (rn, i) → p.incTarget f i = some g → findSvc p g rn = some b →
        Node.inc f i ∈ (markAST p cfg).marks ∧ Node.svc g b.name ∈ (markAST p cfg).marks) ∧
    (∀ f svc, svc ∈ (p.file f).services → Node.svc f svc.name ∈ (markAST p cfg).marks → svc.ext ≠ [] →
      svc.ref = none → ∀ b, findSvc p f svc.ext = some b → Node.svc f b.name ∈ (markAST p cfg).marks) := by
  obtain ⟨_, h2⟩ := services_nofilter p cfg hm hu hc
  refine ⟨fun f svc hs hmk he rn i g b hr hg hb => ?_, fun f svc hs hmk he hr b hb => (h2 f svc hs hmk).2.2 he hr b hb⟩
  have := (h2 f svc hs hmk).2.1 he rn i g hr hg
  exact ⟨this.1, this.2 b hb⟩

/-- Regression item (defect 1, repaired in /repo by 9f1b8cf; the counterexample that checks/c16.py and
docs/C16.md call `base_service_dropped`): `f0: include "f1.thrift"; service V0 extends f1.V2 {}` and
`f1: service V1 {}; service V2 extends V1 {}`, no -m.  File 1 keeps both services, `V1` resolves,
and trimming again changes nothing. -/
theorem base_service_kept_regression :
    (markAST progA cfg0).crash = false ∧
    ((trimProg progA cfg0).file 1).services = [⟨[86, 49], [], none, []⟩, ⟨[86, 50], [86, 49], none, []⟩] ∧
    findSvc (trimProg progA cfg0) 1 [86, 49] ≠ none ∧
    trimProg (trimProg progA cfg0) cfg0 = trimProg progA cfg0 := by
  rw [trimA]
  exact ⟨by decide, rfl, by decide, trimA⟩

/-- Counterexamples to trim_idempotent with -m for the code before the repairs 2a27bf5, f60233a, b2543cf
of /repo (`Fix` all false; oracle class `not-idempotent`).
(2) `service V0 {}  service V1 extends V0 { void putAll() }`, `-m V1.put`: the first trim keeps `putAll`
(traceExtendMethod matches without the prefix rule) and cuts `extends`; the second removes the service.
(3) `service V0 extends f1.V2 {}  service V1 extends V0 {}`, `f1: service V2 { void m0() }`, `-m ^V1\.m0$`:
`V0` loses its `extends` although `V1` inherits `m0` through it; a second trim differs.
(4) `service V0 extends f1.V1 { void m0() }`, `-m V0.m0`: the include of the cut base survives the first
trim only. -/
theorem not_idempotent_with_methods :
    ((trimProg progB (cfgB fixOff)).file 0).services = [⟨[86, 49], [], none, [⟨[112, 117, 116, 65, 108, 108], [], [], none⟩]⟩] ∧
    ((trimProg (trimProg progB (cfgB fixOff)) (cfgB fixOff)).file 0).services = [] ∧
    ((trimProg progC (cfgC fixOff)).file 0).services = [⟨[86, 48], [], none, []⟩, ⟨[86, 49], [86, 48], none, []⟩] ∧
    trimProg (trimProg progC (cfgC fixOff)) (cfgC fixOff) ≠ trimProg progC (cfgC fixOff) ∧
    ((trimProg progD (cfgD fixOff)).file 0).includes.length = 1 ∧
    ((trimProg (trimProg progD (cfgD fixOff)) (cfgD fixOff)).file 0).includes.length = 0 := by
  decide

/-- Regression items for the three repairs (`Fix` all true): on the witnesses above a second
trim is the identity; `V1.putAll` is not kept by `-m V1.put`, `V0` keeps `extends f1.V2`, the include of
the cut base is removed at once. -/
theorem repaired_witnesses :
    trimProg (trimProg progB (cfgB fixOn)) (cfgB fixOn) = trimProg progB (cfgB fixOn) ∧
    ((trimProg progB (cfgB fixOn)).file 0).services = [] ∧
    trimProg (trimProg progC (cfgC fixOn)) (cfgC fixOn) = trimProg progC (cfgC fixOn) ∧
    ((trimProg progC (cfgC fixOn)).file 0).services =
      [⟨[86, 48], [102, 49, 46, 86, 50], some ([86, 50], 0), []⟩, ⟨[86, 49], [86, 48], none, []⟩] ∧
    trimProg (trimProg progD (cfgD fixOn)) (cfgD fixOn) = trimProg progD (cfgD fixOn) ∧
    ((trimProg progD (cfgD fixOn)).file 0).includes = [] := by
  -- each trim is evaluated once, on a literal program: inside `trimProg (trimProg w c) c` the inner
  -- trim would be run again at every access of the outer one
  rw [trimB_on.1, trimC_on, trimD_on.1]
  exact ⟨trimB_on.2, rfl, trimC_on, rfl, trimD_on.2, rfl⟩

/-- The hypotheses of the theorems above are satisfiable (a root with one service and one struct). -/
example : UniqueSvcFn ⟨[⟨[102], [], [], [], [], [⟨[83], [], false⟩], [], [], [⟨[86], [], none, []⟩]⟩]⟩ := by
  intro f
  match f with
  | 0 => simp [Program.file]
  | n+1 => simp [Program.file, emptyFile]

end Props.C16
