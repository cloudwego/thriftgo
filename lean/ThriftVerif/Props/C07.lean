import ThriftVerif.Lib.Determinism
import ThriftVerif.Lib.DeterminismLemmas
import ThriftVerif.Generated.C07Sites
/-
  C07 — code generation is deterministic.

  Every consumer of Go map iteration takes the entries in the order the runtime picked; a consumer is
  deterministic iff its result is invariant under `List.Perm` of that order.  One theorem per class
  of consumer, a classification of every site of the regenerated inventory into one class
  (`site_inventory_covered`, re-checked against /repo on every run), and — for the class that writes
  entries in iteration order — the proof that the result is *not* invariant: no site may be of that class
  (`emit_in_order_sites`); the three writers that sort before they write are the repairs of C07 defects 1–3
  (docs/C07.md).
-/
namespace Props.C07
open Determinism Generated.C07

/-! ## class `intoMap`: the loop stores each entry into another map -/

/-- Storing entries with pairwise-distinct keys into a map gives the same map (same value for every
key) whatever the order. -/
theorem perm_into_map {κ ν} [DecidableEq κ] (dst es₁ es₂ : List (κ × ν)) (hp : es₁.Perm es₂)
    (hn : (es₁.map Prod.fst).Nodup) :
    ∀ k, aLookup k (intoMap dst es₁) = aLookup k (intoMap dst es₂) := fun k => by
  rw [aLookup_intoMap k _ _ hn, aLookup_intoMap k _ _ ((hp.map _).nodup_iff.1 hn), aLookup_get.perm hp.symm hn]

example : (([(1, 10), (2, 20)] : List (Nat × Nat)).map Prod.fst).Nodup := by decide

/-- … and the hypothesis is needed: with a repeated key the last store wins. -/
theorem perm_into_map_needs_distinct_keys :
    ¬ ∀ (dst es₁ es₂ : List (Nat × Nat)), es₁.Perm es₂ →
        ∀ k, aLookup k (intoMap dst es₁) = aLookup k (intoMap dst es₂) := by
  intro h
  have := h [] [(1, 10), (1, 20)] [(1, 20), (1, 10)] (List.Perm.swap _ _ _) 1
  revert this
  decide

/-! ## class `nsAdd`: importManager.init registers its table through (*namespace).Add -/

/-- Adding pairwise-distinct names with pairwise-distinct ids to an empty namespace never renames,
and yields the same two maps in whatever order the entries are visited. -/
theorem ns_add_comm (rename : Bytes → Nat → Bytes) (es₁ es₂ : List (Bytes × Bytes)) (hp : es₁.Perm es₂)
    (hnames : (es₁.map Prod.fst).Nodup) (hids : (es₁.map Prod.snd).Nodup) :
    ∃ ns₁ ns₂, NS.addAll rename NS.empty es₁ = some ns₁ ∧ NS.addAll rename NS.empty es₂ = some ns₂ ∧
      (∀ k, aLookup k ns₁.name2id = aLookup k ns₂.name2id) ∧
      (∀ k, aLookup k ns₁.id2name = aLookup k ns₂.id2name) := by
  have hnames₂ := (hp.map Prod.fst).nodup_iff.1 hnames
  have hids₂ := (hp.map Prod.snd).nodup_iff.1 hids
  refine ⟨_, _, addAll_distinct rename es₁ .empty hnames hids, addAll_distinct rename es₂ .empty hnames₂ hids₂,
    aLookup_get.perm hp hnames₂, aLookup_get.perm (hp.map _) ?_⟩
  show ((es₂.map fun e => (e.2, e.1)).map Prod.fst).Nodup
  rw [List.map_map]
  exact hids₂

/-- regenerated obligation: the table `std` of importManager.init has pairwise-distinct package
names and pairwise-distinct import paths (so `ns_add_comm` applies to it as long as no
`thrift_import_path` / `use_package` replacement maps two of the paths to one). -/
theorem std_imports_distinct :
    (stdImports.map Prod.fst).Nodup ∧ (stdImports.map Prod.snd).Nodup := by decide +kernel

/-! ## class `sortThen`: the loop collects, the result is sorted by a key -/

/-- Sorting by a key that totally orders the keys and is injective on the collected elements gives
one result for every order of collection (ServiceThrows: key = Go type name, the map's own key;
go/format over one import block: key = import path). -/
theorem perm_then_sort {α κ} (key : α → κ) (leK : κ → κ → Bool)
    (tot : ∀ a b, leK a b = false → leK b a = true)
    (tr : ∀ a b c, leK a b = true → leK b c = true → leK a c = true)
    (anti : ∀ a b, leK a b = true → leK b a = true → a = b)
    (es₁ es₂ : List α) (hp : es₁.Perm es₂) (hn : (es₁.map key).Nodup) :
    sortedBy (fun a b => leK (key a) (key b)) es₁ = sortedBy (fun a b => leK (key a) (key b)) es₂ :=
  sortedBy_perm_eq (fun a b => leK (key a) (key b)) (fun _ _ => tot _ _) (fun _ _ _ => tr _ _ _) hp
    fun _ _ ha hb h₁ h₂ => List.inj_of_nodup_map key hn ha hb (anti _ _ h₁ h₂)

/-- the instance used for Go strings: `bytesLe` is a total order -/
theorem perm_then_sort_strings {α} (key : α → Bytes) (es₁ es₂ : List α) (hp : es₁.Perm es₂)
    (hn : (es₁.map key).Nodup) :
    sortedBy (fun a b => bytesLe (key a) (key b)) es₁ = sortedBy (fun a b => bytesLe (key a) (key b)) es₂ :=
  sortedBy_perm_of_le _ key (fun _ _ => bytesLe_iff _ _) hp fun _ _ => List.inj_of_nodup_map key hn

/-- regenerated obligation: ServiceThrows sorts by exactly the key it deduplicated by — the map key is
`string(e.GoTypeName())`, the comparator is `e.GoTypeName().String() < e.GoTypeName().String()` and
`(TypeName).String` is the identity conversion — so the sort key is injective on the collected
exceptions (they are the values of a map keyed by it) and `service_throws_perm` applies. A comparator
over anything coarser (say the type name without its package qualifier) breaks this. -/
theorem service_throws_sorts_by_dedup_key :
    serviceThrowsDedupKey = "string(e.GoTypeName())" ∧
    serviceThrowsLess = ("e.GoTypeName().String()", "<", "e.GoTypeName().String()") ∧
    typeNameString = "string(tn)" := ⟨rfl, rfl, rfl⟩

/-- ServiceThrows: entries (Go type name, exception) of the map `fm`, collected in iteration order,
sorted by the type name: one list for every order. -/
theorem service_throws_perm {ν} (es₁ es₂ : List (Bytes × ν)) (hp : es₁.Perm es₂) (hn : (es₁.map Prod.fst).Nodup) :
    sortedBy (fun a b => bytesLe a.1 b.1) es₁ = sortedBy (fun a b => bytesLe a.1 b.1) es₂ :=
  perm_then_sort_strings Prod.fst es₁ es₂ hp hn

/-- … and the key must be injective: sorting (package-qualified name, bare name) pairs by the bare name
keeps `billing.Rejected` / `storage.Rejected` in the order they came. -/
theorem service_throws_bare_name_insufficient :
    sortedBy (fun a b : Bytes × Bytes => bytesLe a.2 b.2) [([98, 46, 82], [82]), ([115, 46, 82], [82])] ≠
    sortedBy (fun a b : Bytes × Bytes => bytesLe a.2 b.2) [([115, 46, 82], [82]), ([98, 46, 82], [82])] := by decide

/-- regenerated obligation: fastgo's getSortedFields orders by the field id (unique within a struct: C04). -/
theorem sorted_fields_sorts_by_id : sortedFieldsLess = ("e.ID", "<", "e.ID") := rfl

/-! ## a consumer that is order-sensitive by design: output names, first come first served -/

/-- two IDLs that map to one output file: whichever is rendered first keeps the name. -/
theorem feed_rename_order_sensitive :
    feedRename [120] [[1], [2]] ≠ (feedRename [120] [[2], [1]]) ∧
    ¬ (feedRename [120] [[1], [2]]).Perm (feedRename [120] [[2], [1]]) := by decide

/-- regenerated obligation: the loops that render one IDL per iteration — `(*GoBackend).executeTemplates`
(calls renderOneFile) and `(*FastGoBackend).Generate` (calls GenerateOne) — range over a channel (the
DepthFirstSearch sequence), not over a map. This is the only reason `feed_rename_order_sensitive` does no
harm: no permutation-invariance theorem covers Feed's renaming, so a map here is a defect whatever its class. -/
theorem render_loops_range_over_the_dfs_sequence :
    renderLoops = [("generator/fastgo", "(*FastGoBackend).Generate", "chan"),
                   ("generator/golang", "(*GoBackend).executeTemplates", "chan")] := rfl

/-! ## class `filter`: the loop deletes the entries that fail a per-entry test -/

/-- The same entries survive whatever the order of the visit (a Go map is determined by its entries). -/
theorem perm_filter {α} (keep : α → Bool) (es₁ es₂ : List α) (hp : es₁.Perm es₂) :
    (keepOnly keep es₁).Perm (keepOnly keep es₂) ∧ ∀ e, e ∈ keepOnly keep es₁ ↔ e ∈ keepOnly keep es₂ :=
  ⟨hp.filter keep, fun _ => (hp.filter keep).mem_iff⟩

/-! ## class `firstError`: the loop returns the first failing entry's error -/

/-- Whether the loop fails does not depend on the order (which error text it reports does). -/
theorem perm_any {α} (bad : α → Bool) (es₁ es₂ : List α) (hp : es₁.Perm es₂) :
    anyFails bad es₁ = anyFails bad es₂ := hp.any_eq

/-! ## class `sum`: the loop adds up sizes -/

theorem perm_sum {α} (f : α → Nat) (es₁ es₂ : List α) (hp : es₁.Perm es₂) :
    sumOver f es₁ = sumOver f es₂ :=
  hp.foldl_eq' (fun _ _ _ _ _ => Nat.add_right_comm ..) 0

/-! ## class `replacer`: the loop builds the argument list of strings.NewReplacer -/

/-- With old strings none of which is a prefix of another pair's, the generic replacement algorithm
gives the same text for every order of the pairs. -/
theorem replacer_perm (pairs₁ pairs₂ : List (Bytes × Bytes)) (hp : pairs₁.Perm pairs₂)
    (hf : PrefixFree pairs₁) (s : Bytes) : replace pairs₁ s = replace pairs₂ s :=
  replaceAux_perm hp hf s 0

/-- Keys of the shape matched by `insertReg` end in `)`, which their alphabet excludes: one is a
prefix of another only if they are equal. -/
theorem insertion_keys_prefix_free (k₁ k₂ : Bytes) (h₁ : IsInsertionKey k₁) (h₂ : IsInsertionKey k₂)
    (hp : k₁ <+: k₂) : k₁ = k₂ := insertionKey_prefix_eq h₁ h₂ hp

/-- BuildResponse: for the table built from the file's own insertion points and from patches whose
point names use the insertion-point alphabet, the file content after replacement is the same for
every order in which `range p.m` visits the table. -/
theorem insertion_replace_perm (content : Bytes) (patches : List (Bytes × Bytes))
    (hnames : ∀ p ∈ patches, ∀ c ∈ p.1, isKeyChar c = true)
    (order : List (Bytes × Bytes)) (hp : (ipTable content patches).Perm order) :
    ipReplace order content = ipReplace (ipTable content patches) content :=
  (replaceAux_perm hp (tableOK_prefixFree (tableOK_ipTable content patches hnames)) content 0).symm

example : ∀ p ∈ [(([105, 109, 112, 111, 114, 116, 115] : Bytes), ([120] : Bytes))], ∀ c ∈ p.1, isKeyChar c = true := by
  decide

/-- … and the hypothesis on patch names is needed: a plugin-supplied point name containing `)` can
make one key a prefix of another, and then the order decides.
Point `a)b` against a file that contains `@@thriftgo_insertion_point(a)b)`. -/
theorem insertion_replace_needs_key_alphabet :
    let content := insertionPoint [97, 41, 98]
    let t := ipTable content [([97, 41, 98], [88])]
    ipReplace t content ≠ ipReplace t.reverse content := by decide

/-! ## class `sortThen`, continued: three writers that collect the entries, sort them, then write

`meta.write` (descriptor bytes of `*-reflection.go`), `(*Thrift).FastAppend` (request sent to
plugins) and fastgo's `(*codewriter).Imports`. -/

/-- descriptor bytes: a map field is written identically for every iteration order — entries are
sorted by encoded key, then encoded value, so not even distinct keys are needed. -/
theorem descriptor_bytes_perm (fid : Nat) (es₁ es₂ : List (Bytes × Bytes)) (hp : es₁.Perm es₂) :
    encMapFieldSorted fid es₁ = encMapFieldSorted fid es₂ := by
  unfold encMapFieldSorted
  rw [sortedBy_byEncodedKey_perm hp]

/-- … and so is the whole marshalled FileDescriptor, whatever orders its two maps are visited in. -/
theorem file_descriptor_perm (path : Bytes) (inc₁ inc₂ ns₁ ns₂ : List (Bytes × Bytes))
    (hi : inc₁.Perm inc₂) (hs : ns₁.Perm ns₂) :
    encFileDescriptorSorted path inc₁ ns₁ = encFileDescriptorSorted path inc₂ ns₂ := by
  unfold encFileDescriptorSorted
  rw [sortedBy_byEncodedKey_perm hi, sortedBy_byEncodedKey_perm hs]

/-- … and a map constant / map default of the descriptor (`ConstValueDescriptor.ValueMap`, keyed by
pointer: entries may have keys of equal content), for every iteration order and any entries. -/
theorem const_map_bytes_perm (es₁ es₂ : List (Bytes × Bytes)) (hp : es₁.Perm es₂) :
    encCVMap es₁ = encCVMap es₂ := by
  unfold encCVMap
  rw [sortedBy_byEncodedCV_perm hp, hp.length_eq]

/-- request sent to plugins: `Name2Category` is written identically for every iteration order. -/
theorem plugin_request_perm (es₁ es₂ : List (Bytes × Nat)) (hp : es₁.Perm es₂)
    (hn : (es₁.map Prod.fst).Nodup) : encName2Category es₁ = encName2Category es₂ := by
  unfold encName2Category
  rw [perm_then_sort_strings Prod.fst es₁ es₂ hp hn]

/-- fastgo's import block: two groups, each sorted by path — one block for every iteration order
(with or without go/format). -/
theorem fastgo_imports_perm (es₁ es₂ : List (Bytes × Bytes)) (hp : es₁.Perm es₂)
    (hn : (es₁.map Prod.fst).Nodup) : importsFormatted es₁ = importsFormatted es₂ := by
  unfold importsFormatted byPath
  rw [perm_then_sort_strings Prod.fst _ _ (hp.filter _) (hn.sublist (List.filter_sublist.map _)),
      perm_then_sort_strings Prod.fst _ _ (hp.filter _) (hn.sublist (List.filter_sublist.map _))]

/-! ### the sort is necessary (the regressions these repairs must not suffer)

Writing the entries in iteration order (`emit`) is *not* permutation invariant; the concrete
witnesses below are replayed on the thriftgo binary by every run of the check and must give one hash. -/

/-- witness: a file with the two namespaces `go a` and `java b`, written as it comes. -/
theorem descriptor_bytes_needs_sort :
    ¬ ∀ (fid : Nat) (es₁ es₂ : List (Bytes × Bytes)), es₁.Perm es₂ → encMapField fid es₁ = encMapField fid es₂ := by
  intro h
  have := h 3 [([103, 111], [97]), ([106, 97, 118, 97], [98])] [([106, 97, 118, 97], [98]), ([103, 111], [97])]
    (List.Perm.swap _ _ _)
  revert this
  decide

/-- sorting by the encoded key alone is not enough: two entries with keys of equal content (`k`) and
the values `a`, `b` come out in the order they went in. -/
theorem descriptor_bytes_key_only_sort_insufficient :
    encMapField 7 (sortedBy byEncodedKeyOnly [([107], [97]), ([107], [98])]) ≠
    encMapField 7 (sortedBy byEncodedKeyOnly [([107], [98]), ([107], [97])]) := by decide

/-- in general: exchanging two different adjacent entries always changes the unsorted bytes of the field … -/
theorem descriptor_bytes_unsorted_order_sensitive (fid : Nat) (a b : Bytes × Bytes) (r : List (Bytes × Bytes))
    (ha : Small a) (hb : Small b) (hne : a ≠ b) :
    encMapField fid (a :: b :: r) ≠ encMapField fid (b :: a :: r) :=
  encMapField_swap_ne fid r ha hb hne

/-- … and of the whole FileDescriptor marshalled without sorting (shown for the namespaces map). -/
theorem file_descriptor_unsorted_order_sensitive (path : Bytes) (inc : List (Bytes × Bytes)) (a b : Bytes × Bytes)
    (r : List (Bytes × Bytes)) (ha : Small a) (hb : Small b) (hne : a ≠ b) :
    encFileDescriptor path inc (a :: b :: r) ≠ encFileDescriptor path inc (b :: a :: r) := by
  intro h
  unfold encFileDescriptor at h
  simp only [List.append_assoc] at h
  have h₁ := List.append_cancel_left h
  have h₂ := List.append_cancel_left h₁
  have h₃ := List.append_cancel_left h₂
  have h₄ : encMapField 3 (a :: b :: r) = encMapField 3 (b :: a :: r) := List.append_cancel_right h₃
  exact encMapField_swap_ne 3 r ha hb hne h₄

example : Small (([103, 111], [97]) : Bytes × Bytes) := by unfold Small; decide

/-- `Name2Category` written as it comes: two different entries never commute. -/
theorem plugin_request_unsorted_order_sensitive (a b : Bytes × Nat) (r : List (Bytes × Nat))
    (ha : a.1.length < 4294967296) (hb : b.1.length < 4294967296) (hva : a.2 < 4294967296)
    (hvb : b.2 < 4294967296) (hne : a ≠ b) :
    emit encNameCategory (a :: b :: r) ≠ emit encNameCategory (b :: a :: r) :=
  emit_swap_ne encNameCategory r (encNameCategory_cancel ha hb hva hvb) hne

/-- fastgo's import block without the sorts and without go/format: `fmt`, `unsafe` in either order. -/
theorem fastgo_imports_unsorted_order_sensitive :
    importsUnformatted [([102, 109, 116], []), ([117, 110, 115, 97, 102, 101], [])] ≠
    importsUnformatted [([117, 110, 115, 97, 102, 101], []), ([102, 109, 116], [])] := by decide

inductive Cls
  | intoMap        -- perm_into_map
  | nsAdd          -- ns_add_comm + std_imports_distinct
  | sortThen       -- perm_then_sort
  | filter         -- perm_filter
  | firstError     -- perm_any: reached only while validating; only success/failure is observable
  | sum            -- perm_sum
  | replacer       -- replacer_perm + insertion_keys_prefix_free (insertion_replace_perm)
  | emitInOrder    -- NOT invariant (descriptor_bytes_unsorted_order_sensitive & co.): a site of this class is a defect
  | notRun         -- code of a runtime library that the compiler never executes
  deriving DecidableEq, Repr

structure Classified where
  pkg : String
  fn : String
  ord : Nat
  kind : String
  key : String
  cls : Cls
  why : String

/-- Hand classification of every known site, by reading the code at the site and its callers. -/
def classified : List Classified := [
  ⟨"config", "loadConfig", 0, "range", "string", .intoMap,
    "config.Ref[k] = &rc per entry of the YAML map (keys distinct unless two spellings of one path are made absolute); only read by code_ref features"⟩,
  ⟨"extension/thrift_option", "CheckOptionGrammar", 0, "range", "string", .firstError, "struct annotations; returns the first parse error, result otherwise discarded"⟩,
  ⟨"extension/thrift_option", "CheckOptionGrammar", 1, "range", "string", .firstError, "field annotations; same"⟩,
  ⟨"extension/thrift_option", "CheckOptionGrammar", 2, "range", "string", .firstError, "service annotations; same"⟩,
  ⟨"extension/thrift_option", "CheckOptionGrammar", 3, "range", "string", .firstError, "method annotations; same"⟩,
  ⟨"extension/thrift_option", "CheckOptionGrammar", 4, "range", "string", .firstError, "enum annotations; same"⟩,
  ⟨"extension/thrift_option", "CheckOptionGrammar", 5, "range", "string", .firstError, "enum value annotations; same"⟩,
  ⟨"extension/thrift_option", "creatStruct", 0, "range", "string", .firstError,
    "rejects the first unknown field name; on the generation path only under CheckOptionGrammar (use_option)"⟩,
  ⟨"extension/thrift_option", "createMap", 0, "range", "string", .firstError,
    "stores parsed entries into maps / returns the first error; only under CheckOptionGrammar, value discarded"⟩,
  ⟨"extension/thrift_option", "createMap", 1, "range", "interface{}", .intoMap, "SetMapIndex per entry; only under CheckOptionGrammar, value discarded"⟩,
  ⟨"extension/thrift_option", "formatTree", 0, "range", "string", .firstError,
    "prints a tree in iteration order, the text is parsed back into a map by ParseKV; only under CheckOptionGrammar"⟩,
  ⟨"extension/thrift_option", "getOptionContent", 0, "range", "string", .firstError,
    "collects sub-values of one option (stored into a tree keyed by path); only under CheckOptionGrammar"⟩,
  ⟨"generator", "(*insertionPointReplacer).Replace", 0, "range", "string", .replacer, "argument list of strings.NewReplacer"⟩,
  ⟨"generator/fastgo", "(*bitsetCodeGen).GenIfNotSet", 0, "range", "interface{}", .intoMap, "inverts field→bit into bit→field; bits are distinct"⟩,
  ⟨"generator/fastgo", "(*codewriter).Imports", 0, "range", "string", .sortThen,
    "paths collected per group, then sort.Strings on each group (fastgo_imports_perm); was C07 defect 2 (no_fmt) before the sort"⟩,
  ⟨"generator/golang", "(*CodeUtils).BuildFuncMap", 0, "range", "string", .sortThen,
    "ServiceThrows: values of fm collected, then sort.Slice by Go type name = the key of fm (service_throws_sorts_by_dedup_key pins both expressions)"⟩,
  ⟨"generator/golang", "(*GoBackend).renderByTemplate", 0, "range", "string", .filter,
    "deletes the imports whose package name the rendered file never mentions; the test reads the entry and the fixed file content only; the Imports template then ranges the map in sorted key order"⟩,
  ⟨"generator/golang", "(*importManager).init", 0, "range", "string", .nsAdd, "ns.Add(pkg, path); libNotUsed[pkg] = true"⟩,
  ⟨"generator/golang/extension/meta", "(*instance).Read", 0, "range", "int16", .firstError,
    "names the first missing required field; runs at start-up (RegisterStruct) on constant descriptors that have none missing"⟩,
  ⟨"generator/golang/extension/meta", "write", 0, "MapRange", "?", .sortThen,
    "entries collected with their encoding, sorted by encoded key then value, then written (descriptor_bytes_perm); was C07 defect 1 (with_reflection) before the sort"⟩,
  ⟨"parser", "(*Thrift).BLength", 0, "range", "string", .sum, "adds 4+len(k)+4 per entry of Name2Category"⟩,
  ⟨"parser", "(*Thrift).FastAppend", 0, "range", "string", .sortThen,
    "keys of Name2Category collected, sort.Strings, then written (plugin_request_perm); was C07 defect 3 (-p) before the sort"⟩,
  ⟨"pkg/namespace", "(*namespace).Iterate", 0, "range", "string", .intoMap,
    "only caller ResolveImports stores imports[path]; paths distinct as name→id is injective here; the Imports template ranges the result in sorted key order"⟩,
  ⟨"thrift_reflection", "(*ConstValueDescriptor).GetValueAsString", 0, "range", "*ConstValueDescriptor", .firstError,
    "prints a map constant in iteration order; only caller on the generation path is thrift_option.creatStruct, which parses the text back; under CheckOptionGrammar"⟩,
  ⟨"thrift_reflection", "(*GlobalDescriptor).LookupConst", 0, "range", "string", .firstError,
    "first file that has the name; with filepath \"\" only from GetValueAsString; under CheckOptionGrammar"⟩,
  ⟨"thrift_reflection", "(*GlobalDescriptor).LookupEnum", 0, "range", "string", .notRun, "no caller in the compiler passes an empty filepath"⟩,
  ⟨"thrift_reflection", "(*GlobalDescriptor).LookupException", 0, "range", "string", .notRun, "same"⟩,
  ⟨"thrift_reflection", "(*GlobalDescriptor).LookupIncludedStructsFromMethod", 0, "range", "*StructDescriptor", .notRun, "runtime API, no caller in the compiler"⟩,
  ⟨"thrift_reflection", "(*GlobalDescriptor).LookupIncludedStructsFromStruct", 0, "range", "*StructDescriptor", .notRun, "same"⟩,
  ⟨"thrift_reflection", "(*GlobalDescriptor).LookupIncludedStructsFromType", 0, "range", "*StructDescriptor", .notRun, "same"⟩,
  ⟨"thrift_reflection", "(*GlobalDescriptor).LookupMethod", 0, "range", "string", .notRun, "no caller in the compiler passes an empty filepath"⟩,
  ⟨"thrift_reflection", "(*GlobalDescriptor).LookupService", 0, "range", "string", .notRun, "same"⟩,
  ⟨"thrift_reflection", "(*GlobalDescriptor).LookupStruct", 0, "range", "string", .notRun, "same"⟩,
  ⟨"thrift_reflection", "(*GlobalDescriptor).LookupTypedef", 0, "range", "string", .notRun, "same"⟩,
  ⟨"thrift_reflection", "(*GlobalDescriptor).LookupUnion", 0, "range", "string", .notRun, "same"⟩,
  ⟨"thrift_reflection", "(*GlobalDescriptor).ShowRegisterInfo", 0, "range", "string", .notRun, "runtime API, no caller in the compiler"⟩,
  ⟨"thrift_reflection", "(*GlobalDescriptor).matchRemoteFileDescriptor", 0, "range", "string", .notRun,
    "runs when generated code registers itself (ReplaceFileDescriptor), not in the compiler"⟩
]

def covers (c : Classified) (s : Site) : Bool :=
  c.pkg == s.pkg && c.fn == s.fn && c.ord == s.ord && c.kind == s.kind && c.key == s.key

/-- regenerated obligation: every map-iteration site that go/types finds in the packages reachable
from the compiler's entry points is one of the classified sites (same package, function, ordinal,
kind and key type). A new, moved or retyped site breaks this until it is read and classified. -/
theorem site_inventory_covered : ∀ s ∈ sites, classified.any (fun c => covers c s) = true := by
  decide +kernel

/-- no classified site writes entries to the output in iteration order. -/
theorem emit_in_order_sites :
    (classified.filter (fun c => c.cls == .emitInOrder)).map (fun c => (c.pkg, c.fn, c.ord)) = [] := by decide

end Props.C07
