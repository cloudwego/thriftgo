import ThriftVerif.Lib.FileManager
import ThriftVerif.Lib.FileManagerLemmas
import ThriftVerif.Generated.C12
/-
  C12 — output assembly loses nothing: insertion points and file-name conflicts.
  The model is Lib/FileManager.lean (generator/file_manager.go).  `cfg` is the regenerated description of the
  insertion-point regexp and of plugin.InsertionPointFormat.

  Histories: `calls : List (List Item)` is an arbitrary sequence of Feed calls, of any length,
  `feedAll St.init calls` the manager after them, `build cfg st` the response of BuildResponse.
  Theorems about one step of the loop take `last` and `skip` arbitrary, so they also cover every point
  inside a call.
-/
namespace Props.C12
open FileManager Generated.C12

abbrev after (calls : List (List Item)) : St := feedAll St.init calls

/-- regenerated obligation: the patch key format and the regexp agree on prefix and closing byte,
and the closing byte is outside the class (so the class run of a marker is delimited). -/
theorem marker_cfg_facts : CfgOK cfg := ⟨by decide, by decide, by decide⟩

/-! ### files are never overwritten, merged or reordered -/

/-- one Feed call only appends to `files`: every stored (name, content) keeps its position, name and content. -/
theorem first_content_kept (st : St) (items : List Item) :
    ∃ ex, (feed st items).1.files = st.files ++ ex := eq_append_of_prefix (feedLoop_grows items st [] false).1

/-- … and so over any continuation of any history. -/
theorem first_content_kept_history (calls more : List (List Item)) :
    ∃ ex, (after (calls ++ more)).files = (after calls).files ++ ex := by
  unfold after; rw [feedAll_append]; exact eq_append_of_prefix (feedAll_files_prefix more _)

/-- the patches recorded for a name are only ever appended to (submission order is kept). -/
theorem patches_only_appended (st : St) (items : List Item) (n : Bytes) :
    ∃ ex, (feed st items).1.patch n = st.patch n ++ ex := eq_append_of_prefix ((feedLoop_grows items st [] false).2 n)

/-! ### a later file with an existing name -/

/-- identical content (to the file of that name or to any file on its chain `name_1, name_2, …` of
taken names, `siblings`): the item and the unnamed patches directly following it change nothing. -/
theorem dup_dropped (calls : List (List Item)) (last : Bytes) (skip : Bool) (f : Item) (name : Bytes) (idx : Nat)
    (ups rest : List Item)
    (hn : f.name = some name) (hi : (after calls).index name = some idx) (hip : f.ip = [])
    (hd : ∃ i ∈ siblings (after calls) name idx, contentAt (after calls) i = some f.content)
    (hu : ∀ u ∈ ups, u.name = none) :
    feedLoop (after calls) last skip (f :: (ups ++ rest)) = feedLoop (after calls) last true rest := by
  have hI := Inv.feedAll_init calls
  have hp := (probe_valid hI.lt (hI.lt hi)).2.2 hd
  exact Eq.trans (by simp [feedLoop, hn, hi, hip, hp]) (feedLoop_skip_unnamed ups rest hu _ last)

/-- different content from all of them: stored as a new file under the first name `name_k`, k ≥ 1, that
the index does not know (so it cannot collide), the earlier files untouched, and `last` becomes the
new name (its unnamed patches follow the renamed file). -/
theorem conflict_renamed (calls : List (List Item)) (last : Bytes) (skip : Bool) (f : Item) (name : Bytes) (idx : Nat)
    (rest : List Item)
    (hn : f.name = some name) (hi : (after calls).index name = some idx) (hip : f.ip = [])
    (hd : ¬ ∃ i ∈ siblings (after calls) name idx, contentAt (after calls) i = some f.content) :
    ∃ k, 1 ≤ k ∧ (after calls).index (sib name k) = none ∧
      (∀ j, 1 ≤ j → j < k → (after calls).index (sib name j) ≠ none) ∧
      feedLoop (after calls) last skip (f :: rest) =
        feedLoop (renameSt (after calls) name (sib name k) f.content) (sib name k) false rest := by
  have hI := Inv.feedAll_init calls
  cases hp : probe (after calls) name f.content ((after calls).files.length + 1) idx 1 with
  | dup => exact absurd ((probe_valid hI.lt (hI.lt hi)).2.1 hp) hd
  | panic => exact absurd hp (probe_valid hI.lt (hI.lt hi)).1
  | hang => exact absurd hp (probe_no_hang hI _ _ _)
  | fresh r =>
    obtain ⟨k, hk, rfl, hnone, hall⟩ := probe_fresh_spec hp
    exact ⟨k, hk, hnone, hall, by simp [feedLoop, renameSt, hn, hi, hip, hp]⟩

/-- the positions compared above (the index chain) are those of files named `name` or `name_j`, all existing. -/
theorem siblings_are_family (calls : List (List Item)) (name : Bytes) (idx : Nat)
    (hi : (after calls).index name = some idx) :
    ∀ i ∈ siblings (after calls) name idx, ∃ m c, (after calls).files[i]? = some (m, c) ∧ Fam name m :=
  siblings_fam (Inv.feedAll_init calls) hi

/-- renamed names are injective in (name, k): `a_j` = `b_k` only if `a = b` and `j = k`. -/
theorem sib_injective (a b : Bytes) (j k : Nat) (h : sib a j = sib b k) : a = b ∧ j = k := sib_inj a b j k h

/-- an unnamed patch goes to the list of `last`; a named item with an insertion point whose name
exists goes to the list of that name and makes it `last`. -/
theorem patch_goes_to_last (st : St) (last : Bytes) (skip : Bool) (f : Item) (rest : List Item) :
    (f.name = none → last ≠ [] →
      feedLoop st last false (f :: rest) = feedLoop (addPatch st last f) last false rest) ∧
    (∀ name idx, f.name = some name → st.index name = some idx → f.ip ≠ [] →
      feedLoop st last skip (f :: rest) = feedLoop (addPatch st name f) name false rest) :=
  ⟨fun hn hl => by simp [feedLoop, hn, hl], fun _ _ hn hi hip => by simp [feedLoop, hn, hi, hip]⟩

/-- a call that starts with an unnamed item fails and leaves the manager as it was. -/
theorem unnamed_first_is_error (st : St) (f : Item) (rest : List Item) (hn : f.name = none) :
    feed st (f :: rest) = (st, .err) := by simp [feed, feedLoop, hn]

/-- … and (no file being named "") that is the only way a call fails. -/
theorem feed_error_iff (st : St) (items : List Item) (hne : ∀ f ∈ items, f.name ≠ some []) :
    (feed st items).2 = .err ↔ ∃ f rest, items = f :: rest ∧ f.name = none :=
  ⟨fun h => (feedLoop_err items st [] false hne h).2.2,
    fun ⟨f, rest, e, hn⟩ => by rw [e, unnamed_first_is_error st f rest hn]⟩

example : ∀ f ∈ [(⟨some [97], [], [88]⟩ : Item)], f.name ≠ some [] := by decide

/-- no history makes Feed index `files` out of range, and the (unbounded) probe loop always
terminates: it never needs more than `len(files) + 1` rounds. -/
theorem feed_never_panics_or_hangs (calls : List (List Item)) :
    Outcome.panic ∉ outcomes St.init calls ∧ Outcome.hang ∉ outcomes St.init calls :=
  outcomes_no_panic calls St.init Inv.init

/-- after any history, a successful call leaves every named file item (no insertion point) it
contains stored — under its name or a name derived from it, with exactly its content — and it
stays stored whatever is fed later. -/
theorem nothing_lost (calls : List (List Item)) (items : List Item) (more : List (List Item))
    (hok : (feed (after calls) items).2 = .ok) :
    ∀ f ∈ items, ∀ n, f.name = some n → f.ip = [] → Stored (after (calls ++ [items] ++ more)) n f.content := by
  intro f hf n hn hip
  have h1 := feedLoop_nothing_lost items (after calls) [] false (Inv.feedAll_init calls) hok f hf n hn hip
  have e : after (calls ++ [items] ++ more) = feedAll (feed (after calls) items).1 more := by
    unfold after; rw [feedAll_append, feedAll_append]; rfl
  rw [e]
  exact h1.mono (feedAll_files_prefix more _)

/-- after every history the response names are pairwise distinct: a conflicting file is only ever
stored under a name the index does not know, and the index knows every stored name.
(False before /repo 54c21d0, where the loop trusted `count[name]`; see `old_witness_repaired`.) -/
theorem names_unique (calls : List (List Item)) : ((build cfg (after calls)).map (·.1)).Nodup := by
  rw [build_names]
  exact (Inv.feedAll_init calls).nodup

/-- regression item: to the history `a.go:X, a_1.go:X, a.go:Y` the code before /repo 54c21d0 answers
`a.go, a_1.go, a_1.go`; the answer is `a.go, a_1.go, a_2.go` (also replayed on the implementation by every run). -/
def oldWitness : List (List Item) :=
  [[⟨some [97, 46, 103, 111], [], [88]⟩, ⟨some [97, 95, 49, 46, 103, 111], [], [88]⟩, ⟨some [97, 46, 103, 111], [], [89]⟩]]

theorem old_witness_repaired : (build cfg (after oldWitness)).map (·.1) =
    [[97, 46, 103, 111], [97, 95, 49, 46, 103, 111], [97, 95, 50, 46, 103, 111]] := by decide

/-- the scan cuts a content into literal bytes and markers and loses nothing. -/
theorem scan_lossless (content : Bytes) : flatten (scan cfg content) = content := by
  unfold scan; simpa using flatten_segment (markerLen cfg) content 0

/-- BuildResponse keeps names and order and rewrites each content by `render`: literal bytes stay,
every occurrence of a marker is replaced by the texts of the file's patches for that point,
concatenated in submission order (`patchText`) — for files whose patch points lie in the marker
alphabet. -/
theorem patches_in_order (st : St) (h : ∀ nc ∈ st.files, WordPoints cfg (st.patch nc.1)) :
    build cfg st = st.files.map fun nc => (nc.1, render cfg (st.patch nc.1) (scan cfg nc.2)) := by
  unfold build
  apply List.map_congr_left
  intro nc hnc
  obtain ⟨n, c⟩ := nc
  simp only
  rw [replace_eq_render marker_cfg_facts c (st.patch n) (h (n, c) hnc)]

example : WordPoints cfg [⟨[105, 109, 112, 111, 114, 116, 115], [80]⟩] := by decide

/-- a marker never survives as such: with no patch text at all the result is the literal bytes only. -/
theorem markers_removed (content : Bytes) (ps : List Patch) (hw : WordPoints cfg ps) (h : ∀ p ∈ ps, p.content = []) :
    replace (replacerOf cfg content ps) content = lits (scan cfg content) := by
  rw [replace_eq_render marker_cfg_facts content ps hw, render_no_text cfg ps h]

/-- the bytes outside markers appear in the result unchanged and in order. -/
theorem text_preserved (content : Bytes) (ps : List Patch) (hw : WordPoints cfg ps) :
    (lits (scan cfg content)).Sublist (replace (replacerOf cfg content ps) content) := by
  rw [replace_eq_render marker_cfg_facts content ps hw]
  exact lits_sublist_render cfg ps _

/-- BuildResponse hands the replacer's pairs over in Go map order; whatever that order is, the
result is the same (points in the marker alphabet). -/
theorem replacer_order_irrelevant (content : Bytes) (ps : List Patch) (hw : WordPoints cfg ps)
    (m' : List (Bytes × Bytes)) (hp : m'.Perm (replacerOf cfg content ps)) :
    replace m' content = replace (replacerOf cfg content ps) content :=
  replace_perm_prefixFree _ m' hp (replacerOf_keys_nodup cfg content ps)
    (prefixFree_of_wordKeys marker_cfg_facts.close (replacerOf_wordKeys marker_cfg_facts content ps hw)) content

/-! ### patch points with arbitrary characters: the literal-key path

`Add` puts `plugin.InsertionPoint(p)` into the replacer's map whatever bytes `p` has (`-`, `/`, space,
non-ASCII, parentheses, `@`): such a marker is not found by the regexp, the patch itself supplies the key. -/

/-- for every content and every list of patches (no restriction on the points): the result is the
rendering of the content cut by the replacer's key set — regexp markers of the content and the literal
marker texts of all patch points — each key occurrence replaced by its patches in submission order. -/
theorem literal_keys_rendered (content : Bytes) (ps : List Patch) :
    replace (replacerOf cfg content ps) content = render cfg ps (keyScan cfg content ps) :=
  replace_eq_renderKeys marker_cfg_facts content ps

/-- … and wherever that scan stands before the literal marker text of a patched point `p` (any bytes),
it takes exactly this key and resumes after it: the patch is applied there (prefix-free key set). -/
theorem patch_applied_at_literal_marker (content : Bytes) (ps : List Patch)
    (hpf : PrefixFreeKeys (replacerOf cfg content ps)) (p : Patch) (hp : p ∈ ps) (b : Bytes) :
    segment (keyLen (replacerOf cfg content ps)) 0 (pointKey cfg p.ip ++ b) =
      .chunk (pointKey cfg p.ip) :: segment (keyLen (replacerOf cfg content ps)) 0 b := by
  have hpres : val (replacerOf cfg content ps) (pointKey cfg p.ip) ≠ none :=
    (val_replacerOf_ne_none cfg content ps _).2 (Or.inr ⟨p, hp, rfl⟩)
  exact segment_match _ b (replacerOf_key_ne_nil marker_cfg_facts content ps _ hpres) (keyLen_of_prefixFree hpf b hpres)

/-- the hypothesis is decidable on the key list and satisfiable with a point outside the alphabet:
content `x@@thriftgo_insertion_point(a-b)y`, patch for `a-b` -/
example : PrefixFreeKeys (replacerOf cfg
    ([120] ++ cfg.pre ++ [97, 45, 98, 41, 121]) [⟨[97, 45, 98], [80]⟩]) :=
  prefixFreeKeys_of_list _ (by decide)

/-- Go map order is irrelevant for every prefix-free key set, also with points outside the alphabet. -/
theorem replacer_order_irrelevant_literal (content : Bytes) (ps : List Patch)
    (hpf : PrefixFreeKeys (replacerOf cfg content ps))
    (m' : List (Bytes × Bytes)) (hp : m'.Perm (replacerOf cfg content ps)) :
    replace m' content = replace (replacerOf cfg content ps) content :=
  replace_perm_prefixFree _ m' hp (replacerOf_keys_nodup cfg content ps) hpf content

/-! ### the Go backend as producer of Feed's input -/

/-- regenerated obligation (generator/golang/backend.go, renderByTemplate): per rendered file the backend
appends a named item without insertion point, then a *nameless* item with an insertion point. -/
theorem backend_emits_file_then_nameless_patch : backendItems = [(true, false), (false, true)] := by decide

/-- for such a pair, after any history: either the file is a duplicate and both items change nothing,
or the file is stored (under its name or a fresh derived one) and the patch goes to exactly that file. -/
theorem backend_pair_targets_own_file (calls : List (List Item)) (last : Bytes) (skip : Bool) (f u : Item) (n : Bytes)
    (rest : List Item) (hn : f.name = some n) (hne : n ≠ []) (hip : f.ip = []) (hu : u.name = none) :
    feedLoop (after calls) last skip (f :: u :: rest) = feedLoop (after calls) last true rest ∨
    ∃ m st', Fam n m ∧ st'.files = (after calls).files ++ [(m, f.content)] ∧ st'.patch = (after calls).patch ∧
      feedLoop (after calls) last skip (f :: u :: rest) = feedLoop (addPatch st' m u) m false rest := by
  cases hi : (after calls).index n with
  | none =>
    refine .inr ⟨n, addFile (after calls) n f.content, .inl rfl, rfl, rfl, ?_⟩
    simp [feedLoop, hn, hi, hu, hne]
  | some idx =>
    by_cases hd : ∃ i ∈ siblings (after calls) n idx, contentAt (after calls) i = some f.content
    · exact .inl (dup_dropped calls last skip f n idx [u] rest hn hi hip hd (by simpa using hu))
    · obtain ⟨k, hk, _, _, he⟩ := conflict_renamed calls last skip f n idx (u :: rest) hn hi hip hd
      refine .inr ⟨sib n k, renameSt (after calls) n (sib n k) f.content, .inr ⟨k, hk, rfl⟩, rfl, rfl, ?_⟩
      rw [he, (patch_goes_to_last _ _ false u rest).1 hu (sib_ne_nil n k)]

end Props.C12
