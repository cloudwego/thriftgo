import ThriftVerif.Gen.DefaultsLemmas
import ThriftVerif.Generated.C06
/-
  C06 — constants and default values in Go equal the values written in the IDL (DESIGN.md §5.6).

  Model: `Gen.Defaults` (resolver.go's resolveConst case by case, emitting a `GoExpr`; `evalGo` = what the
  compiled expression holds; `evalIDL` = the value the initializer denotes by the IDL's own rules;
  `goUnquote` / `interp` = Go's interpreted string literals as a character-level scanner).
  The inductions behind `const_value`, `const_reject_iff` and `string_literal_value` are in `Gen/DefaultsLemmas.lean`.
-/
namespace Props.C06
open Gen Gen.Defaults

/-- **const_value.**  Whenever thriftgo accepts an initializer (`resolveConst … = ok e`) and the IDL's rules
give it a value, the Go expression it emits evaluates to that value -- for every type shape (typedef'd
containers included), nested list/set/map/struct literals also of structs defined in other files, enum members by
name or number, string literals with any escapes, and references to other constants also across includes (the
package-level environment `goEnvOf` is itself defined by `resolveConst` on the referenced constants).
`g` is the file the type is written in, `gv` the file the initializer is written in (`Resolver.values`).
Hypotheses: the program was accepted (`Accepted`); `good` excludes the one shape on which the statement is
FALSE on the model and on the code: a struct-typed member of a struct literal given by the identifier of a struct
constant (`&C` with `C` already a pointer, see `const_value_fails_struct_member_by_ident`). -/
theorem const_value (E : Env) (hacc : Accepted E) (hgood : EnvGood E) (fuel root gv g : Nat) (t : ATy) (v : CV)
    (e : GoExpr) (val : GoVal)
    (h : resolveConst E root gv g t v = .ok e) (hg : good E g t v = true)
    (hI : evalIDL E (idlEnvOf E fuel) g gv t v = some val) :
    evalGo E (goEnvOf E fuel) e = some val :=
  rc_sound (envAgree E hacc hgood fuel) root gv v g t e val h hg hI

/-- const_value for the generated package-level declarations themselves: the Go constant/variable generated
for an IDL constant holds the value its initializer denotes. -/
theorem const_value_named (E : Env) (hacc : Accepted E) (hgood : EnvGood E) (fuel f : Nat) (n : Name) (val : GoVal)
    (hI : idlEnvOf E fuel f n = some val) : goEnvOf E fuel f n = some val :=
  (envAgree E hacc hgood fuel).val f n val hI

/-! The hypotheses are satisfiable, the conclusion is not vacuous: two files, a constant in the included
file, an enum, a struct with an optional member; the root file's constant is a struct literal that refers
to the other file's constant through a list. -/
section witness

private def nmC : Name := [67]        -- "C"
private def nmK : Name := [75]        -- "K"
private def nmE : Name := [69]        -- "E"
private def nmA : Name := [65]        -- "A"
private def nmS : Name := [83]        -- "S"
private def nmb : Name := [98]        -- "b"

/-- file 0 includes file 1; file 1: `const i32 K = 7`, `enum E {A = 4}`;
    file 0: `struct S {1: optional i32 x, 2: list<i32> l, 3: string s, 4: E e}`,
            `const S C = {"x": b.K, "l": [1, b.K], "s": "h\"i", "e": b.E.A}` -/
def demoEnv : Env :=
  { files := [
      { ns := 1, includes := [(1, true)],
        structs := [{ name := nmS, fields := [
          { name := [120], req := .optional, ty := .base .i32, dflt := none },
          { name := [108], req := .default, ty := .list (.base .i32), dflt := none },
          { name := [115], req := .default, ty := .base .str, dflt := none },
          { name := [101], req := .default, ty := .named .enum (some 0) nmE, dflt := none }] }],
        consts := [{ name := nmC, ty := .named .strct none nmS, val := .map [
          (.lit [120], .ident [98, 46, 75] (some { isEnum := false, index := some 0, name := nmK, sel := nmb })),
          (.lit [108], .list [.int 1, .ident [98, 46, 75] (some { isEnum := false, index := some 0, name := nmK, sel := nmb })]),
          (.lit [115], .lit [104, 34, 105]),
          (.lit [101], .ident [98, 46, 69, 46, 65] (some { isEnum := true, index := some 0, name := nmA, sel := nmE }))] }] },
      { ns := 2, includes := [],
        enums := [{ name := nmE, values := [(nmA, 4)] }],
        consts := [{ name := nmK, ty := .base .i32, val := .int 7 }] }] }

example : idlEnvOf demoEnv 3 0 nmC = some (.strct [.int 7, .list [.int 1, .int 7], .bytes [104, 34, 105], .int 4]) := rfl
example : goEnvOf demoEnv 3 0 nmC = some (.strct [.int 7, .list [.int 1, .int 7], .bytes [104, 34, 105], .int 4]) := rfl

end witness

/-! Regression items for the defects fixed by 4cb0c25 (`Resolver.values`), f3f901c (`quoteLiteral`) and 029e141
(pointer trick for enums), see docs/C06.md: the three shapes have the value the IDL gives them. -/

/-- `'a\"b'`: the emitted Go text is `"a\"b"` and Go reads `a"b`, the IDL literal's meaning. -/
theorem regression_escaped_quote :
    resolveConst { files := [{ ns := 1, includes := [] }] } 0 0 0 (.base .str) (.lit [97, 92, 34, 98]) = .ok (.strLit [34, 97, 92, 34, 98, 34]) ∧
    evalIDL { files := [{ ns := 1, includes := [] }] } (fun _ _ => none) 0 0 (.base .str) (.lit [97, 92, 34, 98]) = some (.bytes [97, 34, 98]) ∧
    evalGo { files := [{ ns := 1, includes := [] }] } (fun _ _ => none) (.strLit [34, 97, 92, 34, 98, 34]) = some (.bytes [97, 34, 98]) := ⟨rfl, rfl, rfl⟩

/-- a.thrift: `include "b.thrift"`, `const b.S C = {"f": b.K}`; b.thrift: `include "c.thrift"`, `const i32 K = 7`,
`struct S {1: i32 f}`; c.thrift: `const i32 K = 111`.  The member `b.K` is looked up in the file of the literal:
Go holds 7 (resolved in the scope of b.thrift, whose include 0 is c.thrift, it would be 111: the defect 4cb0c25 fixed). -/
def scopeEnv : Env :=
  { files := [
      { ns := 1, includes := [(1, true)],
        consts := [{ name := [67], ty := .named .strct (some 0) [83], val := .map [
          (.lit [102], .ident [98, 46, 75] (some { isEnum := false, index := some 0, name := [75], sel := [98] }))] }] },
      { ns := 2, includes := [(2, true)],
        structs := [{ name := [83], fields := [{ name := [102], req := .default, ty := .base .i32, dflt := none }] }],
        consts := [{ name := [75], ty := .base .i32, val := .int 7 }] },
      { ns := 3, includes := [],
        consts := [{ name := [75], ty := .base .i32, val := .int 111 }] }] }

theorem regression_foreign_struct_literal :
    idlEnvOf scopeEnv 3 0 [67] = some (.strct [.int 7]) ∧ goEnvOf scopeEnv 3 0 [67] = some (.strct [.int 7]) := ⟨rfl, rfl⟩

/-- `enum E {A}` `struct S {1: optional E e}` `const S C = {"e": E.A}`: `&S{E: &(&struct{x E}{E_A}).x}` holds S{e: 0}. -/
def addrEnv : Env :=
  { files := [
      { ns := 1, includes := [],
        enums := [{ name := [69], values := [([65], 0)] }],
        structs := [{ name := [83], fields := [{ name := [101], req := .optional, ty := .named .enum none [69], dflt := none }] }],
        consts := [{ name := [67], ty := .named .strct none [83], val := .map [
          (.lit [101], .ident [69, 46, 65] (some { isEnum := true, index := none, name := [65], sel := [69] }))] }] }] }

theorem regression_optional_enum_member :
    idlEnvOf addrEnv 2 0 [67] = some (.strct [.int 0]) ∧ goEnvOf addrEnv 2 0 [67] = some (.strct [.int 0]) := ⟨rfl, rfl⟩

/-- The shape `good` excludes is a genuine failure: `struct I {1: i32 a}` `struct O {1: I i}`
`const I CI = {"a": 1}` `const O CO = {"i": CI}` emits `&O{I: &CI}` -- a `**I` that does not compile -- while the IDL
value is O{i: I{a: 1}}. -/
def ptrEnv : Env :=
  { files := [
      { ns := 1, includes := [],
        structs := [{ name := [73], fields := [{ name := [97], req := .default, ty := .base .i32, dflt := none }] },
                    { name := [79], fields := [{ name := [105], req := .default, ty := .named .strct none [73], dflt := none }] }],
        consts := [{ name := [67, 73], ty := .named .strct none [73], val := .map [(.lit [97], .int 1)] },
                   { name := [67, 79], ty := .named .strct none [79], val := .map [
                      (.lit [105], .ident [67, 73] (some { isEnum := false, index := none, name := [67, 73], sel := [] }))] }] }] }

theorem const_value_fails_struct_member_by_ident :
    idlEnvOf ptrEnv 3 0 [67, 79] = some (.strct [.strct [.int 1]]) ∧ goEnvOf ptrEnv 3 0 [67, 79] = none := ⟨rfl, rfl⟩

/-- **const_reject_iff.**  thriftgo accepts an initializer exactly when `accepts` holds: for scalars the kinds
of C04's catalogue (`accScalar`), for struct-likes an identifier that resolves or a map literal whose keys are
literals naming fields and whose values are accepted at the fields' types (in the scope of the struct's file),
for containers elements accepted at the element type -- and, as the code has it, ANY initializer of another
kind for a container (it becomes `T{}`). -/
theorem const_reject_iff (E : Env) (root gv g : Nat) (t : ATy) (v : CV) :
    (∃ e, resolveConst E root gv g t v = .ok e) ↔ accepts E root gv g t v = true := by
  rw [← rc_isOk E root gv v g t]
  cases resolveConst E root gv g t v <;> simp [resOk]

/-- the syntactic kinds each category takes (necessary for acceptance; identifiers must also resolve) -/
def kindAllowed : Cat → CV → Bool
  | .bool, .int _ | .bool, .dbl _ _ | .bool, .ident _ _ => true
  | .i8, .int _ | .i8, .ident _ _ | .i16, .int _ | .i16, .ident _ _ => true
  | .i32, .int _ | .i32, .ident _ _ | .i64, .int _ | .i64, .ident _ _ => true
  | .dbl, .int _ | .dbl, .dbl _ _ | .dbl, .ident _ _ => true
  | .str, .lit _ | .str, .ident _ _ | .bin, .lit _ | .bin, .ident _ _ => true
  | .enum, .int _ | .enum, .ident _ _ => true
  | .strct, .ident _ _ | .strct, .map _ => true
  | .list, _ | .set, _ | .map, _ => true
  | _, _ => false

/-- an accepted initializer has one of the kinds its category takes: the scalar emitters and the struct-like clause
end in `| _ => .err`, the containers take every kind -/
theorem rc_kind {E : Env} {root gv g : Nat} {t : ATy} {v : CV} {e : GoExpr}
    (he : resolveConst E root gv g t v = .ok e) : kindAllowed t.cat v = true := by
  cases hc : t.cat
  case strct =>
    simp only [rc_strct hc, Res.bind_eq_ok] at he
    obtain ⟨ty, -, he⟩ := he
    cases v <;> first | rfl | cases he
  case list | set | map => cases v <;> rfl
  all_goals
    rw [resolveConst.eq_def] at he
    simp only [hc] at he
    cases v <;> first | rfl | cases he

/-- a kind mismatch on a scalar or struct-like type is never accepted -/
theorem kind_mismatch_rejected (E : Env) (root gv g : Nat) (t : ATy) (v : CV) (h : kindAllowed t.cat v = false) :
    ∀ e, resolveConst E root gv g t v ≠ .ok e :=
  fun _ he => Bool.false_ne_true (h.symm.trans (rc_kind he))

/-- the tolerance: a number or a literal given for a container is accepted and becomes the empty container -/
theorem container_tolerance (E : Env) (root gv g : Nat) (t : ATy) (v : CV) (ty : GoTy) (p : Nat × ATy)
    (hc : t.cat = .list ∨ t.cat = .set ∨ t.cat = .map) (htn : typeName E root g t = .ok ty)
    (hd : derefC E g t = .ok p)
    (hv : (match v with | .int _ | .dbl _ _ | .lit _ => true | _ => false) = true) :
    resolveConst E root gv g t v = .ok (if t.cat = .map then .mapLit ty [] else .sliceLit ty []) := by
  rw [resolveConst.eq_def]
  rcases hc with hc | hc | hc <;> cases v <;> simp_all

/-- **string_literal_emission.**  For a string-typed initializer that is a literal, the emitted Go text is
`"` ++ `quoteBody s` ++ `"`, where `quoteBody` is `quoteLiteral`'s loop: a backslash is copied together with
the character after it (only `\'` loses its backslash), a bare `"` becomes `\"`, a raw line feed / carriage
return becomes `\n` / `\r`, everything else is copied. -/
theorem string_literal_emission (E : Env) (root gv g : Nat) (t : ATy) (s : Bytes) (hc : t.cat = .str) :
    resolveConst E root gv g t (.lit s) = .ok (.strLit ([34] ++ quoteBody s ++ [34])) := by
  rw [resolveConst.eq_def]
  simp [hc, onStrBin, strBinCore, emitStr]

theorem quoteBody_clauses (c d : Nat) (r : Bytes) :
    quoteBody [] = [] ∧
    quoteBody (92 :: 39 :: r) = 39 :: quoteBody r ∧
    (d ≠ 39 → quoteBody (92 :: d :: r) = 92 :: d :: quoteBody r) ∧
    quoteBody [92] = [92] ∧
    quoteBody (34 :: r) = 92 :: 34 :: quoteBody r ∧
    quoteBody (10 :: r) = 92 :: 110 :: quoteBody r ∧
    quoteBody (13 :: r) = 92 :: 114 :: quoteBody r ∧
    (c ≠ 92 → c ≠ 34 → c ≠ 10 → c ≠ 13 → quoteBody (c :: r) = c :: quoteBody r) :=
  ⟨rfl, quoteBody_bslash_squote r, quoteBody_bslash r, rfl, quoteBody_dquote r, quoteBody_lf r, quoteBody_cr r,
    quoteBody_other r⟩

/-- **string_literal_value.**  For EVERY literal, Go reads the emitted text as the literal's meaning (`interp`:
Go's escape sequences, `\'` a single quote, a double quote and a line break standing for themselves); in
particular an invalid escape sequence is invalid on both sides. Proved by simulation of the scanner on the
emitted text. -/
theorem string_literal_value (s : Bytes) : goUnquote (emitStr s) = interp s :=
  goUnquote_emit s

/-- Consequence: a literal without backslash is its own value in Go (quotes and line breaks included). -/
theorem string_literal_plain (s : Bytes) (h : ∀ c ∈ s, c ≠ 92) : goUnquote (emitStr s) = some s := by
  rw [goUnquote_emit]
  unfold interp
  induction s with
  | nil => simp [interpFrom]
  | cons c r ih =>
    have hc := h c List.mem_cons_self
    have := ih (fun x hx => h x (List.mem_cons_of_mem _ hx))
    simp [interpFrom, idlStep, lexStep, hc, this]

/-- Regression items (defects fixed by f3f901c): `'a\"b'` and a raw newline are read by Go as the IDL means them. -/
theorem string_literal_regressions :
    (goUnquote (emitStr [97, 92, 34, 98]) = some [97, 34, 98] ∧ interp [97, 92, 34, 98] = some [97, 34, 98]) ∧
    (goUnquote (emitStr [97, 10, 98]) = some [97, 10, 98] ∧ interp [97, 10, 98] = some [97, 10, 98]) ∧
    (goUnquote (emitStr [105, 116, 92, 39, 115]) = some [105, 116, 39, 115]) := by decide

/-- **newX_defaults** (1): the field of `NewX()` at a position whose IDL field declares a default holds the
value that default denotes; (2) every other field holds the Go zero value / nil. -/
theorem newX_defaults (E : Env) (hacc : Accepted E) (hgood : EnvGood E) (fuel file : Nat) (st : AStruct) (sd : StructDef)
    (i : Nat) (af : AField) (fd : FieldDef) (haf : st.fields[i]? = some af) (hfd : sd.fields[i]? = some fd) :
    (∀ d e val, af.dflt = some d → resolveConst E file file file af.ty d = .ok e → good E file af.ty d = true →
        evalIDL E (idlEnvOf E fuel) file file af.ty d = some val →
        (match newX (structDefOf E fuel file st sd) with | .strct vs => vs[i]? | _ => none) = some val) ∧
    (af.dflt = none →
        (match newX (structDefOf E fuel file st sd) with | .strct vs => vs[i]? | _ => none) = some (zeroOf fd.req fd.ty)) := by
  have hz : ((sd.fields.zip st.fields)[i]?) = some (fd, af) := by
    rw [List.getElem?_zip_eq_some]; exact ⟨hfd, haf⟩
  simp only [newX, structDefOf, List.map_map, List.getElem?_map, hz, Option.map_some, Function.comp]
  refine ⟨fun d e val hd he hg hI => ?_, fun hd => ?_⟩
  · simp [fieldDefault, hd, he, const_value E hacc hgood fuel file file file af.ty d e val he hg hI]
  · simp [fieldDefault, hd]

/-- **newX_defaults** (3): `InitDefault()` on the zero struct gives exactly `NewX()`. -/
theorem initDefault_zero_eq_newX (sd : StructDef) : initDefault sd (zeroStruct sd) = newX sd := by
  simp only [zeroStruct, initDefault, newX]
  congr 1
  induction sd.fields with
  | nil => rfl
  | cons f r ih =>
    simp only [List.map_cons, List.zip_cons_cons]
    rw [ih]
    cases hd : f.dflt <;> simp

/-- **getter_default.**  The getter of a field that supports IsSet and is not set returns the `_DEFAULT`
variable: the declared default, or the zero value when none is declared; in particular an unset optional
field (nil pointer) and an optional field still equal to its default. -/
theorem getter_default (f : FieldDef) (v : GoVal) (hs : supportIsSet f = true) (hu : Std.isSet f v = false) :
    getter f v = (match f.dflt with | some d => d | none => defaultVar f) := by
  simp only [getter, hs, hu, if_true, Bool.false_eq_true, if_false]
  cases hd : f.dflt <;> simp [defaultVar, hd]

/-- `Get<F>()` of a field that reports itself set returns the stored value, never the `_DEFAULT` variable. -/
theorem getter_set (f : FieldDef) (v : GoVal) (hu : Std.isSet f v = true) : getter f v = v := by
  simp [getter, hu]

/-- **isset_optional_default.**  An optional base-typed field with a declared default reports itself set
exactly when it holds a value different (Go `!=`) from the default -- so a value equal to the default is not
written (the wire consequence C02 relies on). -/
theorem isset_optional_default (f : FieldDef) (d v : GoVal) (hd : f.dflt = some d) (hb : f.ty.isBase = true) :
    Std.isSet f v = Std.neDefault f.ty v d := by
  simp [Std.isSet, hd, hb]

/-- Without a declared default, or for a container or struct-like field, `IsSet<F>()` is the generated nil test
(`p.F != nil`). -/
theorem isset_pointer (f : FieldDef) (v : GoVal) (h : f.dflt = none ∨ f.ty.isBase = false) :
    Std.isSet f v = !goEq v .nil := by
  rcases h with h | h
  · simp [Std.isSet, h]
  · cases hd : f.dflt <;> simp [Std.isSet, hd, h]

/-- `parser.Category` by its number, the encoding of the tables in `Generated.C06` (Struct, Union, Exception = 13, 14, 15) -/
def catOfCode : Nat → Option Cat
  | 1 => some .bool | 2 => some .i8 | 3 => some .i16 | 4 => some .i32 | 5 => some .i64 | 6 => some .dbl
  | 7 => some .str | 8 => some .bin | 9 => some .map | 10 => some .list | 11 => some .set | 12 => some .enum
  | 13 => some .strct | 14 => some .strct | 15 => some .strct
  | _ => none

def reqOfCode : Nat → Option Req
  | 0 => some .default | 1 => some .required | 2 => some .optional
  | _ => none

def tyOfCat (c : Cat) : ATy := if c.isBase then .base c else .named c none []

/-- resolved `Gen.Ty` of a category, for `supportIsSet` -/
def gtyOfCat : Cat → Ty
  | .bool => .bool | .i8 => .i8 | .i16 => .i16 | .i32 => .i32 | .i64 => .i64 | .dbl => .dbl | .str => .str
  | .bin => .bin | .enum => .enum | .list => .list .bool | .set => .set .bool | .map => .map .bool .bool | .strct => .struct 0

/-- `isConstantInGo`, `needRedirect`, `supportIsSet` agree with golang.IsConstantInGo / NeedRedirect /
SupportIsSet of the repository on every (category, requiredness, has-default) combination. -/
theorem predicate_tables_sound :
    (Generated.C06.isConstTable.all fun (c, b) =>
      match catOfCode c with | some cat => isConstantInGo (tyOfCat cat) == b | none => false) = true ∧
    (Generated.C06.needRedirectTable.all fun (c, r, d, b) =>
      match catOfCode c, reqOfCode r with
      | some cat, some req => needRedirect { name := [], req := req, ty := tyOfCat cat, dflt := if d then some (.int 0) else none } == b
      | _, _ => false) = true ∧
    (Generated.C06.supportIsSetTable.all fun (c, r, b) =>
      match catOfCode c, reqOfCode r with
      | some cat, some req => supportIsSet { id := 1, req := req, ty := gtyOfCat cat, dflt := none } == b
      | _, _ => false) = true := by decide

end Props.C06
