import ThriftVerif.Lib.Diag
import ThriftVerif.Lib.DiagLemmas
import ThriftVerif.Generated.C04
/-
  C04 — invalid input is diagnosed: non-zero exit, message, no output, no crash (DESIGN.md §5.4).
  `cfg` is the regenerated description of the current source (order of the five checks, whether CheckUnions assigns
  hasDefault, the categories ResolveType accepts, whether handlePanic exits non-zero); the theorems are about `run cfg`, so
  `lake build` re-checks them against what the code says on every run.  Every rule theorem says: for every program `p` the
  parser can hand over (`WF`), every file `i` reachable from the main file through includes, every position inside that
  file, the run is rejected (`Rejected` = exits non-zero at a named stage; by `reject_writes_nothing` nothing was persisted).
  It is proved by contradicting one field of `Diag.Valid` (`rejected_of_invalid`).  The regression items at the end are the
  inputs on which /repo failed the property before its repairs; the harness runs the same inputs first.
-/
namespace Props.C04
open Diag Generated.C04

def Rejected (env : Env) (p : Program) : Prop := ∃ s, (run cfg env p).outcome = .reject s

/-- InvokeThriftgo still calls its stages in the order `run` hard-codes, Persist last, and every
stage that can fail is followed by a returning error test. -/
theorem pipeline_order : pipeline = modelPipeline ∧ everyStageGuarded = true := by decide

/-- the repairs the model relies on are still in the source: CheckUnions assigns hasDefault,
CheckFunctions checks argument and throws lists (the throws list of a non-void function seeded with
field 0 `success`), ResolveFunction resolves their defaults, getEnum's recursion is guarded,
handlePanic exits non-zero. -/
theorem code_facts :
    cfg.unionSetsHasDefault = true ∧ functionFieldsChecked = true ∧ functionDefaultsResolved = true ∧
    getEnumGuarded = true ∧ cfg.handlePanicExits = true ∧ throwsCountSuccess = true := by decide

/-- CheckAll still runs all five checks. -/
theorem check_order_complete : ∀ c : CheckFn, c ∈ cfg.checkOrder := by
  intro c; cases c <;> decide

/-- ResolveType accepts typedefs, enums and struct-likes as types and refuses constants and services. -/
theorem type_categories :
    isTypeCat cfg .typedef = true ∧ isTypeCat cfg .enum = true ∧ isTypeCat cfg .struct = true ∧
    isTypeCat cfg .union = true ∧ isTypeCat cfg .exception = true ∧
    isTypeCat cfg .constant = false ∧ isTypeCat cfg .service = false := by decide

/-- The facts about the current source that `Passes.valid` needs (all five checks run, CheckUnions assigns hasDefault,
typedefs are types) enter here, once. -/
theorem rejected_of_invalid {env : Env} {p : Program} (w : WF p) (hpp : env.parsePanics = false)
    {i : Nat} {f : File} (hr : Reach p i) (hf : p.files[i]? = some f) (h : ¬ Valid cfg p i f) : Rejected env p :=
  run_rejected w (.inr ⟨hpp, .inr (.inl fun hp =>
    h (hp.valid check_order_complete code_facts.1 type_categories.1 w hr hf))⟩)

/-- **anywhere_in_graph** (checker rules): a file reachable through includes — at any depth, through
diamonds — that breaks a checker rule makes the run end in a rejection.  (DepthFirstSearch visits
every reachable file: induction over the include graph with the visited-set invariant.) -/
theorem anywhere_in_graph (env : Env) (p : Program) (w : WF p) (hpp : env.parsePanics = false)
    (i : Nat) (f : File) (hr : Reach p i) (hf : p.files[i]? = some f) (c : CheckFn)
    (hv : runCheck cfg c f ≠ none) : Rejected env p :=
  run_rejected w (.inr ⟨hpp, .inr (.inl fun hp =>
    hv (runCheck_of_checkFile ((hp.file w hr).2 f hf) (check_order_complete c)))⟩)

/-- **anywhere_in_graph** (resolver rules): a reachable file on which ResolveAST fails ends the run. -/
theorem anywhere_in_graph_resolve (env : Env) (p : Program) (w : WF p) (hpp : env.parsePanics = false)
    (i : Nat) (hr : Reach p i) (hv : resolveFile cfg p (programTables p) i ≠ .ok) : Rejected env p :=
  run_rejected w (.inr ⟨hpp, .inr (.inl fun hp => hv (hp.file w hr).1)⟩)

/-- two typedefs / constants / struct-likes / services of one file with the same name, whatever lies
before, between and after them -/
theorem dup_global_rejected (env : Env) (p : Program) (w : WF p) (hpp : env.parsePanics = false)
    (i : Nat) (f : File) (hr : Reach p i) (hf : p.files[i]? = some f)
    (x : Name) (a b c : List Name) (h : f.globalNames = a ++ x :: (b ++ x :: c)) : Rejected env p :=
  rejected_of_invalid w hpp hr hf fun V => absurd rfl (pairwise_mid (h ▸ V.globals))

/-- any two symbols of one file with the same name, whatever their kinds, are refused by RegisterNames — this is what
catches a clash with an enum, which CheckGlobals does not look at -/
theorem dup_symbol_rejected (env : Env) (p : Program) (w : WF p) (hpp : env.parsePanics = false)
    (i : Nat) (f : File) (hr : Reach p i) (hf : p.files[i]? = some f)
    (n : Name) (c1 c2 : Cat) (a b r : List (Name × Cat)) (h : f.symbols = a ++ (n, c1) :: (b ++ (n, c2) :: r)) : Rejected env p :=
  rejected_of_invalid w hpp hr hf fun V => absurd rfl (pairwise_mid (h ▸ V.symbols))

theorem dup_field_name_rejected (env : Env) (p : Program) (w : WF p) (hpp : env.parsePanics = false)
    (i : Nat) (f : File) (hr : Reach p i) (hf : p.files[i]? = some f)
    (s : StructLike) (hs : s ∈ f.structLikes) (f1 f2 : Field) (a b c : List Field)
    (h : s.fields = a ++ f1 :: (b ++ f2 :: c)) (hn : f1.name = f2.name) : Rejected env p :=
  rejected_of_invalid w hpp hr hf fun V => (pairwise_mid (h ▸ V.fields s hs)).2 hn

theorem dup_field_id_rejected (env : Env) (p : Program) (w : WF p) (hpp : env.parsePanics = false)
    (i : Nat) (f : File) (hr : Reach p i) (hf : p.files[i]? = some f)
    (s : StructLike) (hs : s ∈ f.structLikes) (f1 f2 : Field) (a b c : List Field)
    (h : s.fields = a ++ f1 :: (b ++ f2 :: c)) (hn : f1.id = f2.id) : Rejected env p :=
  rejected_of_invalid w hpp hr hf fun V => (pairwise_mid (h ▸ V.fields s hs)).1 hn

theorem dup_function_rejected (env : Env) (p : Program) (w : WF p) (hpp : env.parsePanics = false)
    (i : Nat) (f : File) (hr : Reach p i) (hf : p.files[i]? = some f)
    (s : Service) (hs : s ∈ f.services) (g1 g2 : Func) (a b c : List Func)
    (h : s.funcs = a ++ g1 :: (b ++ g2 :: c)) (hn : g1.name = g2.name) : Rejected env p :=
  rejected_of_invalid w hpp hr hf fun V => absurd hn (pairwise_mid (h ▸ V.funcNames s hs))

/-- a duplicated id or name among the arguments of a function, or among its throws entries -/
theorem dup_argument_rejected (env : Env) (p : Program) (w : WF p) (hpp : env.parsePanics = false)
    (i : Nat) (f : File) (hr : Reach p i) (hf : p.files[i]? = some f)
    (s : Service) (hs : s ∈ f.services) (g : Func) (pre post : List Func) (hg : s.funcs = pre ++ g :: post)
    (f1 f2 : Field) (a b c : List Field)
    (h : g.args = a ++ f1 :: (b ++ f2 :: c) ∨ g.throws = a ++ f1 :: (b ++ f2 :: c))
    (hn : f1.id = f2.id ∨ f1.name = f2.name) : Rejected env p :=
  rejected_of_invalid w hpp hr hf fun V =>
    have G := V.funcs s hs g (hg ▸ List.mem_append_right _ List.mem_cons_self)
    have hfg := h.elim (fun h => pairwise_mid (h ▸ G.args)) fun h => pairwise_mid (h ▸ G.throws)
    hn.elim hfg.1 hfg.2

/-- a throws member of a function that returns a value may not reuse the id 0 or the name `success`
of the return value (both sit in the synthesized `<func>_result` struct) — since ef66a8a -/
theorem throws_reuses_success_rejected (env : Env) (p : Program) (w : WF p) (hpp : env.parsePanics = false)
    (i : Nat) (f : File) (hr : Reach p i) (hf : p.files[i]? = some f)
    (s : Service) (hs : s ∈ f.services) (g : Func) (pre post : List Func) (hg : s.funcs = pre ++ g :: post)
    (hv : g.void = false) (t : Field) (a c : List Field) (h : g.throws = a ++ t :: c)
    (hn : t.id = 0 ∨ t.name = successName) : Rejected env p :=
  rejected_of_invalid w hpp hr hf fun V => by
    have ht := (V.funcs s hs g (hg ▸ List.mem_append_right _ List.mem_cons_self)).success t
      (h ▸ List.mem_append_right _ List.mem_cons_self)
    simp only [throwsSeedIds, throwsSeedNames, hv, Bool.false_eq_true, if_false, List.mem_singleton] at ht
    exact hn.elim ht.1 ht.2

theorem dup_enum_value_name_rejected (env : Env) (p : Program) (w : WF p) (hpp : env.parsePanics = false)
    (i : Nat) (f : File) (hr : Reach p i) (hf : p.files[i]? = some f)
    (e : EnumDef) (he : e ∈ f.enums) (n : Name) (v1 v2 : Int) (a b c : List (Name × Int))
    (h : e.values = a ++ (n, v1) :: (b ++ (n, v2) :: c)) : Rejected env p :=
  rejected_of_invalid w hpp hr hf fun V => (pairwise_mid (h ▸ V.enumValues e he)).1 rfl

/-- two values with the same number: refused whether or not their names differ -/
theorem dup_enum_number_rejected (env : Env) (p : Program) (w : WF p) (hpp : env.parsePanics = false)
    (i : Nat) (f : File) (hr : Reach p i) (hf : p.files[i]? = some f)
    (e : EnumDef) (he : e ∈ f.enums) (n1 n2 : Name) (v : Int) (a b c : List (Name × Int))
    (h : e.values = a ++ (n1, v) :: (b ++ (n2, v) :: c)) : Rejected env p :=
  rejected_of_invalid w hpp hr hf fun V => (pairwise_mid (h ▸ V.enumValues e he)).2 rfl

theorem enum_out_of_int32_rejected (env : Env) (p : Program) (w : WF p) (hpp : env.parsePanics = false)
    (i : Nat) (f : File) (hr : Reach p i) (hf : p.files[i]? = some f)
    (e : EnumDef) (he : e ∈ f.enums) (n : Name) (v : Int) (a c : List (Name × Int))
    (h : e.values = a ++ (n, v) :: c) (hv : v < -2147483648 ∨ v > 2147483647) : Rejected env p :=
  rejected_of_invalid w hpp hr hf fun V =>
    V.enumRange e he (n, v) (h ▸ List.mem_append_right _ List.mem_cons_self) hv

theorem oneway_nonvoid_rejected (env : Env) (p : Program) (w : WF p) (hpp : env.parsePanics = false)
    (i : Nat) (f : File) (hr : Reach p i) (hf : p.files[i]? = some f)
    (s : Service) (hs : s ∈ f.services) (g : Func) (a c : List Func)
    (h : s.funcs = a ++ g :: c) (ho : g.oneway = true) (hv : g.void = false) : Rejected env p :=
  rejected_of_invalid w hpp hr hf fun V =>
    Bool.false_ne_true (hv.symm.trans ((V.funcs s hs g (h ▸ List.mem_append_right _ List.mem_cons_self)).oneway ho).1)

theorem oneway_throws_rejected (env : Env) (p : Program) (w : WF p) (hpp : env.parsePanics = false)
    (i : Nat) (f : File) (hr : Reach p i) (hf : p.files[i]? = some f)
    (s : Service) (hs : s ∈ f.services) (g : Func) (a c : List Func)
    (h : s.funcs = a ++ g :: c) (ho : g.oneway = true) (ht : g.throws ≠ []) : Rejected env p :=
  rejected_of_invalid w hpp hr hf fun V =>
    ht ((V.funcs s hs g (h ▸ List.mem_append_right _ List.mem_cons_self)).oneway ho).2

/-- a second defaulted member in a union (the regenerated fact `unionSetsHasDefault` is `true`, see
`code_facts`; /repo 69b2ce1).  For **any requiredness** of the members: the model's `Field` carries none because
CheckUnions only warns about `required` and goes on to the default bookkeeping — `f1`, `f2` range over all members, and the
correspondence compares the real CheckUnions with this on unions whose default-carrying members are
required / optional / plain in every combination (seeded change C04-m9 skipped the bookkeeping for
`required` members). -/
theorem union_second_default_rejected (env : Env) (p : Program) (w : WF p) (hpp : env.parsePanics = false)
    (i : Nat) (f : File) (hr : Reach p i) (hf : p.files[i]? = some f)
    (u : StructLike) (hu : u ∈ f.unions) (f1 f2 : Field) (a b c : List Field)
    (h : u.fields = a ++ f1 :: (b ++ f2 :: c)) (h1 : f1.hasDefault = true) (h2 : f2.hasDefault = true) :
    Rejected env p :=
  rejected_of_invalid w hpp hr hf fun V => absurd ⟨h1, h2⟩ (pairwise_mid (h ▸ V.unionDefault u hu))

/-- what a regression would mean: without the assignment CheckUnions accepts every union -/
theorem union_check_never_fires (c : Cfg) (hnofix : c.unionSetsHasDefault = false) (f : File) : checkUnions c f = none := by
  simp only [checkUnions, hnofix, List.findSome?_eq_none_iff]
  exact fun u _ => unionLoop_never u.fields

/-- a name used as a type, at any type position and at any depth inside containers, that the file
does not define -/
theorem undefined_type_rejected (env : Env) (p : Program) (w : WF p) (hpp : env.parsePanics = false)
    (i : Nat) (f : File) (hr : Reach p i) (hf : p.files[i]? = some f) (tbl : Table) (ht : registerNames f = some tbl)
    (t : Ty) (hsite : TypeSite f t) (n a : Name) (hm : Mentions n t)
    (hs : splitType n = .one a) (hu : tlookup a tbl = none) : Rejected env p :=
  rejected_of_invalid w hpp hr hf fun V => V.types tbl ht t hsite n hm (badRef_undefined hs hu)

/-- `inc.Name` where no include called `inc` defines `Name` as a type (no such include, no such
name, or the name is a constant or a service there) -/
theorem undefined_qualified_type_rejected (env : Env) (p : Program) (w : WF p) (hpp : env.parsePanics = false)
    (i : Nat) (f : File) (hr : Reach p i) (hf : p.files[i]? = some f) (tbl : Table) (ht : registerNames f = some tbl)
    (t : Ty) (hsite : TypeSite f t) (n pre nm : Name) (hm : Mentions n t)
    (hs : splitType n = .two pre nm)
    (hu : ∀ v ∈ incViews (programTables p) f, v.pfx = pre → ∀ c, tlookup nm v.tbl = some c → isTypeCat cfg c = false) : Rejected env p :=
  rejected_of_invalid w hpp hr hf fun V => V.types tbl ht t hsite n hm (badRef_qualified hs hu)

/-- a constant or a service used as a type -/
theorem nontype_symbol_as_type_rejected (env : Env) (p : Program) (w : WF p) (hpp : env.parsePanics = false)
    (i : Nat) (f : File) (hr : Reach p i) (hf : p.files[i]? = some f) (tbl : Table) (ht : registerNames f = some tbl)
    (t : Ty) (hsite : TypeSite f t) (n a : Name) (hm : Mentions n t)
    (hs : splitType n = .one a) (c : Cat) (hc : c = .constant ∨ c = .service) (hu : tlookup a tbl = some c) : Rejected env p :=
  rejected_of_invalid w hpp hr hf fun V => V.types tbl ht t hsite n hm
    (badRef_nontype hs hu (hc.elim (· ▸ type_categories.2.2.2.2.2.1) (· ▸ type_categories.2.2.2.2.2.2)))

/-- `extends` naming something that is not a service of this file / of the include with that prefix -/
theorem unknown_base_service_rejected (env : Env) (p : Program) (w : WF p) (hpp : env.parsePanics = false)
    (i : Nat) (f : File) (hr : Reach p i) (hf : p.files[i]? = some f) (tbl : Table) (ht : registerNames f = some tbl)
    (s : Service) (hs : s ∈ f.services)
    (hb : (∃ a, splitType s.ext = .one a ∧ tlookup a tbl ≠ some .service) ∨
          (∃ pre nm, splitType s.ext = .two pre nm ∧
            ∀ v ∈ incViews (programTables p) f, v.pfx = pre → ∀ c, tlookup nm v.tbl = some c → (c == Cat.service) = false)) : Rejected env p :=
  rejected_of_invalid w hpp hr hf fun V => by
    have hbase := V.bases tbl ht s hs
    rcases hb with ⟨a, h1, h2⟩ | ⟨pre, nm, h1, h2⟩
    · simp [resolveBase, h1, h2] at hbase
    · have := findExt_none (good := fun c => decide (c = Cat.service)) (incViews (programTables p) f) 0
        (fun v hv hp c hc => by simpa using h2 v hv hp c hc)
      simp [resolveBase, h1, this] at hbase

/-- **typedef cycles of any length** (and any other knot): a non-empty set `C` of typedefs of one
file, each written as an alias of a member of `C`.  A cycle `A₁ → A₂ → … → Aₙ → A₁` is the case
`C = [k₁, …, kₙ]`; `n = 1` is `typedef A A`. -/
theorem typedef_cycle_rejected (env : Env) (p : Program) (w : WF p) (hpp : env.parsePanics = false)
    (i : Nat) (f : File) (hr : Reach p i) (hf : p.files[i]? = some f)
    (C : List Nat) (hk : TypedefKnot f C) : Rejected env p :=
  rejected_of_invalid w hpp hr hf fun V => V.noKnot C hk

/-- any identifier — dotted or not — for which the resolver finds no or more than one reading -/
theorem undefined_or_ambiguous_const_rejected (env : Env) (p : Program) (w : WF p) (hpp : env.parsePanics = false)
    (i : Nat) (f : File) (hr : Reach p i) (hf : p.files[i]? = some f) (tbl : Table) (ht : registerNames f = some tbl)
    (ids : List Name) (hsite : IdentSite f ids) (a b : List Name) (id : Name) (hids : ids = a ++ id :: b)
    (hbad : resolveIdent cfg p (programTables p) (enumFuel p) i f id = .undefined ∨
            resolveIdent cfg p (programTables p) (enumFuel p) i f id = .ambiguous) : Rejected env p :=
  rejected_of_invalid w hpp hr hf fun V =>
    have hok := V.idents ids hsite id (hids ▸ List.mem_append_right _ List.mem_cons_self)
    hbad.elim (fun h => nomatch h.symm.trans hok) fun h => nomatch h.symm.trans hok

/-- a plain identifier (no dot, not true/false) in a constant or in the default of a struct-like
field, of an argument or of a throws entry (`IdentSite`) that is not a constant of the file -/
theorem undefined_const_rejected (env : Env) (p : Program) (w : WF p) (hpp : env.parsePanics = false)
    (i : Nat) (f : File) (hr : Reach p i) (hf : p.files[i]? = some f) (tbl : Table) (ht : registerNames f = some tbl)
    (ids : List Name) (hsite : IdentSite f ids) (a b : List Name) (id : Name) (hids : ids = a ++ id :: b)
    (hplain : splitValue id = [[id]]) (hnb : isBoolIdent id = false)
    (hu : tlookup id (tableOf (programTables p) i) ≠ some .constant) : Rejected env p :=
  undefined_or_ambiguous_const_rejected env p w hpp i f hr hf tbl ht ids hsite a b id hids
    (.inl (by rw [resolveIdent_plain hplain hnb, if_neg hu]))

/-- **include cycles of any length**, through the main file or not: some reachable file `i`
includes `k` and `k` leads back to `i` (`k = i`: a file including itself). -/
theorem include_cycle_rejected (env : Env) (p : Program) (w : WF p) (hpp : env.parsePanics = false)
    (i k : Nat) (hr : Reach p i) (e : Edge p i k) (hback : Path p k i) : Rejected env p :=
  run_rejected w (.inr ⟨hpp, .inr (.inl fun hp => hp.acyclic hr e hback)⟩)

/-- the stages that are predicates of `Env`: command line, syntax / missing include, targets, backend
constant typing -/
theorem abstract_stage_rejected (env : Env) (p : Program) (w : WF p)
    (h : env.flagsBad = true ∨
      (env.parsePanics = false ∧ env.syntaxBad = true) ∨
      (env.parsePanics = false ∧ env.backendPanics = false ∧ (env.targetsBad = true ∨ env.backendBad = true))) :
    Rejected env p :=
  run_rejected w (h.imp id fun h => h.elim (fun ⟨hpp, hs⟩ => ⟨hpp, .inl hs⟩) fun ⟨hpp, hbp, hb⟩ =>
    ⟨hpp, .inr (.inr (hb.imp id fun hb => ⟨hbp, hb⟩))⟩)

/-- **reject_writes_nothing**: Generator.Persist is reached only by an accepted run (Persist is the
last call of InvokeThriftgo: `pipeline_order`). -/
theorem reject_writes_nothing (env : Env) (p : Program) :
    ((run cfg env p).persisted = true ↔ (run cfg env p).outcome = .ok) ∧
    (∀ s, (run cfg env p).outcome = .reject s → (run cfg env p).persisted = false) := by
  refine ⟨run_persisted_iff cfg env p, fun s h => ?_⟩
  cases hp : (run cfg env p).persisted with
  | false => rfl
  | true => rw [(run_persisted_iff cfg env p).mp hp] at h; cases h

/-- **no_crash**: no run dies of a Go fatal error (getEnum is guarded since /repo 58e7614).  No
recursion of the pipeline is unbounded: DepthFirstSearch and CircleDetect
(pigeonhole on the visited set / the path), getEnum (pigeonhole on its `seen` set of typedef keys),
ResolveTypedefs (every round that goes on removes a pair). -/
theorem no_crash (env : Env) (p : Program) (w : WF p) : (run cfg env p).outcome ≠ .crash :=
  run_no_crash w

/-- **no_exit0_without_output_partial**: the only way to leave with status 0 and no output is a Go
panic reaching `main.handlePanic` while that function does not exit non-zero.  No modelled stage
produces such a panic; the parser (C03) and the backend are the predicates `parsePanics`,
`backendPanics`. -/
theorem no_exit0_without_output_partial (env : Env) (p : Program)
    (h : cfg.handlePanicExits = true ∨ (env.parsePanics = false ∧ env.backendPanics = false)) :
    (run cfg env p).outcome ≠ .exit0NoOutput := by
  intro he
  have ⟨hx, hpanic⟩ := run_exit0 he
  rcases h with h | ⟨h1, h2⟩
  · exact Bool.false_ne_true (hx.symm.trans h)
  · exact hpanic.elim (fun h' => Bool.false_ne_true (h1.symm.trans h')) fun h' => Bool.false_ne_true (h2.symm.trans h')

/-- **no_exit0_without_output**: `handlePanic` leaves with a non-zero status (/repo 035596c) — regenerated
fact, re-checked on every run — so no run at all, whatever panics in the parser or the backend,
exits 0 without its output. -/
theorem no_exit0_without_output (env : Env) (p : Program) : (run cfg env p).outcome ≠ .exit0NoOutput :=
  no_exit0_without_output_partial env p (Or.inl (by decide))

private def env0 : Env := ⟨false, false, false, false, false, false⟩
private def file0 : File := ⟨[109], [], [], [], [], [], [], [], []⟩

/-- `union U { 1: i32 a = 1, 2: i32 b = 2 }` (accepted before /repo 69b2ce1) -/
def unionRegression : Program :=
  ⟨[{ file0 with unions := [⟨[85], [⟨1, [97], .base, true, []⟩, ⟨2, [98], .base, true, []⟩]⟩] }], 0⟩

theorem union_second_default_regression : (run cfg env0 unionRegression).outcome = .reject .check := by decide

/-- `typedef B A  typedef A B  const i32 x = A.foo` (getEnum overflowed the stack before /repo 58e7614) -/
def typedefCycleIdentRegression : Program :=
  ⟨[{ file0 with typedefs := [⟨[65], .ref [66]⟩, ⟨[66], .ref [65]⟩], consts := [⟨[120], .base, [[65, 46, 102]]⟩] }], 0⟩

theorem typedef_cycle_ident_regression : (run cfg env0 typedefCycleIdentRegression).outcome = .reject .resolve := by decide

/-- `service S { void f(1: i32 a, 1: i32 a) throws (1: … e, 1: … e) }` (accepted before /repo 0b3502e) -/
def dupArgRegression : Program :=
  ⟨[{ file0 with services := [⟨[83], [], [⟨[102], false, true, .base,
      [⟨1, [97], .base, false, []⟩, ⟨1, [97], .base, false, []⟩],
      [⟨1, [101], .base, false, []⟩, ⟨1, [101], .base, false, []⟩]⟩]⟩] }], 0⟩

theorem dup_argument_regression : (run cfg env0 dupArgRegression).outcome = .reject .check := by decide

/-- `service S { void f(1: i32 a = NoSuchConst) }` (before /repo 4fd3a1e the default was not resolved and the backend died of a nil dereference) -/
def argDefaultRegression : Program :=
  ⟨[{ file0 with services := [⟨[83], [], [⟨[102], false, true, .base,
      [⟨1, [97], .base, true, [[78, 111]]⟩], []⟩]⟩] }], 0⟩

theorem argument_default_regression : (run cfg env0 argDefaultRegression).outcome = .reject .resolve := by decide

/-- `i32 g() throws (1: … success)` and `i32 h() throws (0: … e)` are rejected; the same members in a
void function and in an argument list stay accepted -/
def successThrowsRegression (void : Bool) (id : Int) (nm : Name) : Program :=
  ⟨[{ file0 with services := [⟨[83], [], [⟨[103], false, void, .base, [⟨0, successName, .base, false, []⟩],
      [⟨id, nm, .base, false, []⟩]⟩]⟩] }], 0⟩

theorem throws_reuses_success_regression :
    (run cfg env0 (successThrowsRegression false 1 successName)).outcome = .reject .check ∧
    (run cfg env0 (successThrowsRegression false 0 [101])).outcome = .reject .check ∧
    (run cfg env0 (successThrowsRegression true 1 successName)).outcome = .ok ∧
    (run cfg env0 (successThrowsRegression true 0 [101])).outcome = .ok ∧
    (run cfg env0 (successThrowsRegression false 1 [101])).outcome = .ok := by decide

/-- `m: include "a.b.thrift" include "a.thrift" const i32 x = a.b.c`, `a.b.thrift: const i32 c = 1`,
`a.thrift: enum b { c }` — the identifier has two readings (constant `c` of include `a.b`, value `c` of
enum `b` of include `a`): both are counted, whatever reading comes first (seeded change C04-m4 stopped
after the first reading that resolved). -/
def ambiguousMain : File :=
  { file0 with
      includes := [⟨[97, 46, 98, 46, 116, 104, 114, 105, 102, 116], 1⟩, ⟨[97, 46, 116, 104, 114, 105, 102, 116], 2⟩],
      consts := [⟨[120], .base, [[97, 46, 98, 46, 99]]⟩] }

def ambiguousDottedInclude : Program :=
  ⟨[ambiguousMain,
    { file0 with filename := [97, 46, 98], consts := [⟨[99], .base, []⟩] },
    { file0 with filename := [97], enums := [⟨[98], [([99], 0)]⟩] }], 0⟩

theorem ambiguous_dotted_include_regression :
    resolveIdent cfg ambiguousDottedInclude (programTables ambiguousDottedInclude) (enumFuel ambiguousDottedInclude) 0
      ambiguousMain [97, 46, 98, 46, 99] = .ambiguous ∧
    (run cfg env0 ambiguousDottedInclude).outcome = .reject .resolve := by decide

/-! ## the hypotheses are satisfiable -/

example : WF typedefCycleIdentRegression := (wfb_iff _).mp (by decide)
example : TypedefKnot ⟨[109], [], [⟨[65], .ref [66]⟩, ⟨[66], .ref [67]⟩, ⟨[67], .ref [65]⟩], [], [], [], [], [], []⟩ [0, 1, 2] :=
  ⟨by decide, fun k hk => by
    simp only [List.mem_cons, List.not_mem_nil, or_false] at hk
    rcases hk with rfl | rfl | rfl
    · exact ⟨_, [66], rfl, rfl, by decide, 1, by decide, by decide⟩
    · exact ⟨_, [67], rfl, rfl, by decide, 2, by decide, by decide⟩
    · exact ⟨_, [65], rfl, rfl, by decide, 0, by decide, by decide⟩⟩
example : Reach typedefCycleIdentRegression 0 := .refl 0

end Props.C04
