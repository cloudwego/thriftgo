/-
  C17 — dumping an AST to IDL text and parsing it back gives the same IDL (DESIGN.md §5.17).
  The models are `Lib/Dump.lean` (writer, reader-side token classes) and `Lib/DumpTree.lean` (`recurseDump`).
  All statements are about the constants regenerated from dump.go (`Generated.C17.cfg`).
-/
import ThriftVerif.Lib.DumpLemmas
import ThriftVerif.Lib.DumpNumLemmas
import ThriftVerif.Lib.DumpReadLemmas
import ThriftVerif.Lib.DumpTreeLemmas
import ThriftVerif.Generated.C17

namespace Props.C17
open Dump

abbrev cfg := Generated.C17.cfg

/-- the regenerated constants of dump.go are the ones the lemmas were proved for -/
theorem generated_cfg_is_std : Generated.C17.cfg = Dump.stdCfg := by decide

/-- the writer appends its arguments as they are: no escaping, no whole-buffer post-pass -/
theorem writer_plain (s : Bytes) (ff : Nat → Bytes) (f : File) : ws cfg s = s ∧ dump cfg ff f = dumpBuffer cfg ff f :=
  ⟨rfl, rfl⟩

/-- regression for the defects `type-annotation:26` (`&` in a type annotation re-read as `&amp;`) and
    `idl:typedef list<i32> cpp_type "a" a` (`cpp_type` dropped) of docs/C17.md: the text of
    `i32 (a = "&")` is `i32(a = "&")`; `cpp_type` is written (list: after `>`, map/set: after the keyword). -/
theorem type_annotation_escaped_once :
    typeName cfg (.mk [105, 51, 50] none none [] [⟨[97], [[38]]⟩]) = [105, 51, 50, 40, 97, 32, 61, 32, 34, 38, 34, 41]
    ∧ typeName cfg (.mk [108, 105, 115, 116] none (some (.mk [105, 51, 50] none none [] [])) [97] [])
        = [108, 105, 115, 116, 60, 105, 51, 50, 62, 32, 99, 112, 112, 95, 116, 121, 112, 101, 32, 34, 97, 34]
    ∧ typeName cfg (.mk [115, 101, 116] none (some (.mk [105, 51, 50] none none [] [])) [97] [])
        = [115, 101, 116, 32, 99, 112, 112, 95, 116, 121, 112, 101, 32, 34, 97, 34, 60, 105, 51, 50, 62] := by
  decide

/-- literal_roundtrip: the text `quoteLiteral` writes for `v` lexes as a `Literal` whatever follows it, and
    `pegText` returns `v` — for every `Representable v` (not ending in a backslash; for one of the two quote
    kinds, no quote preceded by an odd number of backslashes). -/
theorem literal_roundtrip (v rest : Bytes) (h : Representable v = true) :
    readLiteral (dumpLiteral cfg v ++ rest) = some (v, rest) := by
  rw [show cfg = stdCfg from generated_cfg_is_std]; exact readLiteral_quoteVal v rest h

/-- literal_roundtrip for everything the parser can read (FULL): whatever text the `Literal` rule captures
    between q…q (q = `"` or `'`), the value `pegText` makes of it is written back by `quoteLiteral` as a
    literal that reads as the same value. -/
theorem literal_roundtrip_parsed (q : Nat) (hq : q = 34 ∨ q = 39) (raw r0 : Bytes)
    (hlex : lexBody q (raw ++ q :: r0) = some (raw, r0)) (rest : Bytes) :
    readLiteral (dumpLiteral cfg (pegText q raw) ++ rest) = some (pegText q raw, rest) :=
  literal_roundtrip _ rest (pegText_representable q hq _ raw r0 hlex)

/-- regression for the four `literal:` defects of docs/C17.md: `a\"b`, `##34;`, `#OUTQUOTES`, `#OUTQUOTES#` are
    Representable and are written `'a\"b'`, `"##34;"`, `"#OUTQUOTES"`, `"#OUTQUOTES#"`; a value ending in a
    backslash (which no literal can denote) is not Representable, nor is `\"\'` (odd run before both quote kinds). -/
theorem literal_roundtrip_iff_safe_witnesses :
    (Representable [97, 92, 34, 98] = true ∧ dumpLiteral cfg [97, 92, 34, 98] = [39, 97, 92, 34, 98, 39])
    ∧ (Representable [35, 35, 51, 52, 59] = true ∧ dumpLiteral cfg [35, 35, 51, 52, 59] = [34, 35, 35, 51, 52, 59, 34])
    ∧ (Representable [35, 79, 85, 84, 81, 85, 79, 84, 69, 83] = true
        ∧ dumpLiteral cfg [35, 79, 85, 84, 81, 85, 79, 84, 69, 83] = [34, 35, 79, 85, 84, 81, 85, 79, 84, 69, 83, 34])
    ∧ Representable [35, 79, 85, 84, 81, 85, 79, 84, 69, 83, 35] = true
    ∧ Representable [97, 92] = false ∧ Representable [92, 34, 92, 39] = false := by
  decide

/-- annotation_roundtrip: the `k = v` pairs written by printAnnotation (one per value, keys repeated),
    regrouped by `Annotations.Append` in reading order, give back the list — for every list with
    pairwise distinct keys and non-empty value lists (what the parser builds). -/
theorem annotation_roundtrip (l : List Ann) (h : WFAnn l) : annRegroup (annFlatten l) = l :=
  regroup_flatten l h

example : WFAnn [⟨[97], [[49], [51]]⟩, ⟨[98], [[50]]⟩] := by
  refine ⟨by decide, ?_⟩
  intro a ha
  simp at ha
  rcases ha with rfl | rfl <;> simp

/-- numeric_roundtrip (integers): `%d` of any int64, followed by anything that cannot continue a number,
    is read by DoubleConstant / IntConstant + ParseInt(·, 0, 64) as the same integer. -/
theorem numeric_roundtrip_int (pf : Bytes → Nat) (i : Int) (hlo : -9223372036854775808 ≤ i) (hhi : i < 9223372036854775808)
    (rest : Bytes) (hs : Sep rest) : readNumber pf (fmtInt i ++ rest) = (.int i, rest) :=
  readNumber_fmtInt pf i hlo hhi rest hs

example : Sep [44, 32] ∧ Sep [] ∧ Sep [93] ∧ Sep [10] := by simp [Dump.Sep, isDigit]

/-
  numeric_roundtrip (doubles).  `ff`/`pf` stand for strconv.FormatFloat(·,'f',-1,64) / ParseFloat(·,64) on
  IEEE bit patterns.  The writer appends ".0" to FormatFloat's text when it has no '.' (`dblText`).  Assumed
  (shortest round trip): FormatFloat's text has the shape sign? digits ('.' digits)? with canonical integer
  part, and ParseFloat of the written text gives the value back.  Then the written text is always read by
  DoubleConstant as the double `b` again (never as an integer literal).
-/
theorem numeric_roundtrip_double (ff : Nat → Bytes) (pf : Bytes → Nat) (b : Nat) (sh : FShape (ff b))
    (hrt : pf (dblText (ff b)) = b) (rest : Bytes) (hs : SepD rest) :
    readNumber pf (dblText (ff b) ++ rest) = (.dbl b, rest) := by
  obtain ⟨sh', hfp⟩ := fshape_dblText sh
  rw [readNumber_fshape_frac pf _ sh' hfp rest hs, hrt]

/-- regression for the defect `idl:const i32 a = 9223372036854775808.0` of docs/C17.md (the integral double 2^63):
    the text written, `9223372036854776000.0`, is read as a double; the bare digits are a `ParseInt` range error -/
example : (readNumber (fun _ => 7) (dblText [57, 50, 50, 51, 51, 55, 50, 48, 51, 54, 56, 53, 52, 55, 55, 54, 48, 48, 48])).1 = Num.dbl 7
    ∧ (readNumber (fun _ => 7) [57, 50, 50, 51, 51, 55, 50, 48, 51, 54, 56, 53, 52, 55, 55, 54, 48, 48, 48]).1 = Num.err := by
  decide

/-- annotation_roundtrip on the text: the dumped annotation list — `(k = "v", …)`, one pair per value — is
    read by the `Annotations` rule + `parseAnnotations` as the same list (keys grouped again, order kept),
    for lists as the parser builds them (distinct keys, no empty value list, Representable values). -/
theorem annotation_text_roundtrip (l : List Ann) (hne : l ≠ []) (hwf : WFAnn l) (hok : AnnsOK l) (rest : Bytes) :
    readAnnotations (dumpAnnotations cfg l ++ rest) = some (l, skipIndent rest) := by
  rw [show cfg = stdCfg from generated_cfg_is_std, dumpAnnotations_final l hwf.2]
  exact readAnnotations_final l hne hwf hok.pairs rest

/-- constvalue_roundtrip: every constant value (all six kinds, nested) whose literals are Representable,
    whose integers fit int64, whose identifiers are identifiers and whose doubles satisfy the
    FormatFloat/ParseFloat assumptions (`GoodCV`) is read back from its dumped text as itself. -/
theorem constvalue_roundtrip (ff : Nat → Bytes) (pf : Bytes → Nat) (cv : CV) (hg : GoodCV ff pf cv)
    (rest : Bytes) (ht : Term rest) (f : Nat) (hf : cvSize cv ≤ f) :
    readCV pf f (dumpCV cfg ff cv ++ rest) = some (cv, skipIndent rest) := by
  rw [show cfg = stdCfg from generated_cfg_is_std, dumpCV, printCV_final, readCV_final ff pf cv hg rest ht f hf,
    reread_id]

/-- the hypotheses are satisfiable: `{"a\"b": [1, -2], x.Y: '\"'}`-like value -/
example : GoodCV (fun _ => []) (fun _ => 0) (.map [(.lit [97, 34, 98], .list [.int 1, .int (-2)]), (.ident [120, 46, 89], .lit [92, 34])]) := by
  simp only [GoodCV, GoodPairs, GoodItems, and_true]
  refine ⟨by decide, ⟨⟨by omega, by omega⟩, by omega, by omega⟩, ⟨120, [46, 89], rfl, by decide, by decide⟩, by decide⟩

/-
  dump_parse (FULL statement, not proved: the reader of whole files is C03's model, not built here):
    ∀ f accepted, walk (peg (dump f)) = ok f' ∧ f' ≃ f on every definition, name, type expression, id,
    requiredness, default, enum value, annotation list, include, namespace, cpp_include.
  The defects found against it are listed in docs/C17.md (argument defaults/annotations dropped, type annotations
  escaped twice, cpp_type dropped, throws separator, 2^63 doubles, placeholder text, `\"`); the model is of the
  repaired writer.
-/
/-- dump_parse (partial): the tail of a constant or field definition as the dumper writes it — the value
    followed by the annotation list — is read back as that value followed by that annotation list.
    Covered by theorem: constant values of all six kinds (nested), annotation lists, literals (all the parser can
    read), numbers and their concatenation.  Covered by correspondence + oracle only: includes, namespaces,
    cpp_include, typedef, const, enum, struct/union/exception and service/function layouts, type expressions, comments. -/
theorem dump_parse_partial (ff : Nat → Bytes) (pf : Bytes → Nat) (cv : CV) (l : List Ann)
    (hg : GoodCV ff pf cv) (hne : l ≠ []) (hwf : WFAnn l) (hok : AnnsOK l)
    (rest : Bytes) (f : Nat) (hf : cvSize cv ≤ f) :
    ∃ r1, readCV pf f ((printCV cfg ff cv ++ printAnnotation cfg l) ++ rest) = some (cv, r1)
      ∧ readAnnotations r1 = some (l, skipIndent rest) := by
  -- the value is followed by the `(` of the annotation list
  have ht : Term (printAnnotation cfg l ++ rest) := by
    cases l with
    | nil => exact absurd rfl hne
    | cons a r => exact Or.inr (Or.inr (Or.inr (Or.inr (Or.inr (Or.inr rfl)))))
  rw [List.append_assoc]
  exact ⟨_, constvalue_roundtrip ff pf cv hg _ ht f hf,
    (readAnnotations_blank.indent _).trans (annotation_text_roundtrip l hne hwf hok rest)⟩

/-- dump_accepted (partial): the dumped text of a good value is accepted by the reader model.  Acceptance of
    whole files by the parser and by the semantic checker is judged by the oracle only. -/
theorem dump_accepted_partial (ff : Nat → Bytes) (pf : Bytes → Nat) (cv : CV) (hg : GoodCV ff pf cv)
    (rest : Bytes) (ht : Term rest) : (readCV pf (cvSize cv) (dumpCV cfg ff cv ++ rest)).isSome = true := by
  rw [constvalue_roundtrip ff pf cv hg rest ht _ (Nat.le_refl _)]; rfl

/-- tree_dump_exactly_once: for an include structure in which a file has the same includes wherever it
    occurs (`Consistent`; include cycles are rejected before), `recurseDump` from the main file writes
    every reachable file, writes nothing else, and writes no file twice. -/
theorem tree_dump_exactly_once (root : DumpTree.Node) (hcons : DumpTree.Consistent root) :
    (∀ t ∈ DumpTree.occ root, t.id ∈ DumpTree.rd root [])
    ∧ (∀ a ∈ DumpTree.rd root [], ∃ t ∈ DumpTree.occ root, t.id = a)
    ∧ (DumpTree.rd root []).Nodup := by
  refine ⟨fun t ht => ?_, fun a ha => ?_, (DumpTree.rd_run.1 root []).nodup List.nodup_nil⟩
  · exact DumpTree.complete_node root hcons root (fun t h => h) ((DumpTree.rd_run.1 root []).roots root (by simp)) t ht
  · rcases (DumpTree.rd_run.1 root []).new a ha with h | ⟨l, hl, _⟩
    · simp at h
    · exact ⟨_, hl, rfl⟩

/-- main includes a, b; a includes common; b includes common, extra (ids 0,1,2,3,4): the code writes all five;
    a loop that stops at the first already-written include (seeded change C17-m6) never writes `extra`. -/
theorem tree_dump_break_witness :
    let common := DumpTree.Node.mk 3 []
    let root := DumpTree.Node.mk 0 [.mk 1 [common], .mk 2 [common, .mk 4 []]]
    DumpTree.rd root [] = [0, 1, 3, 2, 4] ∧ DumpTree.rdBreak root [] = [0, 1, 3, 2] := by
  decide

end Props.C17
