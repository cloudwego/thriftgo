/-
  Core/InsSort: insertion sort.  The models sort with their own copies (`Fast.insertField`/`sortPairs`,
  `Determinism.insertBy`/`sortedBy`, the proof-side `Fast.insertW`/`sortW`); `InsSort le ins srt` says that a pair of
  functions is one (all four laws hold by `rfl`), and the facts are proved here once.
-/

universe u

structure InsSort {α : Type u} (le : α → α → Prop) [DecidableRel le] (ins : α → List α → List α) (srt : List α → List α) : Prop where
  ins_nil : ∀ x, ins x [] = [x]
  ins_cons : ∀ x y r, ins x (y :: r) = if le x y then x :: y :: r else y :: ins x r
  srt_nil : srt [] = []
  srt_cons : ∀ x r, srt (x :: r) = ins x (srt r)

namespace InsSort
variable {α : Type u} {le : α → α → Prop} [DecidableRel le] {ins : α → List α → List α} {srt : List α → List α}

theorem ins_perm (h : InsSort le ins srt) (x : α) : ∀ l, (ins x l).Perm (x :: l)
  | [] => by rw [h.ins_nil]
  | y :: r => by
    rw [h.ins_cons]
    by_cases hle : le x y
    · rw [if_pos hle]
    · rw [if_neg hle]; exact ((h.ins_perm x r).cons y).trans (List.Perm.swap x y r)

theorem srt_perm (h : InsSort le ins srt) : ∀ l, (srt l).Perm l
  | [] => by rw [h.srt_nil]
  | x :: r => by rw [h.srt_cons]; exact (h.ins_perm x _).trans ((h.srt_perm r).cons x)

theorem ins_head (h : InsSort le ins srt) {y : α} {l : List α} (hy : ∀ z ∈ l, le y z) : ins y l = y :: l := by
  cases l with
  | nil => exact h.ins_nil y
  | cons z r => rw [h.ins_cons, if_pos (hy z List.mem_cons_self)]

theorem srt_of_sorted (h : InsSort le ins srt) : ∀ l, l.Pairwise le → srt l = l
  | [], _ => h.srt_nil
  | x :: r, hs => by
    rw [List.pairwise_cons] at hs
    rw [h.srt_cons, h.srt_of_sorted r hs.2, h.ins_head hs.1]

theorem ins_sorted (h : InsSort le ins srt) (total : ∀ a b, ¬ le a b → le b a) (trans : ∀ a b c, le a b → le b c → le a c)
    (x : α) : ∀ l, l.Pairwise le → (ins x l).Pairwise le
  | [], _ => by rw [h.ins_nil]; exact List.pairwise_singleton _ _
  | y :: r, hs => by
    have hs' := List.pairwise_cons.mp hs
    rw [h.ins_cons]
    by_cases hle : le x y
    · rw [if_pos hle]
      refine List.pairwise_cons.mpr ⟨fun z hz => ?_, hs⟩
      rcases List.mem_cons.mp hz with rfl | hz
      · exact hle
      · exact trans _ _ _ hle (hs'.1 z hz)
    · rw [if_neg hle]
      refine List.pairwise_cons.mpr ⟨fun z hz => ?_, h.ins_sorted total trans x r hs'.2⟩
      rcases List.mem_cons.mp ((h.ins_perm x r).mem_iff.mp hz) with rfl | hz
      · exact total _ _ hle
      · exact hs'.1 z hz

theorem srt_sorted (h : InsSort le ins srt) (total : ∀ a b, ¬ le a b → le b a) (trans : ∀ a b c, le a b → le b c → le a c) :
    ∀ l, (srt l).Pairwise le
  | [] => by rw [h.srt_nil]; exact List.Pairwise.nil
  | x :: r => by rw [h.srt_cons]; exact h.ins_sorted total trans x _ (h.srt_sorted total trans r)

end InsSort
