/-
  Core/Assoc: a Go map kept as an association list.  Each model has its own first-match lookup and its own
  "rewrite the first entry with this key, else append one" update, differing in argument order, in which of the
  two equal keys is stored back and in what is written (`m[k] = v`, `m[k] += v`).  `IsGet get` / `IsUpd f put`
  say that `get` / `put` is such a function; for a model's definition the three laws hold by
  `⟨fun _ => rfl, fun _ _ _ => if_pos rfl, fun _ _ => (if_neg ·)⟩`.  The facts are proved here, once.
-/
import ThriftVerif.Core.ListLemmas

namespace Assoc
universe u v
variable {K : Type u} {V : Type v} [DecidableEq K]

structure IsGet (get : K → List (K × V) → Option V) : Prop where
  nil : ∀ k, get k [] = none
  hit : ∀ k b r, get k ((k, b) :: r) = some b
  miss : ∀ {k a} b r, a ≠ k → get k ((a, b) :: r) = get k r

structure IsUpd (f : Option V → V) (put : K → List (K × V) → List (K × V)) : Prop where
  nil : ∀ k, put k [] = [(k, f none)]
  hit : ∀ k b r, put k ((k, b) :: r) = (k, f (some b)) :: r
  miss : ∀ {k a} b r, a ≠ k → put k ((a, b) :: r) = (a, b) :: put k r

namespace IsGet
variable {get : K → List (K × V) → Option V} (hg : IsGet get)
include hg

theorem cons (k a : K) (b : V) (r : List (K × V)) : get k ((a, b) :: r) = if a = k then some b else get k r := by
  by_cases h : a = k
  · rw [if_pos h, ← h, hg.hit]
  · rw [if_neg h, hg.miss _ _ h]

theorem eq_find (k : K) (m : List (K × V)) : get k m = (m.find? (·.1 = k)).map (·.2) := by
  induction m with
  | nil => exact hg.nil k
  | cons e r ih =>
    rw [hg.cons, List.find?_cons]
    by_cases h : e.1 = k
    · simp [h]
    · simp [h, ih]

theorem mem {k : K} {v : V} {m : List (K × V)} (h : get k m = some v) : (k, v) ∈ m := by
  rw [hg.eq_find, Option.map_eq_some_iff] at h
  obtain ⟨⟨a, b⟩, hf, rfl⟩ := h
  have := List.find?_some hf
  exact (of_decide_eq_true this : a = k) ▸ List.mem_of_find?_eq_some hf

theorem eq_none_iff {k : K} {m : List (K × V)} : get k m = none ↔ k ∉ m.map (·.1) := by
  induction m with
  | nil => simp [hg.nil]
  | cons e r ih =>
    rw [hg.cons]
    by_cases h : e.1 = k
    · simp [h]
    · simp [h, ih, Ne.symm h]

theorem ne_none_iff {k : K} {m : List (K × V)} : get k m ≠ none ↔ k ∈ m.map (·.1) := by
  rw [Ne, hg.eq_none_iff, Decidable.not_not]

theorem of_mem_unique {k : K} {v : V} {m : List (K × V)} (hf : ∀ v', (k, v') ∈ m → v' = v) (h : (k, v) ∈ m) :
    get k m = some v := by
  cases hk : get k m with
  | none => exact absurd (List.mem_map_of_mem (f := (·.1)) h) (hg.eq_none_iff.1 hk)
  | some v' => rw [hf v' (hg.mem hk)]

theorem eq_some_iff_of_functional {k : K} {v : V} {m : List (K × V)} (hf : ∀ v v', (k, v) ∈ m → (k, v') ∈ m → v = v') :
    get k m = some v ↔ (k, v) ∈ m :=
  ⟨hg.mem, fun h => hg.of_mem_unique (fun v' h' => hf v' v h' h) h⟩

theorem of_mem {k : K} {v : V} {m : List (K × V)} (hn : (m.map (·.1)).Nodup) (h : (k, v) ∈ m) : get k m = some v :=
  hg.of_mem_unique (fun _ h' => congrArg Prod.snd (List.inj_of_nodup_map (·.1) hn h' h rfl)) h

theorem eq_some_iff {k : K} {v : V} {m : List (K × V)} (hn : (m.map (·.1)).Nodup) : get k m = some v ↔ (k, v) ∈ m :=
  ⟨hg.mem, hg.of_mem hn⟩

theorem perm {m m' : List (K × V)} (hp : m'.Perm m) (hn : (m.map (·.1)).Nodup) (k : K) : get k m' = get k m :=
  Option.ext fun v => by
    rw [hg.eq_some_iff hn, hg.eq_some_iff ((hp.map (·.1)).nodup_iff.2 hn), hp.mem_iff]

theorem map {α : Type} (key : α → K) (val : α → V) (xs : List α) (k : K) :
    get k (xs.map fun x => (key x, val x)) = (xs.find? (key · = k)).map val := by
  rw [hg.eq_find, List.find?_map, Option.map_map]; rfl

variable {f : Option V → V} {put : K → List (K × V) → List (K × V)} (hu : IsUpd f put)
include hu

theorem get_upd (k k' : K) (m : List (K × V)) : get k' (put k m) = if k = k' then some (f (get k m)) else get k' m := by
  induction m with
  | nil => rw [hu.nil, hg.cons, hg.nil, hg.nil]
  | cons e r ih =>
    obtain ⟨a, b⟩ := e
    by_cases hk : a = k
    · subst hk
      rw [hu.hit, hg.cons, hg.hit, hg.cons]
      split <;> rfl
    · rw [hu.miss _ _ hk, hg.cons, ih, hg.miss _ _ hk, hg.cons]
      by_cases h : a = k'
      · rw [if_pos h, if_pos h, if_neg (h ▸ Ne.symm hk)]
      · rw [if_neg h, if_neg h]

theorem upd_same (k : K) (m : List (K × V)) : get k (put k m) = some (f (get k m)) := by
  rw [hg.get_upd hu, if_pos rfl]

theorem upd_other {k k' : K} (m : List (K × V)) (h : k' ≠ k) : get k' (put k m) = get k' m := by
  rw [hg.get_upd hu, if_neg h.symm]

theorem keys_upd (k : K) (m : List (K × V)) : (put k m).map (·.1) = if get k m = none then m.map (·.1) ++ [k] else m.map (·.1) := by
  induction m with
  | nil => rw [hu.nil, hg.nil]; rfl
  | cons e r ih =>
    obtain ⟨a, b⟩ := e
    by_cases hk : a = k
    · subst hk
      rw [hu.hit, hg.hit, if_neg nofun]
      rfl
    · rw [hu.miss _ _ hk, hg.miss _ _ hk, List.map_cons, ih, List.map_cons,
        apply_ite (List.cons a)]; rfl

theorem keys_upd_nodup (k : K) {m : List (K × V)} (h : (m.map (·.1)).Nodup) : ((put k m).map (·.1)).Nodup := by
  rw [hg.keys_upd hu]
  split
  · rename_i hnone
    refine List.nodup_append.2 ⟨h, List.nodup_cons.2 ⟨List.not_mem_nil, List.nodup_nil⟩, fun a ha b hb hab => ?_⟩
    rw [hab, List.mem_singleton.1 hb] at ha
    exact hg.eq_none_iff.1 hnone ha
  · exact h

end IsGet

theorem find_get : IsGet fun k (m : List (K × V)) => (m.find? (·.1 = k)).map (·.2) :=
  ⟨fun _ => rfl, fun _ _ _ => by simp, fun _ _ h => by simp [h]⟩

namespace IsUpd
variable {f : Option V → V} {put : K → List (K × V) → List (K × V)} (hu : IsUpd f put)
include hu

omit [DecidableEq K] in
theorem of_not_mem {k : K} {m : List (K × V)} (h : k ∉ m.map (·.1)) : put k m = m ++ [(k, f none)] := by
  induction m with
  | nil => exact hu.nil k
  | cons e r ih =>
    rw [List.map_cons, List.mem_cons, not_or] at h
    rw [hu.miss _ _ (Ne.symm h.1), ih h.2]; rfl

theorem mem {k : K} {e : K × V} {m : List (K × V)} (h : e ∈ put k m) : e ∈ m ∨ ∃ o, e = (k, f o) := by
  induction m with
  | nil => exact Or.inr ⟨none, List.mem_singleton.1 (hu.nil k ▸ h)⟩
  | cons e' r ih =>
    obtain ⟨a, b⟩ := e'
    by_cases hk : a = k
    · subst hk
      rw [hu.hit] at h
      exact (List.mem_cons.1 h).elim (fun h => Or.inr ⟨_, h⟩) fun h => Or.inl (List.mem_cons_of_mem _ h)
    · rw [hu.miss _ _ hk] at h
      exact (List.mem_cons.1 h).elim (fun h => Or.inl (h ▸ List.mem_cons_self)) fun h =>
        (ih h).imp_left (List.mem_cons_of_mem _)

end IsUpd
end Assoc
