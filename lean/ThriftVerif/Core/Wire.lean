import ThriftVerif.Core.VL
/-
  Core/Wire: the Thrift binary protocol on untyped wire values.
-/

namespace Wire

inductive TType | bool | i8 | dbl | i16 | i32 | i64 | str | struct | map | set | list
  deriving DecidableEq, Repr, Inhabited

def TType.code : TType → Nat
  | .bool => 2 | .i8 => 3 | .dbl => 4 | .i16 => 6 | .i32 => 8 | .i64 => 10
  | .str => 11 | .struct => 12 | .map => 13 | .set => 14 | .list => 15

def TType.ofCode (n : Nat) : Option TType :=
  if n = 2 then some .bool else if n = 3 then some .i8 else if n = 4 then some .dbl
  else if n = 6 then some .i16 else if n = 8 then some .i32 else if n = 10 then some .i64
  else if n = 11 then some .str else if n = 12 then some .struct else if n = 13 then some .map
  else if n = 14 then some .set else if n = 15 then some .list else none

theorem TType.ofCode_code (t : TType) : TType.ofCode t.code = some t := by cases t <;> rfl

theorem TType.code_of_ofCode {n : Nat} {t : TType} (h : TType.ofCode n = some t) : t.code = n := by
  revert h
  fun_cases TType.ofCode n
  -- 12: the final `else none`
  case case12 => nofun
  all_goals
    intro h
    cases h
    exact Eq.symm ‹_›
theorem TType.code_pos (t : TType) : 0 < t.code := by cases t <;> decide
theorem TType.code_lt (t : TType) : t.code < 256 := by cases t <;> decide

/-- integers are carried as unsigned bit patterns of their width -/
inductive WVal
  | bool (b : Bool)
  | i8 (v : Nat) | dbl (bits : Nat) | i16 (v : Nat) | i32 (v : Nat) | i64 (v : Nat)
  | bin (bs : Bytes)
  | struct (fs : List (Nat × WVal))
  | map (kt vt : TType) (kvs : List (WVal × WVal))
  | set (et : TType) (xs : List WVal)
  | list (et : TType) (xs : List WVal)
  deriving Repr, Inhabited

def WVal.ttype : WVal → TType
  | .bool _ => .bool | .i8 _ => .i8 | .dbl _ => .dbl | .i16 _ => .i16 | .i32 _ => .i32
  | .i64 _ => .i64 | .bin _ => .str | .struct _ => .struct | .map .. => .map
  | .set .. => .set | .list .. => .list

/-- n bytes, big endian, of v mod 256^n -/
def be : Nat → Nat → Bytes
  | 0, _ => []
  | n+1, v => be n (v / 256) ++ [v % 256]

def unbe (bs : Bytes) : Nat := bs.foldl (fun a b => a * 256 + b) 0

theorem be_length (n v : Nat) : (be n v).length = n := by
  induction n generalizing v with
  | zero => rfl
  | succ n ih => simp [be, ih]

theorem unbe_append (a : Bytes) (b : Nat) : unbe (a ++ [b]) = unbe a * 256 + b := by
  simp [unbe, List.foldl_append]

theorem unbe_be (n v : Nat) (h : v < 256 ^ n) : unbe (be n v) = v := by
  induction n generalizing v with
  | zero => simp [be, unbe]; omega
  | succ n ih =>
    rw [be, unbe_append, ih (v / 256)]
    · omega
    · rw [Nat.pow_succ] at h; omega

def readN (n : Nat) (bs : Bytes) : Option (Nat × Bytes) :=
  if bs.length < n then none else some (unbe (bs.take n), bs.drop n)

theorem readN_be (n v : Nat) (r : Bytes) (h : v < 256 ^ n) : readN n (be n v ++ r) = some (v, r) := by
  have hl := be_length n v
  unfold readN
  have : ¬ (be n v ++ r).length < n := by simp [hl]
  simp only [this, if_false]
  rw [List.take_left' hl, List.drop_left' hl, unbe_be n v h]

def readBytes (n : Nat) (bs : Bytes) : Option (Bytes × Bytes) :=
  if bs.length < n then none else some (bs.take n, bs.drop n)

mutual
def encW : WVal → Bytes
  | .bool b => [if b then 1 else 0]
  | .i8 v => be 1 v
  | .dbl v => be 8 v
  | .i16 v => be 2 v
  | .i32 v => be 4 v
  | .i64 v => be 8 v
  | .bin bs => be 4 bs.length ++ bs
  | .struct fs => encFields fs ++ [0]
  | .map kt vt kvs => [kt.code, vt.code] ++ be 4 kvs.length ++ encPairs kvs
  | .set et xs => [et.code] ++ be 4 xs.length ++ encList xs
  | .list et xs => [et.code] ++ be 4 xs.length ++ encList xs
def encFields : List (Nat × WVal) → Bytes
  | [] => []
  | (id, v) :: r => [v.ttype.code] ++ be 2 id ++ encW v ++ encFields r
def encPairs : List (WVal × WVal) → Bytes
  | [] => []
  | (k, v) :: r => encW k ++ encW v ++ encPairs r
def encList : List WVal → Bytes
  | [] => []
  | x :: r => encW x ++ encList r
end

mutual
def WVal.depth : WVal → Nat
  | .struct fs => depthFields fs + 1
  | .map _ _ kvs => depthPairs kvs + 1
  | .set _ xs => depthList xs + 1
  | .list _ xs => depthList xs + 1
  | _ => 1
def depthFields : List (Nat × WVal) → Nat
  | [] => 0
  | (_, v) :: r => max v.depth (depthFields r)
def depthPairs : List (WVal × WVal) → Nat
  | [] => 0
  | (k, v) :: r => max (max k.depth v.depth) (depthPairs r)
def depthList : List WVal → Nat
  | [] => 0
  | x :: r => max x.depth (depthList r)
end

def maxSize : Nat := 2147483648  -- sizes are int32 ≥ 0

mutual
def WF : WVal → Prop
  | .bool _ => True
  | .i8 v => v < 256 ^ 1
  | .dbl v => v < 256 ^ 8
  | .i16 v => v < 256 ^ 2
  | .i32 v => v < 256 ^ 4
  | .i64 v => v < 256 ^ 8
  | .bin bs => bs.length < maxSize
  | .struct fs => WFFields fs
  | .map kt vt kvs => kvs.length < maxSize ∧ WFPairs kt vt kvs
  | .set et xs => xs.length < maxSize ∧ WFList et xs
  | .list et xs => xs.length < maxSize ∧ WFList et xs
def WFFields : List (Nat × WVal) → Prop
  | [] => True
  | (id, v) :: r => id < 256 ^ 2 ∧ WF v ∧ WFFields r
def WFPairs (kt vt : TType) : List (WVal × WVal) → Prop
  | [] => True
  | (k, v) :: r => k.ttype = kt ∧ v.ttype = vt ∧ WF k ∧ WF v ∧ WFPairs kt vt r
def WFList (et : TType) : List WVal → Prop
  | [] => True
  | x :: r => x.ttype = et ∧ WF x ∧ WFList et r
end

/-! decoder: fuel = nesting depth; element loops are structural on the announced count,
the field loop on a gas bounded by the input length -/

def decListWith (d : Bytes → Option (WVal × Bytes)) : Nat → Bytes → Option (List WVal × Bytes)
  | 0, bs => some ([], bs)
  | n+1, bs => match d bs with
    | none => none
    | some (x, r) => match decListWith d n r with
      | none => none
      | some (xs, r') => some (x :: xs, r')

def decPairsWith (dk dv : Bytes → Option (WVal × Bytes)) : Nat → Bytes → Option (List (WVal × WVal) × Bytes)
  | 0, bs => some ([], bs)
  | n+1, bs => match dk bs with
    | none => none
    | some (k, r) => match dv r with
      | none => none
      | some (v, r') => match decPairsWith dk dv n r' with
        | none => none
        | some (kvs, r'') => some ((k, v) :: kvs, r'')

def decFieldsWith (d : TType → Bytes → Option (WVal × Bytes)) : Nat → Bytes → Option (List (Nat × WVal) × Bytes)
  | 0, _ => none
  | _, [] => none
  | g+1, c :: bs =>
    if c = 0 then some ([], bs) else
    match TType.ofCode c with
    | none => none
    | some t => match readN 2 bs with
      | none => none
      | some (id, r) => match d t r with
        | none => none
        | some (v, r') => match decFieldsWith d g r' with
          | none => none
          | some (fs, r'') => some ((id, v) :: fs, r'')

def decW : Nat → TType → Bytes → Option (WVal × Bytes)
  | 0, _, _ => none
  | f+1, t, bs =>
    match t with
    | .bool => match readN 1 bs with | none => none | some (x, r) => some (.bool (x == 1), r)
    | .i8 => match readN 1 bs with | none => none | some (x, r) => some (.i8 x, r)
    | .dbl => match readN 8 bs with | none => none | some (x, r) => some (.dbl x, r)
    | .i16 => match readN 2 bs with | none => none | some (x, r) => some (.i16 x, r)
    | .i32 => match readN 4 bs with | none => none | some (x, r) => some (.i32 x, r)
    | .i64 => match readN 8 bs with | none => none | some (x, r) => some (.i64 x, r)
    | .str => match readN 4 bs with
      | none => none
      | some (n, r) => if n ≥ maxSize then none else
        match readBytes n r with | none => none | some (b, r') => some (.bin b, r')
    | .struct => match decFieldsWith (decW f) (bs.length + 1) bs with
      | none => none
      | some (fs, r) => some (.struct fs, r)
    | .map => match bs with
      | kc :: vc :: r => match TType.ofCode kc, TType.ofCode vc with
        | some kt, some vt => match readN 4 r with
          | none => none
          | some (n, r') => if n ≥ maxSize then none else
            match decPairsWith (decW f kt) (decW f vt) n r' with
            | none => none
            | some (kvs, r'') => some (.map kt vt kvs, r'')
        | _, _ => none
      | _ => none
    | .set => match bs with
      | ec :: r => match TType.ofCode ec with
        | some et => match readN 4 r with
          | none => none
          | some (n, r') => if n ≥ maxSize then none else
            match decListWith (decW f et) n r' with
            | none => none
            | some (xs, r'') => some (.set et xs, r'')
        | none => none
      | _ => none
    | .list => match bs with
      | ec :: r => match TType.ofCode ec with
        | some et => match readN 4 r with
          | none => none
          | some (n, r') => if n ≥ maxSize then none else
            match decListWith (decW f et) n r' with
            | none => none
            | some (xs, r'') => some (.list et xs, r'')
        | none => none
      | _ => none

end Wire
