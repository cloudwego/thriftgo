import ThriftVerif.Core.Wire
/-
  Core/WireLemmas: the binary protocol on untyped wire values. The round trip (well-formed value, fuel ≥ its depth) goes by
  recursion on the value. `AppOK`, that a decoder's result does not depend on what follows the bytes it consumed, has no value
  to recurse on and goes by induction on the fuel.
-/
namespace Wire

theorem pow256 : (256:Nat)^1 = 2^8 ∧ (256:Nat)^2 = 2^16 ∧ (256:Nat)^4 = 2^32 ∧ (256:Nat)^8 = 2^64 :=
  ⟨rfl, rfl, rfl, rfl⟩

theorem encFields_length (fs : List (Nat × WVal)) : fs.length ≤ (encFields fs).length := by
  induction fs with
  | nil => simp [encFields]
  | cons a r ih => obtain ⟨id, v⟩ := a; simp [encFields]; omega

theorem readBytes_exact (bs r : Bytes) : readBytes bs.length (bs ++ r) = some (bs, r) := by
  unfold readBytes
  simp [List.take_left', List.drop_left']

theorem readN_one (c : Nat) (r : Bytes) : readN 1 (c :: r) = some (c, r) := by
  simp [readN, unbe]

theorem size_ok {n : Nat} (h : n < maxSize) : n < 256 ^ 4 ∧ ¬ n ≥ maxSize := by
  have := pow256.2.2.1
  simp only [maxSize] at h ⊢
  omega

theorem readN_some {n : Nat} {bs : Bytes} {x : Nat} {r : Bytes} (h : readN n bs = some (x, r)) :
    n ≤ bs.length ∧ x = unbe (bs.take n) ∧ r = bs.drop n := by
  simp only [readN, Option.ite_none_left_eq_some, Option.some.injEq, Prod.mk.injEq] at h
  exact ⟨Nat.le_of_not_lt h.1, h.2.1.symm, h.2.2.symm⟩

theorem readBytes_some {n : Nat} {bs b r : Bytes} (h : readBytes n bs = some (b, r)) :
    n ≤ bs.length ∧ b = bs.take n ∧ r = bs.drop n := by
  simp only [readBytes, Option.ite_none_left_eq_some, Option.some.injEq, Prod.mk.injEq] at h
  exact ⟨Nat.le_of_not_lt h.1, h.2.1.symm, h.2.2.symm⟩

theorem readN_append (n : Nat) (bs y : Bytes) (x : Nat) (r : Bytes) (h : readN n bs = some (x, r)) :
    readN n (bs ++ y) = some (x, r ++ y) := by
  obtain ⟨hn, rfl, rfl⟩ := readN_some h
  have hl : n ≤ (bs ++ y).length := List.length_append ▸ Nat.le_add_right_of_le hn
  rw [readN, if_neg (Nat.not_lt.mpr hl), List.take_append_of_le_length hn, List.drop_append_of_le_length hn]

theorem readBytes_append (n : Nat) (bs y b r : Bytes) (h : readBytes n bs = some (b, r)) :
    readBytes n (bs ++ y) = some (b, r ++ y) := by
  obtain ⟨hn, rfl, rfl⟩ := readBytes_some h
  have hl : n ≤ (bs ++ y).length := List.length_append ▸ Nat.le_add_right_of_le hn
  rw [readBytes, if_neg (Nat.not_lt.mpr hl), List.take_append_of_le_length hn, List.drop_append_of_le_length hn]

mutual
theorem decW_encW (w : WVal) : ∀ (f : Nat) (r : Bytes), WF w → w.depth ≤ f →
    decW f w.ttype (encW w ++ r) = some (w, r) := by
  intro f r hwf hd
  cases f with
  | zero => cases w <;> simp [WVal.depth] at hd
  | succ f =>
    cases w with
    | bool b => cases b <;> simp [decW, WVal.ttype, encW, readN_one]
    | i8 v | dbl v | i16 v | i32 v | i64 v =>
      simp only [decW, WVal.ttype, encW, readN_be _ v r hwf]
    | bin bs =>
      obtain ⟨h4, hn⟩ := size_ok hwf
      simp only [decW, WVal.ttype, encW, List.append_assoc, readN_be 4 bs.length (bs ++ r) h4, hn, if_false,
        readBytes_exact]
    | struct fs =>
      -- the field loop's gas is the input length + 1; every field takes at least a byte
      have hg : fs.length < (encFields fs ++ 0 :: r).length + 1 := by
        have := encFields_length fs
        rw [List.length_append]
        omega
      simp only [decW, WVal.ttype, encW, List.append_assoc, List.singleton_append,
        decFields_enc fs f _ r hwf (Nat.le_of_succ_le_succ hd) hg]
    | map kt vt kvs =>
      obtain ⟨h4, hn⟩ := size_ok hwf.1
      simp only [decW, WVal.ttype, encW, List.append_assoc, List.cons_append, List.nil_append,
        TType.ofCode_code, readN_be 4 kvs.length _ h4, hn, if_false,
        decPairs_enc kvs f kt vt r hwf.2 (Nat.le_of_succ_le_succ hd)]
    | set et xs | list et xs =>
      obtain ⟨h4, hn⟩ := size_ok hwf.1
      simp only [decW, WVal.ttype, encW, List.append_assoc, List.cons_append, List.nil_append,
        TType.ofCode_code, readN_be 4 xs.length _ h4, hn, if_false,
        decList_enc xs f et r hwf.2 (Nat.le_of_succ_le_succ hd)]

theorem decFields_enc (fs : List (Nat × WVal)) : ∀ (f g : Nat) (r : Bytes), WFFields fs → depthFields fs ≤ f →
    fs.length < g → decFieldsWith (decW f) g (encFields fs ++ 0 :: r) = some (fs, r) := by
  intro f g r hwf hd hg
  cases g with
  | zero => nomatch hg
  | succ g =>
    cases fs with
    | nil => simp [encFields, decFieldsWith]
    | cons x rest =>
      obtain ⟨id, v⟩ := x
      obtain ⟨hid, hwv, hwr⟩ := hwf
      obtain ⟨hdv, hdr⟩ := Nat.max_le.mp hd
      simp only [encFields, List.append_assoc, List.cons_append, List.nil_append, decFieldsWith,
        Nat.pos_iff_ne_zero.mp (TType.code_pos v.ttype), if_false, TType.ofCode_code, readN_be 2 id _ hid,
        decW_encW v f (encFields rest ++ 0 :: r) hwv hdv,
        decFields_enc rest f g r hwr hdr (Nat.lt_of_succ_lt_succ hg)]

theorem decPairs_enc (kvs : List (WVal × WVal)) : ∀ (f : Nat) (kt vt : TType) (r : Bytes), WFPairs kt vt kvs →
    depthPairs kvs ≤ f →
    decPairsWith (decW f kt) (decW f vt) kvs.length (encPairs kvs ++ r) = some (kvs, r) := by
  intro f kt vt r hwf hd
  cases kvs with
  | nil => rfl
  | cons x rest =>
    obtain ⟨k, v⟩ := x
    obtain ⟨rfl, rfl, hwk, hwv, hwr⟩ := hwf
    obtain ⟨hdkv, hdr⟩ := Nat.max_le.mp hd
    obtain ⟨hdk, hdv⟩ := Nat.max_le.mp hdkv
    simp only [encPairs, List.append_assoc, List.length_cons, decPairsWith,
      decW_encW k f (encW v ++ (encPairs rest ++ r)) hwk hdk, decW_encW v f (encPairs rest ++ r) hwv hdv,
      decPairs_enc rest f _ _ r hwr hdr]

theorem decList_enc (xs : List WVal) : ∀ (f : Nat) (et : TType) (r : Bytes), WFList et xs → depthList xs ≤ f →
    decListWith (decW f et) xs.length (encList xs ++ r) = some (xs, r) := by
  intro f et r hwf hd
  cases xs with
  | nil => rfl
  | cons x rest =>
    obtain ⟨rfl, hwx, hwr⟩ := hwf
    obtain ⟨hdx, hdr⟩ := Nat.max_le.mp hd
    simp only [encList, List.append_assoc, List.length_cons, decListWith,
      decW_encW x f (encList rest ++ r) hwx hdx, decList_enc rest f _ r hwr hdr]
end

theorem decListWith_succ {d : Bytes → Option (WVal × Bytes)} {n : Nat} {bs : Bytes} {xs : List WVal} {r : Bytes}
    (h : decListWith d (n + 1) bs = some (xs, r)) :
    ∃ x r1 xs', d bs = some (x, r1) ∧ decListWith d n r1 = some (xs', r) ∧ xs = x :: xs' := by
  simp only [decListWith] at h
  split at h
  · cases h
  rename_i x r1 hd
  split at h
  · cases h
  rename_i xs' r' hrec
  cases h
  exact ⟨x, r1, xs', hd, hrec, rfl⟩

theorem decPairsWith_succ {dk dv : Bytes → Option (WVal × Bytes)} {n : Nat} {bs : Bytes} {kvs : List (WVal × WVal)}
    {r : Bytes} (h : decPairsWith dk dv (n + 1) bs = some (kvs, r)) :
    ∃ k r1 v r2 kvs', dk bs = some (k, r1) ∧ dv r1 = some (v, r2) ∧ decPairsWith dk dv n r2 = some (kvs', r) ∧
      kvs = (k, v) :: kvs' := by
  simp only [decPairsWith] at h
  split at h
  · cases h
  rename_i k r1 hk
  split at h
  · cases h
  rename_i v r2 hv
  split at h
  · cases h
  rename_i kvs' r' hrec
  cases h
  exact ⟨k, r1, v, r2, kvs', hk, hv, hrec, rfl⟩

theorem decFieldsWith_succ {d : TType → Bytes → Option (WVal × Bytes)} {g c : Nat} {bs : Bytes}
    {fs : List (Nat × WVal)} {r : Bytes} (h : decFieldsWith d (g + 1) (c :: bs) = some (fs, r)) (hc : ¬ c = 0) :
    ∃ t id r1 v r2 fs', TType.ofCode c = some t ∧ readN 2 bs = some (id, r1) ∧ d t r1 = some (v, r2) ∧
      decFieldsWith d g r2 = some (fs', r) ∧ fs = (id, v) :: fs' := by
  simp only [decFieldsWith, if_neg hc] at h
  split at h
  · cases h
  rename_i t ht
  split at h
  · cases h
  rename_i id r1 hid
  split at h
  · cases h
  rename_i v r2 hv
  split at h
  · cases h
  rename_i fs' r' hrec
  cases h
  exact ⟨t, id, r1, v, r2, fs', ht, hid, hv, hrec, rfl⟩

theorem decW_nil (d : Nat) (t : TType) : decW d t [] = none := by
  cases d with
  | zero => rfl
  | succ d => cases t <;> simp [decW, readN, decFieldsWith]

theorem decW_ne_nil (d : Nat) (t : TType) (bs : Bytes) (w : WVal) (r : Bytes) (h : decW d t bs = some (w, r)) : bs ≠ [] := by
  intro e; subst e; rw [decW_nil] at h; cases h

theorem decW_fuel_pos (d : Nat) (t : TType) (bs : Bytes) (w : WVal) (r : Bytes) (h : decW d t bs = some (w, r)) : 0 < d := by
  cases d with
  | zero => simp [decW] at h
  | succ d => omega

/-- the fixed-size types: how many bytes, and the value made of the number they spell -/
def fixW : TType → Option (Nat × (Nat → WVal))
  | .bool => some (1, fun x => .bool (x == 1))
  | .i8 => some (1, .i8)
  | .dbl => some (8, .dbl)
  | .i16 => some (2, .i16)
  | .i32 => some (4, .i32)
  | .i64 => some (8, .i64)
  | _ => none

section
variable {d : Nat} {bs : Bytes} {w : WVal} {r : Bytes}

theorem decW_fix_some {t : TType} {n : Nat} {mk : Nat → WVal} (ht : fixW t = some (n, mk))
    (h : decW d t bs = some (w, r)) : ∃ x, readN n bs = some (x, r) ∧ w = mk x := by
  cases d
  · cases h
  cases t
  all_goals cases ht
  all_goals
    dsimp only [decW] at h
    split at h
    · cases h
    rename_i x r1 h1
    cases h
    exact ⟨x, h1, rfl⟩

theorem decW_str_some (h : decW (d + 1) .str bs = some (w, r)) :
    ∃ n r1 b, readN 4 bs = some (n, r1) ∧ ¬ n ≥ maxSize ∧ readBytes n r1 = some (b, r) ∧ w = .bin b := by
  simp only [decW] at h
  split at h
  · cases h
  rename_i n r1 h1
  split at h
  · cases h
  rename_i hn
  split at h
  · cases h
  rename_i b r2 h2
  cases h
  exact ⟨n, r1, b, h1, hn, h2, rfl⟩

theorem decW_struct_some (h : decW (d + 1) .struct bs = some (w, r)) :
    ∃ fs, decFieldsWith (decW d) (bs.length + 1) bs = some (fs, r) ∧ w = .struct fs := by
  simp only [decW] at h
  split at h
  · cases h
  rename_i fs r1 h1
  cases h
  exact ⟨fs, h1, rfl⟩

theorem decW_map_some (h : decW (d + 1) .map bs = some (w, r)) :
    ∃ kc vc r0 kt vt n r1 kvs, bs = kc :: vc :: r0 ∧ TType.ofCode kc = some kt ∧ TType.ofCode vc = some vt ∧
      readN 4 r0 = some (n, r1) ∧ ¬ n ≥ maxSize ∧ decPairsWith (decW d kt) (decW d vt) n r1 = some (kvs, r) ∧
      w = .map kt vt kvs := by
  simp only [decW] at h
  split at h
  case h_2 => cases h
  rename_i kc vc r0
  split at h
  case h_2 => cases h
  rename_i kt vt hk hv
  split at h
  · cases h
  rename_i n r1 h1
  split at h
  · cases h
  rename_i hn
  split at h
  · cases h
  rename_i kvs r2 h2
  cases h
  exact ⟨kc, vc, r0, kt, vt, n, r1, kvs, rfl, hk, hv, h1, hn, h2, rfl⟩

theorem decW_seq_some {t : TType} (ht : t = .set ∨ t = .list)
    (h : decW (d + 1) t bs = some (w, r)) :
    ∃ ec r0 et n r1 xs, bs = ec :: r0 ∧ TType.ofCode ec = some et ∧ readN 4 r0 = some (n, r1) ∧ ¬ n ≥ maxSize ∧
      decListWith (decW d et) n r1 = some (xs, r) ∧ w = (if t = .set then WVal.set et xs else .list et xs) := by
  rcases ht with rfl | rfl
  all_goals
    simp only [decW] at h
    split at h
    case h_2 => cases h
    rename_i ec r0
    split at h
    case h_2 => cases h
    rename_i et he
    split at h
    · cases h
    rename_i n r1 h1
    split at h
    · cases h
    rename_i hn
    split at h
    · cases h
    rename_i xs r2 h2
    cases h
    exact ⟨ec, r0, et, n, r1, xs, rfl, he, h1, hn, h2, rfl⟩

end

def AppOK {α} (d : Bytes → Option (α × Bytes)) : Prop :=
  ∀ bs x r y, d bs = some (x, r) → d (bs ++ y) = some (x, r ++ y)

theorem decListWith_append (d : Bytes → Option (WVal × Bytes)) (hd : AppOK d) :
    ∀ n, AppOK (decListWith d n) := by
  intro n
  induction n with
  | zero => intro bs x r y h; cases h; rfl
  | succ n ih =>
    intro bs x r y h
    obtain ⟨a, r1, xs, h1, h2, rfl⟩ := decListWith_succ h
    simp only [decListWith, hd bs a r1 y h1, ih r1 xs r y h2]

theorem decPairsWith_append (dk dv : Bytes → Option (WVal × Bytes)) (hk : AppOK dk) (hv : AppOK dv) :
    ∀ n, AppOK (decPairsWith dk dv n) := by
  intro n
  induction n with
  | zero => intro bs x r y h; cases h; rfl
  | succ n ih =>
    intro bs x r y h
    obtain ⟨a, r1, b, r2, xs, h1, h2, h3, rfl⟩ := decPairsWith_succ h
    simp only [decPairsWith, hk bs a r1 y h1, hv r1 b r2 y h2, ih r2 xs r y h3]

/-- the gas grows with the input: `decW` gives the loop the length of what it reads, plus one -/
theorem decFieldsWith_append (d : TType → Bytes → Option (WVal × Bytes)) (hd : ∀ t, AppOK (d t)) (g : Nat) (bs : Bytes) :
    ∀ fs r y k, decFieldsWith d g bs = some (fs, r) → decFieldsWith d (g + k) (bs ++ y) = some (fs, r ++ y) := by
  fun_induction decFieldsWith d g bs
  -- cases of decFieldsWith: no gas; no input; STOP; no such type; no id; value fails; rest fails; field and rest decoded
  case case3 =>
    intro _ _ y k h
    cases h
    simp only [Nat.succ_add, decFieldsWith, List.cons_append, if_true]
  case case8 ih =>
    intro _ _ y k h
    cases h
    simp only [Nat.succ_add, decFieldsWith, List.cons_append, readN_append 2 _ y _ _ ‹_›, hd _ _ _ _ y ‹_›, ih _ _ y k ‹_›,
      if_false, *]
  all_goals exact fun _ _ _ _ h => nomatch h

theorem decW_append : ∀ (f : Nat) (t : TType), AppOK (decW f t) := by
  intro f
  induction f with
  | zero => intro t bs x r y h; simp [decW] at h
  | succ f ih =>
    intro t bs x r y h
    cases t with
    | bool | i8 | dbl | i16 | i32 | i64 =>
      obtain ⟨a, h1, rfl⟩ := decW_fix_some rfl h
      simp only [decW, readN_append _ bs y a r h1]
    | str =>
      obtain ⟨n, r1, b, h1, hn, h2, rfl⟩ := decW_str_some h
      simp only [decW, readN_append 4 bs y n r1 h1, if_neg hn, readBytes_append n r1 y b r h2]
    | struct =>
      obtain ⟨fs, h1, rfl⟩ := decW_struct_some h
      have h2 := decFieldsWith_append (decW f) ih _ bs fs r y y.length h1
      rw [Nat.add_right_comm, ← List.length_append] at h2
      simp only [decW, h2]
    | map =>
      obtain ⟨kc, vc, r0, kt, vt, n, r1, kvs, rfl, hk, hv, h1, hn, h2, rfl⟩ := decW_map_some h
      simp only [decW, List.cons_append, hk, hv, readN_append 4 r0 y n r1 h1, if_neg hn,
        decPairsWith_append _ _ (ih kt) (ih vt) n r1 kvs r y h2]
    | set | list =>
      obtain ⟨ec, r0, et, n, r1, xs, rfl, he, h1, hn, h2, rfl⟩ := decW_seq_some (by decide) h
      simp only [decW, List.cons_append, he, readN_append 4 r0 y n r1 h1, if_neg hn,
        decListWith_append _ (ih et) n r1 xs r y h2]
      rfl

end Wire
