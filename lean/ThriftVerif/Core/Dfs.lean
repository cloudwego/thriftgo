/-! Depth-first marking of a finite graph given by successor lists: started with enough fuel from a set `M` on
nodes `ns`, it returns `M` plus the least set above `ns` that is closed under successors (`Post`), and more fuel
changes nothing.  `fresh U M`, the number of nodes of `U` not in `M`, is what the fuel has to exceed; the visited-set
recursions of `Lib/Diag` and the typedef chase `Sem.getEnum` bound their fuel by it as well.  `Trim.visit` is the
instance of `dfs`. -/
namespace Dfs
variable {α : Type} [DecidableEq α]

def dfs (succ : α → List α) : Nat → List α → α → List α
  | 0, M, _ => M
  | k+1, M, n => if n ∈ M then M else (succ n).foldl (dfs succ k) (n :: M)

def fresh (U M : List α) : Nat := U.countP (fun n => decide (n ∉ M))

theorem fresh_le (U M : List α) : fresh U M ≤ U.length := List.countP_le_length

theorem fresh_mono (U : List α) {M M' : List α} (h : M ⊆ M') : fresh U M' ≤ fresh U M :=
  List.countP_mono_left fun x _ hx => by
    simp only [decide_eq_true_eq] at *
    exact fun hm => hx (h hm)

theorem fresh_cons_lt {n : α} {M : List α} (hn : n ∉ M) : ∀ {U : List α}, n ∈ U → fresh U (n :: M) < fresh U M := by
  intro U
  induction U with
  | nil => intro h; cases h
  | cons x xs ih =>
    intro h
    unfold fresh at ih ⊢
    rw [List.countP_cons, List.countP_cons]
    by_cases hx : x = n
    · subst hx
      have hle : fresh xs (x :: M) ≤ fresh xs M := fresh_mono xs (List.subset_cons_self _ _)
      unfold fresh at hle
      have h1 : decide (x ∉ x :: M) = false := by simp
      have h2 : decide (x ∉ M) = true := by simp [hn]
      rw [h1, h2]
      simp only [Bool.false_eq_true, if_false, if_true]
      omega
    · have e : decide (x ∉ n :: M) = decide (x ∉ M) := by simp [List.mem_cons, hx]
      have := ih ((List.mem_cons.mp h).resolve_left (fun e => hx e.symm))
      rw [e]
      omega

/-- Nothing is assumed of `M`: the last two clauses speak of the nodes not in `M` only, so they compose along a fold. -/
structure Post (succ : α → List α) (M ns R : List α) : Prop where
  sub : M ⊆ R
  mem : ∀ n ∈ ns, n ∈ R
  closed : ∀ m ∈ R, m ∉ M → ∀ x ∈ succ m, x ∈ R
  least : ∀ Q : α → Prop, (∀ m x, Q m → x ∈ succ m → Q x) → (∀ n ∈ ns, Q n) → ∀ m ∈ R, m ∉ M → Q m

variable {succ : α → List α} {U : List α}

theorem fold_post {k : Nat}
    (hv : ∀ M n, fresh U M < k → n ∈ U → Post succ M [n] (dfs succ k M n) ∧ dfs succ (k + 1) M n = dfs succ k M n) :
    ∀ (ns M : List α), fresh U M < k → (∀ n ∈ ns, n ∈ U) →
      Post succ M ns (ns.foldl (dfs succ k) M) ∧ ns.foldl (dfs succ (k + 1)) M = ns.foldl (dfs succ k) M := by
  intro ns
  induction ns with
  | nil => intro M _ _; exact ⟨⟨fun _ h => h, nofun, fun m hm hnm => absurd hm hnm, fun _ _ _ m hm hnm => absurd hm hnm⟩, rfl⟩
  | cons n ns ih =>
    intro M hk hall
    obtain ⟨v, ve⟩ := hv M n hk (hall n List.mem_cons_self)
    obtain ⟨i, ie⟩ := ih (dfs succ k M n) (Nat.lt_of_le_of_lt (fresh_mono U v.sub) hk)
      (fun x hx => hall x (List.mem_cons_of_mem _ hx))
    rw [List.foldl_cons, List.foldl_cons, ve]
    refine ⟨⟨fun _ h => i.sub (v.sub h), ?_, ?_, ?_⟩, ie⟩
    · intro x hx
      rcases List.mem_cons.mp hx with rfl | hx
      · exact i.sub (v.mem _ List.mem_cons_self)
      · exact i.mem x hx
    · intro m hm hnm x hx
      by_cases hm1 : m ∈ dfs succ k M n
      · exact i.sub (v.closed m hm1 hnm x hx)
      · exact i.closed m hm hm1 x hx
    · intro Q hQ hq m hm hnm
      by_cases hm1 : m ∈ dfs succ k M n
      · exact v.least Q hQ (fun x hx => hq x (by rw [List.mem_singleton.mp hx]; exact List.mem_cons_self)) m hm1 hnm
      · exact i.least Q hQ (fun x hx => hq x (List.mem_cons_of_mem _ hx)) m hm hm1

theorem dfs_post (hU : ∀ m ∈ U, ∀ x ∈ succ m, x ∈ U) : ∀ (k : Nat) (ns M : List α), fresh U M < k → (∀ n ∈ ns, n ∈ U) →
    Post succ M ns (ns.foldl (dfs succ k) M) ∧ ns.foldl (dfs succ (k + 1)) M = ns.foldl (dfs succ k) M := by
  intro k
  induction k with
  | zero => intro _ _ h; omega
  | succ k ih =>
    refine fold_post fun M n hk hn => ?_
    rw [dfs, dfs]
    by_cases hm : n ∈ M
    · rw [if_pos hm, if_pos hm]
      exact ⟨⟨fun _ h => h, fun x hx => by rw [List.mem_singleton.mp hx]; exact hm, fun m h hnm => absurd h hnm,
        fun _ _ _ m h hnm => absurd h hnm⟩, rfl⟩
    · simp only [if_neg hm]
      obtain ⟨f, fe⟩ := ih (succ n) (n :: M) (by have := fresh_cons_lt hm hn; omega) (hU n hn)
      refine ⟨⟨fun _ h => f.sub (List.mem_cons_of_mem _ h), ?_, ?_, ?_⟩, fe⟩
      · intro x hx
        rw [List.mem_singleton.mp hx]
        exact f.sub List.mem_cons_self
      · intro m hmR hnm x hx
        by_cases hmn : m = n
        · subst hmn; exact f.mem x hx
        · exact f.closed m hmR (by simp [List.mem_cons, hmn, hnm]) x hx
      · intro Q hQ hq m hmR hnm
        have hn' : Q n := hq n (List.mem_singleton.mpr rfl)
        by_cases hmn : m = n
        · subst hmn; exact hn'
        · exact f.least Q (hQ) (fun x hx => hQ n x hn' hx) m hmR (by simp [List.mem_cons, hmn, hnm])

end Dfs
