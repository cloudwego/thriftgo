/-
  Core/ListLemmas: facts about core's `List` alone that core lacks, whichever property needs them.
-/

theorem List.inj_of_nodup_map {α β} (f : α → β) {l : List α} (h : (l.map f).Nodup) {a b : α}
    (ha : a ∈ l) (hb : b ∈ l) (e : f a = f b) : a = b :=
  have hp := List.pairwise_map.1 h
  List.Pairwise.forall_of_forall_of_flip (R := fun a b => f a = f b → a = b) (fun _ _ _ => rfl)
    (hp.imp fun hne e => absurd e hne) (hp.imp fun hne e => absurd e.symm hne) ha hb e

theorem List.Nodup.subset_of_length_le {α} {l₁ l₂ : List α} (h₁ : l₁.Nodup) (hsub : l₁ ⊆ l₂)
    (hlen : l₂.length ≤ l₁.length) : l₂ ⊆ l₁ := by
  classical
  intro x hx
  by_cases hx1 : x ∈ l₁
  · exact hx1
  · -- otherwise `x :: l₁` is a longer list without duplicates inside `l₂`
    have := (List.nodup_cons.mpr ⟨hx1, h₁⟩).length_le_of_subset (List.cons_subset.mpr ⟨hx, hsub⟩)
    simp only [List.length_cons] at this
    omega

theorem List.Perm.find?_eq_of_unique {α} {p : α → Bool} {l₁ l₂ : List α} (hp : l₁.Perm l₂)
    (hu : ∀ a b, a ∈ l₁ → b ∈ l₁ → p a = true → p b = true → a = b) :
    l₁.find? p = l₂.find? p := by
  induction hp with
  | nil => rfl
  | cons x _ ih =>
    simp only [List.find?_cons]
    split
    · rfl
    · exact ih (fun a b ha hb => hu a b (List.mem_cons_of_mem _ ha) (List.mem_cons_of_mem _ hb))
  | swap x y l =>
    simp only [List.find?_cons]
    cases hx : p x <;> cases hy : p y <;> simp
    exact hu y x (List.mem_cons_self ..) (List.mem_cons_of_mem _ (List.mem_cons_self ..)) hy hx
  | trans h₁ _ ih₁ ih₂ =>
    rw [ih₁ hu, ih₂ (fun a b ha hb => hu a b (h₁.mem_iff.2 ha) (h₁.mem_iff.2 hb))]

theorem List.append_cons_inj_of_all {α} (p : α → Bool) {l₁ l₂ r₁ r₂ : List α} {a b : α}
    (h₁ : ∀ x ∈ l₁, p x = true) (h₂ : ∀ x ∈ l₂, p x = true) (pa : p a = false) (pb : p b = false)
    (h : l₁ ++ a :: r₁ = l₂ ++ b :: r₂) : l₁ = l₂ ∧ r₁ = r₂ := by
  have key : ∀ {l r : List α} {c : α}, (∀ x ∈ l, p x = true) → p c = false → (l ++ c :: r).takeWhile p = l :=
    fun hl hc => by
      rw [List.takeWhile_append_of_pos hl, List.takeWhile_cons_of_neg (by rw [hc]; nofun), List.append_nil]
  have e : l₁ = l₂ := by rw [← key (r := r₁) h₁ pa, ← key (r := r₂) h₂ pb, h]
  subst e
  exact ⟨rfl, (List.cons.inj (List.append_cancel_left h)).2⟩

theorem List.forall_getElem?_set {α} {P Q : Nat → α → Prop} {l : List α} {k : Nat} {a a' : α}
    (hk : l[k]? = some a) (hP : ∀ j x, l[j]? = some x → P j x)
    (hne : ∀ j x, j ≠ k → P j x → Q j x) (hw : Q k a') :
    ∀ j x, (l.set k a')[j]? = some x → Q j x := by
  intro j x hx
  by_cases hjk : j = k
  · subst hjk
    rw [List.getElem?_set_self', hk] at hx
    exact Option.some.inj hx ▸ hw
  · rw [List.getElem?_set_ne (Ne.symm hjk)] at hx
    exact hne j x hjk (hP j x hx)

theorem List.forall_getElem?_concat {α} {P : Nat → α → Prop} {l : List α} {n : Nat} {a : α}
    (hn : l.length = n) (hP : ∀ j x, l[j]? = some x → P j x) (ha : P n a) :
    ∀ j x, (l ++ [a])[j]? = some x → P j x := by
  intro j x hx
  rcases Nat.lt_trichotomy j l.length with h | rfl | h
  · exact hP j x (by rwa [List.getElem?_append_left h] at hx)
  · rw [List.getElem?_concat_length] at hx
    exact Option.some.inj hx ▸ hn ▸ ha
  · rw [List.getElem?_eq_none (by simp; omega)] at hx
    contradiction

/-- A finite tree as variables: `kids a` the children of `a`, `desc a` its descendants with `a` itself, `m` a measure that falls
    from a node to its children. What holds of the root and passes from every descendant to its children holds of every
    descendant. -/
theorem List.desc_induct {T} {kids desc : T → List T} {m : T → Nat} (lt : ∀ {a r}, r ∈ kids a → m r < m a)
    (mem : ∀ {a t}, t ∈ desc a ↔ t = a ∨ ∃ r ∈ kids a, t ∈ desc r) {P : T → Prop} :
    ∀ a, (∀ b ∈ desc a, P b → ∀ r ∈ kids b, P r) → P a → ∀ d ∈ desc a, P d := by
  intro a
  induction a using (measure m).wf.induction with | _ a ih
  intro step h0 d hd
  rcases mem.mp hd with rfl | ⟨r, hr, hd'⟩
  · exact h0
  · exact ih r (lt hr) (fun b hb => step b (mem.mpr (.inr ⟨r, hr, hb⟩))) (step _ (mem.mpr (.inl rfl)) h0 r hr) d hd'
